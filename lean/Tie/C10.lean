/-
  Tie/C10 — in the scrypt stanza unwrap the work factor is validated (canonical
  decimal, Atoi, not above the identity's maximum) before scrypt.Key is called;
  the configurable bounds are 1..30. Facts regenerated from /repo
  (`Extracted/CallOrder.lean`, `Extracted/Consts.lean`). Positional evidence:
  the work-budget oracle of the correspondence decides the property on its own.
-/
import AgeModel.Extracted.CallOrder
import AgeModel.Extracted.Consts
import Proofs.GoTieScrypt
import Proofs.GoTieScryptCtor
import Proofs.GoTieCliLazy
import Proofs.GoTieCliEncId
import Proofs.GoTieCliModes
import Proofs.GoTieNative
import Props.C01
import Proofs.GoTieWitnessRecip
namespace AgeModel
namespace Tie.C10

/-- the extractor's own verdict (a constant it writes), AND the same fact recomputed here from the event table it
    emits: the source lines of the four events are strictly increasing and `scrypt.Key` occurs once, last -/
theorem checks_precede_kdf :
    Extracted.scryptChecksPrecedeKdf = true ∧
    (Extracted.scryptUnwrapOrder.map (·.2)).Pairwise (· < ·) ∧
    (Extracted.scryptUnwrapOrder.filter (·.1 == "scrypt.Key")).length = 1 ∧
    (Extracted.scryptUnwrapOrder.getLast?.map (·.1)) = some "scrypt.Key" := by decide +kernel

/-- the order itself: regexp, Atoi, comparison with the receiver's field, scrypt.Key -/
theorem unwrap_order : Extracted.scryptUnwrapOrder.map (·.1) =
    ["regexp.MatchString", "strconv.Atoi", "compare work factor with receiver field", "scrypt.Key"] := rfl

/-- both setters accept exactly 1..30 -/
theorem setter_bounds : Extracted.scryptSetterBounds.map (·.2) = [(1, 30), (1, 30)] := rfl

/-- the defaults lie inside the legal range, and what a fresh recipient writes a fresh identity accepts -/
theorem defaults_in_range :
    1 ≤ Extracted.scryptDefaultWorkFactor ∧
    Extracted.scryptDefaultWorkFactor ≤ Extracted.scryptDefaultMaxWorkFactor ∧
    Extracted.scryptDefaultMaxWorkFactor ≤ 30 := by decide


/-! ## The code itself (DESIGN.md §5.3)

`(*ScryptIdentity).unwrap`, `(*ScryptIdentity).Unwrap` and `multiUnwrap` are TRANSLATED
from scrypt.go / age.go on every run; `format.DecodeString`, `scrypt.Key`, `aeadDecrypt`
stay abstract (parameters, bundled with what is assumed of them in `GoTie.ScryptEnv`).
What the translated code answers is what the model answers (so `Props.C10`'s
`scrypt_identity_alone`, `workfactor_guard`, `workfactor_canonical`, `kdf_cost_bounded`
are about the source text), and — the clause about WORK — whenever the model's
key-derivation log is empty the code returns WITHOUT CALLING `scrypt.Key`: it is handed
one that faults when called and still returns normally. -/

theorem scrypt_unwrap_tie (P : Prims) (E : GoTie.ScryptEnv P) (pw : Bytes) (maxWF : Nat) (s : Format.Stanza) :
    ∃ r, Extracted.age_ScryptIdentity_unwrap E.D E.K E.A ⟨pw, Int.ofNat maxWF⟩ (GoTie.toGoStanza s) = .ok r ∧
      GoTie.resClass r = (unwrapScrypt P pw maxWF s).1 :=
  GoTie.scrypt_unwrap_tie P E pw maxWF s

/-- no key derivation unless the model logs one -/
theorem scrypt_unwrap_no_kdf (P : Prims) (E : GoTie.ScryptEnv P) (pw : Bytes) (maxWF : Nat) (s : Format.Stanza)
    (h : (unwrapScrypt P pw maxWF s).2 = []) :
    ∃ r, Extracted.age_ScryptIdentity_unwrap E.D (fun _ _ _ _ _ _ => .error (.panic 99)) E.A ⟨pw, Int.ofNat maxWF⟩
        (GoTie.toGoStanza s) = .ok r ∧
      GoTie.resClass r = (unwrapScrypt P pw maxWF s).1 :=
  GoTie.scrypt_unwrap_no_kdf P E pw maxWF s h

/-- when one is derived, its cost parameter is `2^logN` for the logged `logN ≤ maxWF`, and that is the only call -/
theorem scrypt_unwrap_kdf_args (P : Prims) (E : GoTie.ScryptEnv P) (pw : Bytes) (maxWF : Nat) (s : Format.Stanza)
    (logN : Nat) (h : (unwrapScrypt P pw maxWF s).2 = [logN]) :
    logN ≤ maxWF ∧
    ∀ K', (∀ salt, K' pw salt ((2 : Int) ^ logN) 8 1 32 = E.K pw salt ((2 : Int) ^ logN) 8 1 32) →
      Extracted.age_ScryptIdentity_unwrap E.D K' E.A ⟨pw, Int.ofNat maxWF⟩ (GoTie.toGoStanza s) =
      Extracted.age_ScryptIdentity_unwrap E.D E.K E.A ⟨pw, Int.ofNat maxWF⟩ (GoTie.toGoStanza s) :=
  GoTie.scrypt_unwrap_kdf_args P E pw maxWF s logN h

theorem scrypt_Unwrap_tie (P : Prims) (E : GoTie.ScryptEnv P) (pw : Bytes) (maxWF : Nat) (ss : List Format.Stanza) :
    ∃ r, Extracted.age_ScryptIdentity_Unwrap GoTie.errorsIsEq E.D E.K E.A ⟨pw, Int.ofNat maxWF⟩ (ss.map GoTie.toGoStanza) = .ok r ∧
      GoTie.resClass r = (Identity.unwrapLog P (.scrypt pw maxWF) ss).1 :=
  GoTie.scrypt_Unwrap_tie P E pw maxWF ss

/-- a passphrase stanza that is not alone: refused before anything is decoded, derived or opened
    (all three callees fault when called) -/
theorem scrypt_Unwrap_alone (pw : Bytes) (maxWF : Int) (ss : List Format.Stanza)
    (h : ss.any (fun s => s.type = tScrypt) = true) (hn : ss.length ≠ 1) :
    Extracted.age_ScryptIdentity_Unwrap GoTie.errorsIsEq (fun _ => .error (.panic 97)) (fun _ _ _ _ _ _ => .error (.panic 98))
      (fun _ _ _ => .error (.panic 99)) ⟨pw, maxWF⟩ (ss.map GoTie.toGoStanza) =
      .ok ([], some ⟨"age.(*ScryptIdentity).Unwrap", 0, []⟩) :=
  GoTie.scrypt_Unwrap_alone pw maxWF ss h hn

/-! The constructors and setters of scrypt.go, translated on every run: the passphrase is stored
byte for byte (the empty one is the only one refused), the defaults are 18 and 22, the setters
accept exactly 1 … 30. -/

theorem newScryptRecipient_tie (pw : Bytes) :
    Extracted.age_NewScryptRecipient pw =
      .ok (if pw = [] then (⟨[], 0⟩, some ⟨"age.NewScryptRecipient", 0, []⟩) else (⟨pw, 18⟩, none)) :=
  GoTie.newScryptRecipient_tie pw

theorem newScryptIdentity_tie (pw : Bytes) :
    Extracted.age_NewScryptIdentity pw =
      .ok (if pw = [] then (⟨[], 0⟩, some ⟨"age.NewScryptIdentity", 0, []⟩) else (⟨pw, 22⟩, none)) :=
  GoTie.newScryptIdentity_tie pw

theorem setWorkFactor_tie (r : Extracted.age_ScryptRecipient) (logN : Int) :
    Extracted.age_ScryptRecipient_SetWorkFactor r logN =
      if 1 ≤ logN ∧ logN ≤ 30 then .ok { r with workFactor := logN } else .error (.panic 0) :=
  GoTie.setWorkFactor_tie r logN

theorem setMaxWorkFactor_tie (i : Extracted.age_ScryptIdentity) (logN : Int) :
    Extracted.age_ScryptIdentity_SetMaxWorkFactor i logN =
      if 1 ≤ logN ∧ logN ≤ 30 then .ok { i with maxWorkFactor := logN } else .error (.panic 0) :=
  GoTie.setMaxWorkFactor_tie i logN

/-! cmd/age's own passphrase identity, `(*LazyScryptIdentity).Unwrap` (cmd/age/encrypted_keys.go),
translated down through `NewScryptIdentity` and `(*ScryptIdentity).Unwrap`: it is the model's
`CliIdent.lazyUnwrap` with the default maximum 22 — the passphrase is asked for EXACTLY when the
header is one passphrase stanza (a callback that FAULTS when called is not reached otherwise), a
passphrase stanza that is not alone is refused at once, a wrong passphrase is fatal. -/

theorem lazy_unwrap_tie (P : Prims) (E : GoTie.ScryptEnv P) (eCb : Go.Err) (ask : Option Bytes) (ss : List Format.Stanza) :
    ∃ r, Extracted.main_LazyScryptIdentity_Unwrap GoTie.errorsIsEq E.D E.K E.A ⟨GoTie.cbOf eCb ask⟩ (ss.map GoTie.toGoStanza) = .ok r ∧
      GoTie.resClass r = (CliIdent.lazyUnwrap P ask 22 ss).1 :=
  GoTie.lazy_unwrap_tie P E eCb ask ss

theorem lazy_unwrap_no_prompt (P : Prims) (E : GoTie.ScryptEnv P) (ss : List Format.Stanza)
    (h : (CliIdent.lazyUnwrap P none 22 ss).2 = false) :
    ∃ r, Extracted.main_LazyScryptIdentity_Unwrap GoTie.errorsIsEq E.D E.K E.A ⟨.error (.panic 99)⟩ (ss.map GoTie.toGoStanza) = .ok r ∧
      GoTie.resClass r = (CliIdent.lazyUnwrap P none 22 ss).1 :=
  GoTie.lazy_unwrap_no_prompt P E ss h

/-! cmd/age's passphrase-protected identity file, `(*EncryptedIdentity).Unwrap`, translated (its
`decrypt` and the identities inside are parameters; `identities` is a field whose being nil differs
from being empty): once the identities are cached `decrypt` is not called again — it may fault when
called — so the passphrase is asked for at most once per identity value; a failed `decrypt` is
returned as it is and the inner identities are not consulted; the cached identities are tried in
order (`CliIdent.tryAll`), and the "no match" warning is given exactly when all answer "incorrect
identity". -/

theorem encid_cached_tie (P : Prims) {ι : Type} (idOf : ι → Identity) (U : ι → List Extracted.age_Stanza → Go.M (Bytes × Option Go.Err))
    (hU : GoTie.IdsAre P idOf U) (c : Bytes) (pp : Go.M (Bytes × Option Go.Err)) (ids : List ι) (ss : List Format.Stanza) :
    ∃ r, Extracted.main_EncryptedIdentity_Unwrap (fun _ => .error (.panic 97)) U GoTie.errorsIsEq ⟨c, pp, .ok (), some ids⟩ (ss.map GoTie.toGoStanza) =
        .ok (r.1, r.2, ⟨c, pp, .ok (), some ids⟩) ∧
      GoTie.resClass r = CliIdent.tryAll P ss (ids.map idOf) :=
  GoTie.encid_cached_tie P idOf U hU c pp ids ss

theorem encid_cached_warning (P : Prims) {ι : Type} (idOf : ι → Identity) (U : ι → List Extracted.age_Stanza → Go.M (Bytes × Option Go.Err))
    (hU : GoTie.IdsAre P idOf U) (c : Bytes) (pp : Go.M (Bytes × Option Go.Err)) (ids : List ι) (ss : List Format.Stanza)
    (h : CliIdent.tryAll P ss (ids.map idOf) = .incorrect) :
    Extracted.main_EncryptedIdentity_Unwrap (fun _ => .error (.panic 97)) U GoTie.errorsIsEq ⟨c, pp, .error (.panic 98), some ids⟩ (ss.map GoTie.toGoStanza) =
      .error (.panic 98) :=
  GoTie.encid_cached_warning P idOf U hU c pp ids ss h

theorem encid_cached_no_warning (P : Prims) {ι : Type} (idOf : ι → Identity) (U : ι → List Extracted.age_Stanza → Go.M (Bytes × Option Go.Err))
    (hU : GoTie.IdsAre P idOf U) (c : Bytes) (pp : Go.M (Bytes × Option Go.Err)) (ids : List ι) (ss : List Format.Stanza)
    (h : CliIdent.tryAll P ss (ids.map idOf) ≠ .incorrect) :
    ∃ r, Extracted.main_EncryptedIdentity_Unwrap (fun _ => .error (.panic 97)) U GoTie.errorsIsEq ⟨c, pp, .error (.panic 98), some ids⟩ (ss.map GoTie.toGoStanza) =
        .ok (r.1, r.2, ⟨c, pp, .error (.panic 98), some ids⟩) ∧
      GoTie.resClass r = CliIdent.tryAll P ss (ids.map idOf) :=
  GoTie.encid_cached_no_warning P idOf U hU c pp ids ss h

theorem encid_fresh_ok {ι : Type} (U : ι → List Extracted.age_Stanza → Go.M (Bytes × Option Go.Err))
    (Dc : Extracted.main_EncryptedIdentity ι → Go.M (Option Go.Err × Extracted.main_EncryptedIdentity ι))
    (i i' : Extracted.main_EncryptedIdentity ι) (hi : i.identities = none) (hD : Dc i = .ok (none, i'))
    (ids : List ι) (hi' : i'.identities = some ids) (ss : List Extracted.age_Stanza) :
    Extracted.main_EncryptedIdentity_Unwrap Dc U GoTie.errorsIsEq i ss =
      Extracted.main_EncryptedIdentity_Unwrap (fun _ => .error (.panic 97)) U GoTie.errorsIsEq i' ss :=
  GoTie.encid_fresh_ok U Dc i i' hi hD ids hi' ss

theorem encid_fresh_fail {ι : Type}
    (Dc : Extracted.main_EncryptedIdentity ι → Go.M (Option Go.Err × Extracted.main_EncryptedIdentity ι))
    (i i' : Extracted.main_EncryptedIdentity ι) (hi : i.identities = none) (e : Go.Err) (hD : Dc i = .ok (some e, i'))
    (ss : List Extracted.age_Stanza) :
    Extracted.main_EncryptedIdentity_Unwrap Dc (fun _ _ => .error (.panic 96)) GoTie.errorsIsEq i ss = .ok ([], some e, i') :=
  GoTie.encid_fresh_fail Dc i i' hi e hD ss

/-! The command line tool's side (cmd/age/age.go, translated on every run): with `-i` / `-j` the first
identity handed to `decrypt` is ALWAYS `rejectScryptIdentity{}`, which answers a header that is exactly
one passphrase stanza by ending the process (and every other header with "incorrect identity"), so a
passphrase file is never decrypted by, nor silently skipped in favour of, identity files; with `-p`
the passphrase the prompt returned becomes the ONE recipient `encrypt` is given. -/

theorem rejectScrypt_unwrap_tie (stanzas : List Extracted.age_Stanza) :
    Extracted.main_rejectScryptIdentity_Unwrap ⟨⟩ stanzas =
      match stanzas with
      | [s] => if s.Type_ = "scrypt".toUTF8.toList then .error (.panic 1000) else .ok ([], Extracted.age_ErrIncorrectIdentity)
      | _ => .ok ([], Extracted.age_ErrIncorrectIdentity) :=
  GoTie.rejectScrypt_unwrap_tie stanzas

theorem decryptNotPass_reject_first {ι τ υ : Type} (reject : ι) (PIF : Bytes → τ → Go.M (List ι × Option Go.Err × τ)) (ui : υ)
    (NI : Bytes → υ → τ → Go.M (ι × Option Go.Err × τ)) (flags : List Extracted.main_identityFlag) (t0 : τ) (r : τ × List ι)
    (h : GoTie.collectIds PIF ui NI flags t0 [reject] = .ok r) : ∃ more, r.2 = reject :: more :=
  GoTie.decryptNotPass_reject_first reject PIF ui NI flags t0 r h

/-- … stated about the translated function itself (`decryptNotPass_tie` composed with the lemma above): let `decrypt`
    behave ARBITRARILY on identity lists that do not begin with `rejectScryptIdentity{}` — `decryptNotPass` cannot tell,
    because it never calls it on one -/
theorem code_reject_first {ζ ι τ υ : Type} (reject : ι) (PIF : Bytes → τ → Go.M (List ι × Option Go.Err × τ)) (ui : υ)
    (NI : Bytes → υ → τ → Go.M (ι × Option Go.Err × τ)) (D D' : List ι → Bytes → ζ → τ → Go.M τ)
    (hD : ∀ more i o t, D (reject :: more) i o t = D' (reject :: more) i o t)
    (flags : List Extracted.main_identityFlag) (inp : Bytes) (out : ζ) (t0 : τ) :
    Extracted.main_decryptNotPass reject PIF ui NI D flags inp out t0 =
      Extracted.main_decryptNotPass reject PIF ui NI D' flags inp out t0 := by
  rw [GoTie.decryptNotPass_tie, GoTie.decryptNotPass_tie]
  cases h : GoTie.collectIds PIF ui NI flags t0 [reject] with
  | error e => rfl
  | ok r =>
    obtain ⟨more, hm⟩ := decryptNotPass_reject_first reject PIF ui NI flags t0 r h
    simp only [bind, Except.bind, hm, hD]

theorem encryptPass_tie {ζ ρ τ : Type} (Pr : τ → Go.M (Bytes × Option Go.Err × τ)) (NS : Bytes → τ → Go.M (ρ × Option Go.Err × τ))
    (Cfg : ρ → Go.M Unit) (E : List ρ → Bytes → ζ → Bool → τ → Go.M τ) (inp : Bytes) (out : ζ) (armor : Bool) (t0 : τ) :
    Extracted.main_encryptPass Pr NS Cfg E inp out armor t0 =
      (do let p ← Pr t0
          if (p.2.1 != none) = true then .error (.panic 1000)
          else do
            let r ← NS p.1 p.2.2
            if (r.2.1 != none) = true then .error (.panic 1001)
            else do
              Cfg r.1
              E [r.1] inp out armor r.2.2) :=
  GoTie.encryptPass_tie Pr NS Cfg E inp out armor t0

/-! ### The passphrase recipient end to end, stated about the CODE

The translated `(*ScryptRecipient).Wrap` followed by the translated `(*ScryptIdentity).unwrap`: for EVERY passphrase,
every work factor the identity's bound admits (1 ≤ logN ≤ 30, logN ≤ maxWF), every 16-byte file key and every tape that
holds a salt, the stanza the source's `Wrap` produces is opened by the source's `unwrap` under the same passphrase to
exactly that file key (the two ties composed with `Props.C01.scrypt_wrap_unwrap`). -/

theorem code_scrypt_wrap_unwrap (P : Prims) (hP : P.Correct) {κ : Type} (E : GoTie.NativeEnv P κ)
    (pw fk tape : Bytes) (logN maxWF : Nat) (h1 : 1 ≤ logN) (h30 : logN ≤ 30) (hmax : logN ≤ maxWF) (hfk : fk.length = 16)
    (salt t : Bytes) (hd : draw scryptSaltSize tape = some (salt, t)) :
    Extracted.age_ScryptRecipient_Wrap (GoTie.tapeRead E.eRand) E.Enc E.K E.Seal ⟨pw, Int.ofNat logN⟩ fk tape =
        .ok ([GoTie.toGoStanza (wrapScrypt P pw logN salt fk)], none, t) ∧
      ∃ r, Extracted.age_ScryptIdentity_unwrap E.D E.K E.A ⟨pw, Int.ofNat maxWF⟩ (GoTie.toGoStanza (wrapScrypt P pw logN salt fk)) = .ok r ∧
        GoTie.resClass r = .key fk := by
  have hsalt : salt.length = 16 := by
    have := GoTie.draw_length hd
    simpa [scryptSaltSize] using this
  constructor
  · obtain ⟨res, hrun, hres⟩ := GoTie.scrypt_wrap_tie P E pw logN (by omega) fk tape
    rw [hd] at hres
    rw [hrun, hres]
  · obtain ⟨r, hrun, hcls⟩ := scrypt_unwrap_tie P E.toScryptEnv pw maxWF (wrapScrypt P pw logN salt fk)
    exact ⟨r, hrun, by rw [hcls, Props.C01.scrypt_wrap_unwrap P hP pw salt fk logN maxWF h1 h30 hmax hsalt hfk]⟩

/-- **the assumption structures this file's theorems take are satisfiable** (for a lawful toy primitive suite
    with the 16-byte tag, where they mention primitives): none of the theorems above is vacuous. The instances are in
    `Proofs/GoTieWitnessA.lean` / `GoTieWitnessB.lean`. -/
theorem assumptions_satisfiable :
    Prims.toy16.Correct ∧ Prims.toy16.aead.NonceSep ∧ Prims.toy16.aead.T = 16 ∧
    Nonempty (GoTie.NativeEnv Prims.toy16 Bytes) ∧
    Nonempty (GoTie.ScryptEnv Prims.toy16) :=
  ⟨Prims.toy16_correct, AEAD.toy16_nonceSep, rfl, ⟨GoTie.NativeEnv.witness⟩, ⟨GoTie.ScryptEnv.witness⟩⟩

end Tie.C10
end AgeModel
