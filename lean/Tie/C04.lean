/-
  Tie/C04 — the code itself (DESIGN.md §5.3). `age.multiUnwrap` (age.go), through which
  every native identity answers a header, is TRANSLATED from the source on every run:
  for EVERY per-stanza function and stanza list it answers what the model's `multiUnwrap`
  answers — stanzas answering "incorrect identity" are skipped, the FIRST other answer
  (a key or an error) decides, and when none is left the answer is exactly
  `ErrIncorrectIdentity` (the value `Decrypt` collects into NoIdentityMatchError).
  With it, and with `(*ScryptIdentity).Unwrap` (tied in Tie/C10, kept out of this file so that
  a rewrite of scrypt.go leaves this property's obligations alone), `Props.C04.no_match_structure`
  and `scrypt_no_stanza_incorrect` speak about the source text.

  Breaks when: multiUnwrap stops at the first non-matching stanza, swallows an error,
  or returns another value than the sentinel when nothing matched.
-/
import Proofs.GoTieUnwrap
import Proofs.GoTieDecrypt
import Proofs.GoTieAead
import Props.C04
import Proofs.GoTieWitnessRecip
import Proofs.GoTieWitnessFile
namespace AgeModel
namespace Tie.C04

theorem multiUnwrap_tie (u : Extracted.age_Stanza → Go.M (Bytes × Option Go.Err)) (hU : ∀ s, ∃ r, u s = .ok r)
    (ss : List Format.Stanza) :
    ∃ r, Extracted.age_multiUnwrap GoTie.errorsIsEq u (ss.map GoTie.toGoStanza) = .ok r ∧
      GoTie.resClass r = multiUnwrap (fun s => GoTie.stanzaClass u (GoTie.toGoStanza s)) ss :=
  GoTie.multiUnwrap_tie u hU ss


/-! ## age.Decrypt itself (DESIGN.md §5.3): the identity loop and the no-match error. `age.Decrypt`,
    TRANSLATED from age.go on every run, returns what the model's `decryptInit` returns: when every
    identity answers "incorrect identity", `NoIdentityMatchError` with EXACTLY one collected cause per
    identity tried (`.noMatch n` ↦ the error value records `n`), and no reader
    (`Props.C04.no_match_structure`, `reader_requires_key` are about the source text).
    An observation the proof forced (`GoTie.DecryptEnv.hU`, fourth clause): `Decrypt` keeps the key an
    identity returns even together with `ErrIncorrectIdentity`; the theorem therefore assumes, as is
    true of every identity of the module, that "incorrect identity" comes with a nil key (DESIGN.md §9,
    observations). -/

theorem decrypt_tie (P : Prims) {ι : Type} (E : GoTie.DecryptEnv P ι) (file : Bytes) (ids : List ι) :
    ∃ res, Extracted.age_Decrypt E.D E.U GoTie.errorsIsEq E.mac E.newReader E.key file ids = .ok res ∧
      match (decryptInit P (ids.map E.idOf) file).1 with
      | .ok (k, payload) => res = (k ++ payload, none)
      | .error (.fatal idx) => ∃ hdr payload j r, Format.parse file = .ok (hdr, payload) ∧ ids[idx]? = some j ∧
          E.U j (hdr.stanzas.map GoTie.toGoStanza) = .ok r ∧ r.2 ≠ none ∧ r.2 ≠ Extracted.age_ErrIncorrectIdentity ∧
          res = ([], r.2)
      | .error e => res = ([], GoTie.decryptErr e none) :=
  GoTie.decrypt_tie P E file ids

/-! The innermost step: `aeadDecrypt` of package age and of agessh, translated with
ChaCha20-Poly1305 abstract. A stanza body that does not open under the derived key gives the AEAD's
authentication error and NO bytes (what the identities turn into "incorrect identity"); in package
age a body of the wrong length is refused before it is opened. -/

theorem aeadDecrypt_tie {α : Type} {P : Prims} (E : GoTie.WrapAeadEnv α P) (k ct : Bytes) (size : Nat)
    (hk : k.length = 32) :
    Extracted.age_aeadDecrypt E.New E.over E.open_ k size ct = .ok (match aeadDecryptSized P k size ct with
      | .key fk => (fk, none)
      | .fatal => ([], Extracted.age_errIncorrectCiphertextSize)
      | .incorrect => ([], some E.eAuth)) :=
  GoTie.aeadDecrypt_tie E k ct size hk

theorem ssh_aeadDecrypt_tie {α : Type} {P : Prims} (E : GoTie.WrapAeadEnv α P) (k ct : Bytes) (hk : k.length = 32) :
    Extracted.agessh_aeadDecrypt E.New E.open_ k ct = .ok (match P.wrapOpen k ct with
      | some fk => (fk, none)
      | none => ([], some E.eAuth)) :=
  GoTie.ssh_aeadDecrypt_tie E k ct hk

/-! ### The property, stated about the CODE

`decrypt_tie` composed with `Props.C04.no_match_structure`: for ALL files and ALL identity lists, if every
identity answers "incorrect identity" on the file's stanzas, the TRANSLATED `age.Decrypt` returns no reader
(no bytes at all) and exactly the no-match error carrying one cause per identity. -/

theorem code_decrypt_no_match (P : Prims) {ι : Type} (E : GoTie.DecryptEnv P ι) (file : Bytes) (ids : List ι) (hne : ids ≠ [])
    (hdr : Format.Header) (rest : Bytes) (hp : Format.parse file = .ok (hdr, rest))
    (hall : ∀ i ∈ ids.map E.idOf, i.unwrap P hdr.stanzas = .incorrect) :
    Extracted.age_Decrypt E.D E.U GoTie.errorsIsEq E.mac E.newReader E.key file ids =
      .ok ([], some ⟨"age.NoIdentityMatchError", 0, [Int.ofNat ids.length]⟩) := by
  obtain ⟨res, hrun, hres⟩ := decrypt_tie P E file ids
  have hne' : ids.map E.idOf ≠ [] := by
    intro h; exact hne (List.map_eq_nil_iff.mp h)
  have hm := Props.C04.no_match_structure P (ids.map E.idOf) hne' file hdr rest hp hall
  rw [hm] at hres
  simp only [List.length_map] at hres
  rw [hrun, hres]
  rfl

/-- **the assumption structures this file's theorems take are satisfiable** (for a lawful toy primitive suite
    with the 16-byte tag, where they mention primitives): none of the theorems above is vacuous. The instances are
    collected by `Proofs/GoTieWitnessA.lean` / `GoTieWitnessB.lean`. -/
theorem assumptions_satisfiable :
    Prims.toy16.Correct ∧ Prims.toy16.aead.NonceSep ∧ Prims.toy16.aead.T = 16 ∧
    Nonempty (GoTie.DecryptEnv Prims.toy16 Identity) ∧
    Nonempty (GoTie.WrapAeadEnv Bytes Prims.toy16) :=
  ⟨Prims.toy16_correct, AEAD.toy16_nonceSep, rfl, ⟨GoTie.DecryptEnv.witness⟩, ⟨GoTie.WrapAeadEnv.witness⟩⟩

end Tie.C04
end AgeModel
