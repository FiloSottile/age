/-
  Tie/C02 — the code itself (DESIGN.md §5.3). The three nonce helpers of
  internal/stream/stream.go are TRANSLATED from the source on every run
  (`Extracted/Funcs.lean`); the theorems say that on the nonce of chunk `i` they
  do what the model's `Stream.nonce` arithmetic says, for every `i`:

    incNonce          chunk i ↦ chunk i+1, all eleven counter bytes carrying;
                      its `panic` is reached exactly when the 88-bit counter wraps
    setLastChunkFlag  sets the flag byte and nothing else
    nonceIsZero       true exactly for chunk 0 without the flag

  Breaks when: the carry loop, the flag position or the zero test change
  (the seeded `incNonce` changes of C02, C05 and C06 each break `incNonce_tie`).
-/
import Proofs.GoTieNonce
import Proofs.GoTieStreamR
import Proofs.GoTieWitnessStream
import Proofs.GoTieStreamRT
namespace AgeModel
namespace Tie.C02

theorem incNonce_tie (i : Nat) (last : Bool) (h : i + 1 < 2 ^ 88) :
    Extracted.stream_incNonce (Stream.nonce i last) = .ok (Stream.nonce (i + 1) last) :=
  GoTie.incNonce_tie i last h

/-- the explicit panic of `incNonce` is exactly the wrap of the 88-bit counter -/
theorem incNonce_wrap (last : Bool) :
    Extracted.stream_incNonce (Stream.nonce (2 ^ 88 - 1) last) = .error (.panic 0) :=
  GoTie.incNonce_wrap last

theorem setLastChunkFlag_tie (i : Nat) (last : Bool) :
    Extracted.stream_setLastChunkFlag (Stream.nonce i last) = .ok (Stream.nonce i true) :=
  GoTie.setLastChunkFlag_tie i last

theorem nonceIsZero_tie (i : Nat) (last : Bool) (h : i < 2 ^ 88) :
    Extracted.stream_nonceIsZero (Stream.nonce i last) = .ok (decide (i = 0 ∧ last = false)) :=
  GoTie.nonceIsZero_tie i last h


/-! ## stream.Reader itself (DESIGN.md §5.3)

`(*Reader).Read` and `(*Reader).readChunk` are TRANSLATED from internal/stream/stream.go on every
run — `unread` and `in` as VIEWS into the struct's own `buf` (reads and writes go to the array,
re-slicing is bounds-checked), the source as bytes followed by a clean end or an error, the AEAD
abstract (`GoTie.AeadEnv`: it is the model's, tag 16). SIMULATION: from related states one
`Read(p)` of the translated code and one `Reader.read` of the model return the same count, the
same bytes in the caller's buffer, corresponding errors, and related states. A fresh reader is
related to `Reader.new` (`reader_new_rel`). By induction over calls, `tamper_prefix`,
`tampered_never_eof`, `reader_carries_over`, `accepts_only_own_chunking` (Props/C02) hold of the
reader in the source — the EOF probe, the second `Open` under the final flag, the empty-last-chunk
test, the sticky error included. (Fewer than 2^88 chunks.) -/

theorem reader_read_tie {α : Type} (A : AEAD) (k : Bytes) (E : GoTie.AeadEnv α A k)
    (r : Extracted.stream_Reader α) (m : AgeModel.Stream.Reader) (h : GoTie.RRel r m) (hctr : m.ctr + 1 < 2 ^ 88) (p : Bytes) :
    ∃ res, Extracted.stream_Reader_Read E.over E.open_ r p = .ok res ∧
      let mr := m.read A 65536 (2 ^ 88) k p.length
      res.1 = Int.ofNat mr.2.1.length ∧
      GoTie.rdErrRel res.2.1 mr.2.2 ∧
      GoTie.RRel res.2.2.1 mr.1 ∧
      res.2.2.2 = mr.2.1 ++ p.drop mr.2.1.length :=
  GoTie.reader_read_tie A k E r m h hctr p

theorem reader_new_rel {α : Type} (a : α) (data : Bytes) (fail : Bool) :
    GoTie.RRel (⟨a, ⟨data, fail⟩, 0, 0, List.replicate 65552 0, none, List.replicate 12 0⟩ : Extracted.stream_Reader α)
      (AgeModel.Stream.Reader.new ⟨data, fail⟩) :=
  GoTie.reader_new_rel a data fail

/-! ### The property, stated about the CODE

`streamReads` drives the translated `Read` call by call (`Tie/C12.streamReads_tie`: it yields what the model's
reader yields). Composed with `Props.C12.reader_refines_spec` and `Props.C02.accepts_only_own_chunking`:
whatever bytes are presented as the payload, if the translated reader has released `out` and then reports
io.EOF, the payload IS the canonical encryption of `out` under that key — re-split, re-flagged, reordered,
truncated, extended or otherwise altered payloads never end cleanly. -/

theorem code_accepts_only_own_chunking {α : Type} (A : AEAD) (hA : A.Correct) (k : Bytes) (E : GoTie.AeadEnv α A k) (a : α)
    (c : Bytes) (hc : c.length < 2 ^ 88 - 1) (sizes : List Nat) (hpos : ∀ s ∈ sizes, 0 < s)
    (hlong : (Stream.decrypt A 65536 k c).1.length + c.length + 1 < sizes.length) (g' : Extracted.stream_Reader α) (out : Bytes)
    (h : GoTie.streamReads E ⟨a, ⟨c, false⟩, 0, 0, List.replicate 65552 0, none, List.replicate 12 0⟩ sizes = .ok (g', out, Go.io_EOF)) :
    c = Stream.encrypt A 65536 k out :=
  GoTie.code_accepts_only_own_chunking A hA k E a c hc sizes hpos hlong g' out h

/-- non-vacuity of the main premise: runs of the translated reader that end with io.EOF exist, for every key and every
    input below 2^64 bytes, with one-byte reads over the canonical encryption (`GoTie.code_stream_read_back`; the other
    premises are bounds on lengths) -/
theorem code_accepts_only_own_chunking_instance (k : Bytes) (ps : List Bytes) (hlen : ps.flatten.length < 2 ^ 64) :
    ∃ c sizes g', (∀ s ∈ sizes, 0 < s) ∧
      GoTie.streamReads (GoTie.AeadEnv.witness k) ⟨(), ⟨c, false⟩, 0, 0, List.replicate 65552 0, none, List.replicate 12 0⟩ sizes =
        .ok (g', ps.flatten, Go.io_EOF) := by
  obtain ⟨r', h⟩ := GoTie.code_stream_read_back AEAD.toy16 AEAD.toy16_correct AEAD.toy16_nonceSep k (GoTie.AeadEnv.witness k) ()
    ps.flatten hlen (List.replicate (ps.flatten.length + (Stream.encrypt AEAD.toy16 65536 k ps.flatten).length + 2) 1)
    (by intro s hs; rw [List.mem_replicate] at hs; omega) (by rw [List.length_replicate]; omega)
  exact ⟨_, _, r', by intro s hs; rw [List.mem_replicate] at hs; omega, h⟩

/-- **the assumption structures this file's theorems take are satisfiable** (for a lawful toy primitive suite
    with the 16-byte tag, where they mention primitives): none of the theorems above is vacuous. The instances are in
    `Proofs/GoTieWitnessA.lean` / `GoTieWitnessB.lean`. -/
theorem assumptions_satisfiable :
    Prims.toy16.Correct ∧ Prims.toy16.aead.NonceSep ∧ Prims.toy16.aead.T = 16 ∧
    (∀ k : Bytes, Nonempty (GoTie.AeadEnv Unit AEAD.toy16 k)) :=
  ⟨Prims.toy16_correct, AEAD.toy16_nonceSep, rfl, (fun k => ⟨GoTie.AeadEnv.witness k⟩)⟩

end Tie.C02
end AgeModel
