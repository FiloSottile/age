/-
  Tie/C08 — the de-armoring reader and the line wrapper, as they stand in the source.

  `(*armoredReader).Read` (armor/armor.go; its closures `getLine`, `drainTrailing` and `setErr`
  included) is TRANSLATED from /repo on every run and proved to SIMULATE the model's reader machine
  `Armor.AReader.read1` with W = 1024 on a source that ends cleanly (`armor_read_tie`): from related
  states, one `Read(p)` on each side copies the same bytes, reports corresponding errors (nil /
  io.EOF / *armor.Error) and leaves related states. `Props.C08`'s reader theorems
  (`armor_reader_refines_spec`, `armor_canonical`, `armor_errors_typed`, `armor_reader_sticky`,
  `armor_error_leaves_no_data`) are statements about that machine, hence about the source text.
  `base64.StdEncoding.Strict().Decode` is a parameter (`GoTie.B64DecEnv`: it is the model's strict
  `B64.decStd`); `len(bytes.TrimSpace(b)) == 0` is proved to be the model's `allSpace`.
  `(*WrappedBase64Encoder).writeWrapped` (internal/format/format.go), the 64-column wrapper under
  the armor writer and under header bodies, is translated too and proved to emit `wrapCols`
  (= `Format.wrap` on a fresh line) in one destination write. The armor WRITER, `(*armoredWriter).Write`
  and `.Close`, is translated as well and leaves `Armor.armor` of the input on the destination
  (`armor_writer_tie`); encoding/base64's streaming encoder between it and `writeWrapped` is assumed
  while open (`GoTie.ArmorWEnv`) and exercised by the correspondence. The two translated ends are
  composed in `codeDrain_tie` and `code_armor_roundtrip`.
-/
import Proofs.GoTieArmorR
import Proofs.GoTieWrap
import Proofs.GoTieArmorW
import Proofs.GoTieArmorRT
import Proofs.GoTieWitnessArmor
namespace AgeModel
namespace Tie.C08
open Extracted Armor

theorem allSpace_eq (b : Bytes) : Go.bytes_allSpace b = Armor.allSpace b := GoTie.allSpace_eq b

theorem armor_new_rel (t : Bytes) :
    GoTie.ARel ⟨t, false, 0, 0, List.replicate 48 0, none⟩ (AReader.new t) := GoTie.armor_new_rel t

theorem armor_read_tie (E : GoTie.B64DecEnv) (g : armor_armoredReader) (m : AReader) (h : GoTie.ARel g m) (p : Bytes) :
    ∃ res, armor_armoredReader_Read E.Dec g p = .ok res ∧
      res.1 = Int.ofNat (m.read1 1024 false p.length).2.1.length ∧
      res.2.2.2 = (m.read1 1024 false p.length).2.1 ++ p.drop (m.read1 1024 false p.length).2.1.length ∧
      GoTie.aErrRel (m.read1 1024 false p.length).2.2 res.2.1 ∧
      GoTie.ARel res.2.2.1 (m.read1 1024 false p.length).1 :=
  GoTie.armor_read_tie E g m h p

theorem writeWrapped_tie {δ ω : Type} (write : δ → Bytes → Go.M (Int × Option Go.Err × δ))
    (w : format_WrappedBase64Encoder ω δ) (p : Bytes) (hbuf : w.buf = []) (hw : 0 ≤ w.written) :
    format_WrappedBase64Encoder_writeWrapped write w p = (do
      let t ← Go.buffer_WriteTo write (Armor.wrapCols w.written.toNat p).1 w.dst
      pure (0, t.2.1, { w with written := w.written + Int.ofNat p.length, buf := t.2.2.1, dst := t.2.2.2 })) :=
  GoTie.writeWrapped_tie write w p hbuf hw

theorem lastLineIsEmpty_tie {δ ω : Type} (w : format_WrappedBase64Encoder ω δ) (hw : 0 ≤ w.written) :
    format_WrappedBase64Encoder_LastLineIsEmpty w = .ok (decide (w.written.toNat % 64 = 0)) :=
  GoTie.lastLineIsEmpty_tie w hw

/-! The armoring writer (`(*armoredWriter).Write` / `.Close`, armor/armor.go), translated on every
run with the destination and the wrapped base64 encoder as abstract state (`GoTie.ArmorWEnv`): for
EVERY sequence of writes — none at all included — followed by `Close`, on a destination that takes
every write, what has reached the destination is `Armor.armor` of the concatenated input, and a
second `Close` is refused without touching it. What is assumed of the encoder holds while it is open
(`isOpen`; nothing is assumed of a closed base64 encoder), and the assumptions are satisfiable:
`GoTie.ArmorWEnv.canonical`. -/

theorem armor_writer_tie {δ ω : Type} (E : GoTie.ArmorWEnv δ ω) (ww0 : ω) (d0 : δ)
    (h0 : E.absI ww0 = [] ∧ E.absO ww0 = [] ∧ E.isOpen ww0) (ps : List Bytes) :
    ∃ a1 a2, GoTie.armorWrites E ⟨false, false, ww0, d0⟩ ps = .ok (none, a1) ∧
      Extracted.armor_armoredWriter_Close E.W E.Cl E.LE a1 = .ok (none, a2) ∧
      E.absD a2.dst = E.absD d0 ++ Armor.armor ps.flatten ∧
      Extracted.armor_armoredWriter_Close E.W E.Cl E.LE a2 = .ok (some ⟨"armor.(*armoredWriter).Close", 0, []⟩, a2) :=
  GoTie.armor_writer_tie E ww0 d0 h0 ps

/-! The two translated ends composed. `GoTie.codeDrain` calls the translated `Read` with buffers of the
given sizes and collects what each call copied until the first reported error (what `io.ReadAll` or
any other consumer does); it yields what the model's `AReader.drain` yields, for EVERY list of sizes.
`code_armor_roundtrip` is then C08's round trip stated about the code: whatever goes through the
translated `Write`s and `Close` into an empty destination comes back, followed by io.EOF, from the
translated `Read` over the destination's bytes — for every input, every split into writes and every
sequence of positive read sizes long enough to reach the end. -/

theorem codeDrain_tie (E : GoTie.B64DecEnv) (sizes : List Nat) (g : armor_armoredReader) (m : AReader) (h : GoTie.ARel g m) :
    ∃ g' ge, GoTie.codeDrain E g sizes = .ok (g', (m.drain 1024 false sizes).2.1, ge) ∧
      GoTie.aErrRel (m.drain 1024 false sizes).2.2 ge ∧ GoTie.ARel g' (m.drain 1024 false sizes).1 :=
  GoTie.codeDrain_tie E sizes g m h

theorem code_armor_roundtrip {δ ω : Type} (W : GoTie.ArmorWEnv δ ω) (D : GoTie.B64DecEnv) (ww0 : ω) (d0 : δ)
    (h0 : W.absI ww0 = [] ∧ W.absO ww0 = [] ∧ W.isOpen ww0) (hd0 : W.absD d0 = []) (ps : List Bytes)
    (sizes : List Nat) (hpos : ∀ s ∈ sizes, 0 < s)
    (hlong : ps.flatten.length + (armor ps.flatten).length + 2 < sizes.length) :
    ∃ a1 a2 g', GoTie.armorWrites W ⟨false, false, ww0, d0⟩ ps = .ok (none, a1) ∧
      Extracted.armor_armoredWriter_Close W.W W.Cl W.LE a1 = .ok (none, a2) ∧
      GoTie.codeDrain D ⟨W.absD a2.dst, false, 0, 0, List.replicate 48 0, none⟩ sizes = .ok (g', ps.flatten, Go.io_EOF) :=
  GoTie.code_armor_roundtrip W D ww0 d0 h0 hd0 ps sizes hpos hlong

/-- "armor failures carry the armor error class", about the code (`Props.C08.armor_errors_typed` holds of the model by
    the type of its outcomes alone): from related states the translated `Read` returns, and what it reports is nil,
    io.EOF or `*armor.Error` — nothing else, whatever the text and the buffer -/
theorem code_armor_errors_typed (E : GoTie.B64DecEnv) (g : armor_armoredReader) (m : AReader) (h : GoTie.ARel g m) (p : Bytes) :
    ∃ res, armor_armoredReader_Read E.Dec g p = .ok res ∧
      (res.2.1 = none ∨ res.2.1 = Go.io_EOF ∨ res.2.1 = some ⟨"armor.Error", 0, []⟩) := by
  obtain ⟨res, hres, _, _, herr, _⟩ := armor_read_tie E g m h p
  refine ⟨res, hres, ?_⟩
  generalize (m.read1 1024 false p.length).2.2 = o at herr
  cases o with
  | none => exact Or.inl herr
  | some e => cases e with
    | eof => exact Or.inr (Or.inl herr)
    | err => exact Or.inr (Or.inr herr)

/-- non-vacuity of the round trip: the canonical writer environment, the model's strict decoder, any input — the
    conclusion holds of one-byte reads -/
theorem code_armor_roundtrip_instance (ps : List Bytes) :
    ∃ sizes a1 a2 g', GoTie.armorWrites GoTie.ArmorWEnv.canonical ⟨false, false, ([], false), []⟩ ps = .ok (none, a1) ∧
      Extracted.armor_armoredWriter_Close GoTie.ArmorWEnv.canonical.W GoTie.ArmorWEnv.canonical.Cl GoTie.ArmorWEnv.canonical.LE a1 = .ok (none, a2) ∧
      GoTie.codeDrain GoTie.B64DecEnv.witness ⟨GoTie.ArmorWEnv.canonical.absD a2.dst, false, 0, 0, List.replicate 48 0, none⟩ sizes =
        .ok (g', ps.flatten, Go.io_EOF) := by
  obtain ⟨h0, hd0, sizes, hpos, hlong⟩ := GoTie.code_armor_roundtrip_premises ps
  obtain ⟨a1, a2, g', h⟩ := code_armor_roundtrip GoTie.ArmorWEnv.canonical GoTie.B64DecEnv.witness ([], false) [] h0 hd0 ps sizes hpos hlong
  exact ⟨sizes, a1, a2, g', h⟩

/-- **the assumption structures this file's theorems take are satisfiable** (for a lawful toy primitive suite
    with the 16-byte tag, where they mention primitives): none of the theorems above is vacuous. The instances are
    `GoTie.ArmorWEnv.canonical` (`Proofs/GoTieArmorW`) and `GoTie.B64DecEnv.witness` (`Proofs/GoTieWitnessArmor`). -/
theorem assumptions_satisfiable :
    (∃ E : GoTie.ArmorWEnv Bytes (Bytes × Bool), ∃ ww0, E.absI ww0 = [] ∧ E.absO ww0 = [] ∧ E.isOpen ww0) ∧
    Nonempty GoTie.B64DecEnv :=
  ⟨⟨GoTie.ArmorWEnv.canonical, ([], false), GoTie.ArmorWEnv.canonical_fresh⟩, ⟨GoTie.B64DecEnv.witness⟩⟩

end Tie.C08
end AgeModel
