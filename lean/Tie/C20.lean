/-
  Tie/C20 — the effect summary of the code, regenerated from /repo
  (`Extracted/Effects.lean`), has no store to a shared location: this is the
  hypothesis of `Props.C20.interleaving_equals_solo` / `no_conflict`.

  The summary (rules in harness/cmd/extract/effects.go): every store reachable
  in the module from Wrap / WrapWithLabels / Unwrap of the native recipient and
  identity types, from Encrypt and Decrypt, propagated to those roots; reported
  as shared when it lands on the root's receiver (the recipient / identity
  value that goroutines share), on a parameter carrying recipients or
  identities, or on a package-level variable.

  Documented exclusions, each stated as a theorem below:
   * `dispatchExcluded` — agessh.EncryptedSSHIdentity caches its decrypted key by
     design (property C19) and is not among the types C20 speaks of;
   * effects on a root's per-operation parameters (`perOperationStores`: the
     destination writer of Encrypt and whatever it wraps) — every operation has
     its own destination;
   * `configSetters` — SetWorkFactor / SetMaxWorkFactor, documented "must be called
     before Wrap / Unwrap", are not reachable from the roots.
  A cache field written in Wrap, a lazily initialised key, a package-level
  scratch buffer each add an entry to `sharedStores` or `mutatedGlobals`.
-/
import AgeModel.Extracted.Effects
namespace AgeModel
namespace Tie.C20

/-- no store reachable from the roots lands on a shared location -/
theorem no_shared_store : Extracted.sharedStores = [] := by decide

theorem no_shared_store_detail : Extracted.sharedStoresDetail = [] := by decide

/-- no package-level variable of the library is written outside its declaration / init -/
theorem no_mutated_global : Extracted.mutatedGlobals = [] := by decide

/-- the roots include every operation the property names -/
theorem roots_cover :
    ["age.(*X25519Recipient).Wrap", "age.(*X25519Identity).Unwrap",
     "age.(*ScryptRecipient).Wrap", "age.(*ScryptRecipient).WrapWithLabels", "age.(*ScryptIdentity).Unwrap",
     "agessh.(*RSARecipient).Wrap", "agessh.(*RSAIdentity).Unwrap",
     "agessh.(*Ed25519Recipient).Wrap", "agessh.(*Ed25519Identity).Unwrap",
     "age.Encrypt", "age.Decrypt"].all (fun r => Extracted.roots.contains r) = true := by decide +kernel

/-- the only type left out of interface dispatch -/
theorem exclusions : Extracted.dispatchExcluded = ["agessh.EncryptedSSHIdentity"] := by decide +kernel

/-- what a root does to a per-operation parameter concerns only Encrypt's destination
    (its first parameter, an io.Writer) -/
theorem per_operation_only_dst :
    Extracted.perOperationStores.all (fun s => s.1 == "age.Encrypt" && s.2.1 == "param #0 io.Writer") = true := by decide +kernel

/-- the methods that do write a recipient / identity are the two documented setters -/
theorem config_setters : Extracted.configSetters = [
    ("age.(*ScryptIdentity).SetMaxWorkFactor", "maxWorkFactor"),
    ("age.(*ScryptRecipient).SetWorkFactor", "workFactor")] := by decide +kernel

/-- **positive controls**: the empty lists above are not the emptiness of a broken analysis. The call graph reaches
    from the roots the functions one knows they call (the per-stanza unwraps, `wrapWithLabels`, `multiUnwrap`, the
    stream writer); the store scan sees the stores one knows are there (`w.err` in `(*Writer).Write`, the nonce
    increment) and attributes them to `Encrypt`'s destination; the detail table projects onto the summary; and the
    global-write detection does fire where a global IS written (`stdinInUse` of cmd/age, informational) -/
theorem controls :
    Extracted.roots.all (fun r => Extracted.reachable.contains r) = true ∧
    ["age.(*X25519Identity).unwrap", "age.(*ScryptIdentity).unwrap", "agessh.(*RSAIdentity).unwrap",
     "agessh.(*Ed25519Identity).unwrap", "age.wrapWithLabels", "age.multiUnwrap", "stream.(*Writer).Write",
     "stream.incNonce"].all (fun f => Extracted.reachable.contains f) = true ∧
    Extracted.stores.contains ("stream.(*Writer).Write", "assign", "w.err", "recv") = true ∧
    Extracted.stores.contains ("stream.incNonce", "incdec", "nonce[i]", "param #0 *[12]byte") = true ∧
    Extracted.perOperationStores.contains ("age.Encrypt", "param #0 io.Writer", "stream.(*Writer).Write", "w.err") = true ∧
    Extracted.sharedStoresDetail.map (fun s => (s.2.2.1, s.2.2.2.1, s.2.2.2.2)) = Extracted.sharedStores ∧
    Extracted.mutatedGlobalsCmd.contains ("main.stdinInUse", "main.main", "stdinInUse") = true := by decide +kernel

end Tie.C20
end AgeModel
