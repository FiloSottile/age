/-
  Tie/C01 — age.Decrypt itself (DESIGN.md §5.3): identities are consulted in the order given and
  none after the first that opens the file (or fails). `age.Decrypt` is TRANSLATED from age.go on
  every run with `Identity.Unwrap` abstract; `decrypt_consults_prefix`: whatever the identities
  AFTER the first one that does not answer "incorrect identity" would do — faulting included —
  is never asked for: the result is that of the list cut after that identity. With `decrypt_tie`
  (the translated `Decrypt` returns what the model's `decryptInit` returns) the consultation clause
  of `Props.C01.decrypt_encrypt` is about the source text.
  After that: the native and SSH identities' `Unwrap` under that abstract parameter, one recipient type
  end to end (`code_*_wrap_unwrap`), Encrypt then Decrypt (`code_file_roundtrip`) and the whole pipeline
  (`code_pipeline`), each with an instance showing its premises can be met.
-/
import Proofs.GoTieDecrypt
import Proofs.GoTieNative
import Proofs.GoTieSshRsa
import Props.C01
import Proofs.GoTieSsh
import Proofs.GoTieWitnessA
import Proofs.GoTieFileRT
import Proofs.GoTiePipeline
namespace AgeModel
namespace Tie.C01

theorem decrypt_consults_prefix (P : Prims) {ι : Type} (E : GoTie.DecryptEnv P ι) (file : Bytes)
    (pre : List ι) (i : ι) (post : List ι) (hdr : Format.Header) (rest : Bytes)
    (hp : Format.parse file = .ok (hdr, rest))
    (hi : (E.idOf i).unwrap P hdr.stanzas ≠ .incorrect)
    (U' : ι → List Extracted.age_Stanza → Go.M (Bytes × Option Go.Err))
    (hU' : ∀ j, j ∈ pre ++ [i] → U' j = E.U j) :
    Extracted.age_Decrypt E.D U' GoTie.errorsIsEq E.mac E.newReader E.key file (pre ++ i :: post) =
    Extracted.age_Decrypt E.D E.U GoTie.errorsIsEq E.mac E.newReader E.key file (pre ++ [i]) :=
  GoTie.decrypt_consults_prefix P E file pre i post hdr rest hp hi U' hU'

/-- the translated `age.Decrypt` returns what the model's `decryptInit` returns, for EVERY file and identity list:
    the reader made from the model's stream key and payload; or, when the model says identity number `idx` failed
    (`.fatal idx`), no reader and the very error that identity's `Unwrap` (`E.U`) returned on the header's stanzas —
    neither nil nor `ErrIncorrectIdentity`; or no reader and the error value of the model's error class.
    `DecryptEnv.hU` requires an identity that succeeds to return a NON-EMPTY key (the translation identifies nil and
    empty slices), so this covers identity lists none of whose members answers with an empty key; the module's SSH
    identities do on hand-built stanzas — that corner is the model's `endsNonNil`, tied by the correspondence cases
    `fksize/*`. -/
theorem decrypt_tie (P : Prims) {ι : Type} (E : GoTie.DecryptEnv P ι) (file : Bytes) (ids : List ι) :
    ∃ res, Extracted.age_Decrypt E.D E.U GoTie.errorsIsEq E.mac E.newReader E.key file ids = .ok res ∧
      match (decryptInit P (ids.map E.idOf) file).1 with
      | .ok (k, payload) => res = (k ++ payload, none)
      | .error (.fatal idx) => ∃ hdr payload j r, Format.parse file = .ok (hdr, payload) ∧ ids[idx]? = some j ∧
          E.U j (hdr.stanzas.map GoTie.toGoStanza) = .ok r ∧ r.2 ≠ none ∧ r.2 ≠ Extracted.age_ErrIncorrectIdentity ∧
          res = ([], r.2)
      | .error e => res = ([], GoTie.decryptErr e none) :=
  GoTie.decrypt_tie P E file ids

/-! The native identity under that abstract `Identity.Unwrap`: `(*X25519Identity).unwrap` and `.Unwrap`
are TRANSLATED from x25519.go; with the primitives as parameters (`GoTie.NativeEnv`) they answer, for
every stanza list, what the model's X25519 identity answers. -/

theorem x25519_unwrap_tie (P : Prims) {κ : Type} (E : GoTie.NativeEnv P κ) (sk : Bytes) (s : Format.Stanza) :
    ∃ r, Extracted.age_X25519Identity_unwrap E.D E.X E.H E.R E.A ⟨sk, (P.x25519 sk P.basepoint).getD []⟩ (GoTie.toGoStanza s) = .ok r ∧
      GoTie.resClass r = unwrapX25519 P sk s :=
  GoTie.x25519_unwrap_tie P E sk s

theorem x25519_Unwrap_tie (P : Prims) {κ : Type} (E : GoTie.NativeEnv P κ) (sk : Bytes) (ss : List Format.Stanza) :
    ∃ r, Extracted.age_X25519Identity_Unwrap GoTie.errorsIsEq E.D E.X E.H E.R E.A ⟨sk, (P.x25519 sk P.basepoint).getD []⟩ (ss.map GoTie.toGoStanza) = .ok r ∧
      GoTie.resClass r = (Identity.unwrapLog P (.x25519 sk) ss).1 :=
  GoTie.x25519_Unwrap_tie P E sk ss

/-! The SSH identities (agessh/agessh.go), translated on every run: for every stanza list they
answer what the model's identities answer (ssh-ed25519: a malformed argument is reported before the
tag is compared, a failed decryption under the right tag is fatal; ssh-rsa likewise). -/

theorem sshEd_Unwrap_tie (P : Prims) {κ π : Type} (E : GoTie.SshEnv P κ π) (key : π) (sk : Bytes) (ss : List Format.Stanza) :
    ∃ r, Extracted.agessh_Ed25519Identity_Unwrap GoTie.errorsIsEq E.D E.Fp E.X E.H E.Mar E.R E.OpenS ⟨sk, (P.x25519 sk P.basepoint).getD [], key⟩ (ss.map GoTie.toGoStanza) = .ok r ∧
      GoTie.resClass r = (Identity.unwrapLog P (.sshEd (E.wire key) sk) ss).1 :=
  GoTie.sshEd_Unwrap_tie P E key sk ss

theorem sshRsa_Unwrap_tie (P : Prims) {π β γ : Type} (E : GoTie.RsaEnv P π β γ) (key : π) (priv : γ) (ss : List Format.Stanza) :
    ∃ r, Extracted.agessh_RSAIdentity_Unwrap GoTie.errorsIsEq E.Fp E.DecO ⟨priv, key⟩ (ss.map GoTie.toGoStanza) = .ok r ∧
      GoTie.resClass r = (Identity.unwrapLog P (.sshRsa (E.wire key) (E.privOf priv)) ss).1 :=
  GoTie.sshRsa_Unwrap_tie P E key priv ss

/-! ### One recipient type end to end, stated about the CODE

The translated `(*X25519Recipient).Wrap` followed by the translated `(*X25519Identity).unwrap`: for EVERY key pair,
every 16-byte file key and every random tape that holds an ephemeral secret, the stanza the source's `Wrap` produces is
opened by the source's `unwrap` to exactly that file key (the two ties composed with `Props.C01.x25519_wrap_unwrap`;
the primitives are parameters with the functional laws `Prims.Correct`). -/

theorem code_x25519_wrap_unwrap (P : Prims) (hP : P.Correct) {κ : Type} (E : GoTie.NativeEnv P κ)
    (sk pk fk tape : Bytes) (hpk : P.x25519 sk P.basepoint = some pk) (hfk : fk.length = 16)
    (eph t : Bytes) (hd : draw 32 tape = some (eph, t)) (st : Format.Stanza) (hw : wrapX25519 P pk eph fk = some st) :
    Extracted.age_X25519Recipient_Wrap (GoTie.tapeRead E.eRand) E.X P.basepoint E.Enc E.H E.R E.Seal ⟨pk⟩ fk tape =
        .ok ([GoTie.toGoStanza st], none, t) ∧
      ∃ r, Extracted.age_X25519Identity_unwrap E.D E.X E.H E.R E.A ⟨sk, (P.x25519 sk P.basepoint).getD []⟩ (GoTie.toGoStanza st) = .ok r ∧
        GoTie.resClass r = .key fk := by
  constructor
  · obtain ⟨res, hrun, hres⟩ := GoTie.x25519_wrap_tie P E pk fk tape
    simp only [wrapOne, hd, hw, Option.map_some] at hres
    rw [hrun, hres.1]
    rfl
  · obtain ⟨r, hrun, hcls⟩ := x25519_unwrap_tie P E sk st
    exact ⟨r, hrun, by rw [hcls, Props.C01.x25519_wrap_unwrap P hP sk pk eph fk st hpk hfk hw]⟩

/-- the same for `ssh-ed25519`: the stanza the translated `(*Ed25519Recipient).Wrap` produces for the Montgomery form `pk`
    of an SSH key is opened by the translated `(*Ed25519Identity).unwrap` holding the matching scalar to the file key -/
theorem code_sshEd_wrap_unwrap (P : Prims) (hP : P.Correct) {κ π : Type} (E : GoTie.SshEnv P κ π) (key : π)
    (sk pk fk tape : Bytes) (hpk : P.x25519 sk P.basepoint = some pk)
    (eph t : Bytes) (hd : draw 32 tape = some (eph, t)) (st : Format.Stanza) (hw : wrapSshEd P (E.wire key) pk eph fk = some st) :
    Extracted.agessh_Ed25519Recipient_Wrap (GoTie.tapeRead E.eRand) E.X P.basepoint E.H E.Mar E.R E.Fp E.Enc E.Seal ⟨key, pk⟩ fk tape =
        .ok ([GoTie.toGoStanza st], none, t) ∧
      ∃ r, Extracted.agessh_Ed25519Identity_unwrap E.D E.Fp E.X E.H E.Mar E.R E.OpenS ⟨sk, (P.x25519 sk P.basepoint).getD [], key⟩
          (GoTie.toGoStanza st) = .ok r ∧ GoTie.resClass r = .key fk := by
  constructor
  · obtain ⟨res, hrun, hres⟩ := GoTie.sshEd_wrap_tie P E key pk fk tape
    simp only [wrapOne, hd, hw, Option.map_some] at hres
    rw [hrun, hres.1]
    rfl
  · obtain ⟨r, hrun, hcls⟩ := GoTie.sshEd_unwrap_tie P E key sk st
    exact ⟨r, hrun, by rw [hcls, Props.C01.sshed_wrap_unwrap P hP (E.wire key) sk pk eph fk st hpk hw]⟩

/-- and for `ssh-rsa`: what the translated `(*RSARecipient).Wrap` produces under a public key is opened by the translated
    `(*RSAIdentity).unwrap` holding the matching private key (`P.rsaPair`) to the file key -/
theorem code_sshRsa_wrap_unwrap (P : Prims) (hP : P.Correct) {π β γ : Type} (E : GoTie.RsaEnv P π β γ) (key : π) (pub : β) (priv : γ)
    (fk tape : Bytes) (hpair : P.rsaPair (E.pubOf pub) (E.privOf priv))
    (seed t : Bytes) (hd : draw 32 tape = some (seed, t)) (st : Format.Stanza)
    (hw : wrapSshRsa P (E.wire key) (E.pubOf pub) seed fk = some st) :
    Extracted.agessh_RSARecipient_Wrap E.Fp E.EncO ⟨key, pub⟩ fk tape = .ok ([GoTie.toGoStanza st], none, t) ∧
      ∃ r, Extracted.agessh_RSAIdentity_unwrap E.Fp E.DecO ⟨priv, key⟩ (GoTie.toGoStanza st) = .ok r ∧
        GoTie.resClass r = .key fk := by
  constructor
  · obtain ⟨res, hrun, hres⟩ := GoTie.sshRsa_wrap_tie P E key pub fk tape
    simp only [wrapOne, hd, hw, Option.map_some] at hres
    rw [hrun, hres.1]
    rfl
  · obtain ⟨r, hrun, hcls⟩ := GoTie.sshRsa_unwrap_tie P E key priv st
    exact ⟨r, hrun, by rw [hcls, Props.C01.sshrsa_wrap_unwrap P hP (E.wire key) (E.pubOf pub) (E.privOf priv) seed fk st hpair hw]⟩

/-! Encrypt then Decrypt, about the two translated functions (`code_file_roundtrip`): when the translated
`age.Encrypt` has run on an empty destination that takes every write, the destination holds
header ‖ nonce and the returned writer seals under the stream key K derived from the file key and
that nonce; for EVERY byte string `c` written after it, the translated `age.Decrypt` over the
destination's bytes followed by `c` — any identity list in which the first identity that does not
answer "incorrect identity" opens the file key — returns a reader under the SAME K over exactly
`c`. With `Tie/C12.code_stream_roundtrip` (translated stream writer and reader under one key) this is
the property's pipeline at the level of the source text. -/

theorem code_file_roundtrip (P : Prims) (hP : P.Correct) {ρ δ ω ι : Type}
    (EE : GoTie.EncryptEnv P Stream.DstSpec.perfect ρ δ ω) (DE : GoTie.DecryptEnv P ι)
    (d : δ) (hd : (EE.absD d).acc = []) (rs : List ρ) (tape : Bytes)
    (hrs : ∀ r ∈ rs.map EE.recOf, r.ProducesWF P)
    (fk : Bytes) (stanzas : List Format.Stanza) (t nonce t' : Bytes)
    (hh : encryptHeader P tape (rs.map EE.recOf) = .ok (fk, stanzas, t))
    (hn : draw streamNonceSize t = some (nonce, t'))
    (pre post : List ι) (id : ι)
    (hpre : ∀ i ∈ pre, (DE.idOf i).unwrap P stanzas = .incorrect) (hid : (DE.idOf id).unwrap P stanzas = .key fk) :
    ∃ res, Extracted.age_Encrypt EE.nilW (GoTie.tapeRead EE.eRand) EE.W EE.mac EE.marshalF EE.write EE.newWriter EE.key d rs tape = .ok res ∧
      res.2.1 = none ∧ res.1 = EE.mkW (streamKey P fk nonce) res.2.2.1 ∧ res.2.2.2 = t' ∧
      (EE.absD res.2.2.1).acc = headerBytes P fk stanzas ++ nonce ∧
      ∀ c : Bytes, Extracted.age_Decrypt DE.D DE.U GoTie.errorsIsEq DE.mac DE.newReader DE.key ((EE.absD res.2.2.1).acc ++ c) (pre ++ id :: post) =
        .ok (streamKey P fk nonce ++ c, none) :=
  GoTie.code_file_roundtrip P hP EE DE d hd rs tape hrs fk stanzas t nonce t' hh hn pre post id hpre hid

/-- non-vacuity: with the toy primitive suite, one X25519 recipient, a 64-byte tape and the identity whose public key
    the toy X25519 makes of any secret, the premises hold — so the conclusion does, for every `c` -/
theorem code_file_roundtrip_instance :
    let EE := GoTie.EncryptEnv.witness Stream.DstSpec.perfect
    let DE := GoTie.DecryptEnv.witness
    ∃ res K, Extracted.age_Encrypt EE.nilW (GoTie.tapeRead EE.eRand) EE.W EE.mac EE.marshalF EE.write EE.newWriter EE.key
          ⟨[], ()⟩ [Recipient.x25519 (List.replicate 32 0)] (List.replicate 64 7) = .ok res ∧ res.2.1 = none ∧
      ∀ c : Bytes, Extracted.age_Decrypt DE.D DE.U GoTie.errorsIsEq DE.mac DE.newReader DE.key ((EE.absD res.2.2.1).acc ++ c)
          [Identity.x25519 [1]] = .ok (K ++ c, none) := by
  intro EE DE
  have hP := Prims.toy16_correct
  obtain ⟨fk, st, hh, hid⟩ := GoTie.toy_header
  obtain ⟨res, h1, h2, _, _, _, h6⟩ := code_file_roundtrip Prims.toy16 hP EE DE ⟨[], ()⟩ rfl [Recipient.x25519 (List.replicate 32 0)]
    (List.replicate 64 7) (by intro r hr; simp only [List.map_cons, List.map_nil, List.mem_singleton] at hr; subst hr; exact producesWF_x25519 _ hP _)
    fk st _ (List.replicate 16 7) [] hh (by decide) [] [] (Identity.x25519 [1]) (by intro i hi; cases hi) hid
  exact ⟨res, _, h1, h2, h6⟩

/-! **The whole pipeline in one statement** (`code_pipeline`): the translated `age.Encrypt` on an empty destination
that takes every write; the writer it returns is the translated stream writer over that destination; ANY input in
ANY split into writes goes through the translated `Write`, then `Close`; the destination then holds
header ‖ nonce ‖ payload; the translated `age.Decrypt` over those bytes — any identity list whose first identity
not answering "incorrect identity" opens the file key — returns a reader under the SAME stream key over the payload;
and the translated stream reader over that payload under that key, called with any sequence of positive buffer sizes
long enough to reach the end, returns exactly the input followed by io.EOF. What joins the halves is stated as
hypotheses: the handle `Encrypt` returns IS the stream writer's initial state over the destination (`hmk`: what
`stream.NewWriter` builds, `Tie/C12.newWriter_tie`) and the two views of the destination coincide (`hD`). -/

theorem code_pipeline (P : Prims) (hP : P.Correct) (hN : P.aead.NonceSep) {ρ δ α ι : Type}
    (EE : GoTie.EncryptEnv P Stream.DstSpec.perfect ρ δ (Extracted.stream_Writer α δ)) (DE : GoTie.DecryptEnv P ι)
    (d : δ) (hd : (EE.absD d).acc = []) (rs : List ρ) (tape : Bytes)
    (hrs : ∀ r ∈ rs.map EE.recOf, r.ProducesWF P)
    (fk : Bytes) (stanzas : List Format.Stanza) (t nonce t' : Bytes)
    (hh : encryptHeader P tape (rs.map EE.recOf) = .ok (fk, stanzas, t))
    (hn : draw streamNonceSize t = some (nonce, t'))
    (pre post : List ι) (id : ι)
    (hpre : ∀ i ∈ pre, (DE.idOf i).unwrap P stanzas = .incorrect) (hid : (DE.idOf id).unwrap P stanzas = .key fk)
    (a : α)
    (hmk : ∀ d', EE.mkW (streamKey P fk nonce) d' = ⟨a, d', 0, 0, List.replicate 65552 0, List.replicate 12 0, none⟩)
    (SE : GoTie.AeadEnv α P.aead (streamKey P fk nonce)) (D : GoTie.DstEnv δ Stream.DstSpec.perfect) (hD : D.absD = EE.absD)
    (ps : List Bytes) (hlen : ps.flatten.length < 2 ^ 64) (sizes : List Nat) (hpos : ∀ s ∈ sizes, 0 < s)
    (hlong : ps.flatten.length + (Stream.encrypt P.aead 65536 (streamKey P fk nonce) ps.flatten).length + 1 < sizes.length) :
    ∃ res w1 w2 r',
      Extracted.age_Encrypt EE.nilW (GoTie.tapeRead EE.eRand) EE.W EE.mac EE.marshalF EE.write EE.newWriter EE.key d rs tape = .ok res ∧
      res.2.1 = none ∧
      GoTie.streamWrites SE D res.1 ps = .ok (none, w1) ∧
      Extracted.stream_Writer_Close SE.seal_ D.write w1 = .ok (none, w2) ∧
      (EE.absD w2.dst).acc = headerBytes P fk stanzas ++ nonce ++ Stream.encrypt P.aead 65536 (streamKey P fk nonce) ps.flatten ∧
      Extracted.age_Decrypt DE.D DE.U GoTie.errorsIsEq DE.mac DE.newReader DE.key (EE.absD w2.dst).acc (pre ++ id :: post) =
        .ok (streamKey P fk nonce ++ Stream.encrypt P.aead 65536 (streamKey P fk nonce) ps.flatten, none) ∧
      GoTie.streamReads SE ⟨a, ⟨Stream.encrypt P.aead 65536 (streamKey P fk nonce) ps.flatten, false⟩, 0, 0, List.replicate 65552 0, none,
          List.replicate 12 0⟩ sizes = .ok (r', ps.flatten, Go.io_EOF) :=
  GoTie.code_pipeline P hP hN EE DE d hd rs tape hrs fk stanzas t nonce t' hh hn pre post id hpre hid a hmk SE D hD ps hlen sizes hpos hlong

/-- non-vacuity of the pipeline: toy primitives, one X25519 recipient, a 64-byte tape, the writer handle being the
    stream writer's initial state, ANY input below 2^64 bytes in any split, one-byte reads — every premise holds, so
    the run exists and ends with the input followed by io.EOF -/
theorem code_pipeline_instance (ps : List Bytes) (hlen : ps.flatten.length < 2 ^ 64) :
    ∃ (K payload : Bytes) (sizes : List Nat) (r' : Extracted.stream_Reader Unit),
      (∀ s ∈ sizes, 0 < s) ∧
      GoTie.streamReads (GoTie.AeadEnv.witness K) ⟨(), ⟨payload, false⟩, 0, 0, List.replicate 65552 0, none, List.replicate 12 0⟩ sizes =
        .ok (r', ps.flatten, Go.io_EOF) ∧
      ∃ file : Bytes, Extracted.age_Decrypt GoTie.DecryptEnv.witness.D GoTie.DecryptEnv.witness.U GoTie.errorsIsEq GoTie.DecryptEnv.witness.mac
          GoTie.DecryptEnv.witness.newReader GoTie.DecryptEnv.witness.key file [Identity.x25519 [1]] = .ok (K ++ payload, none) := by
  let mkW : Bytes → Stream.Dst Stream.DstSpec.perfect → Extracted.stream_Writer Unit (Stream.Dst Stream.DstSpec.perfect) :=
    fun _ d => ⟨(), d, 0, 0, List.replicate 65552 0, List.replicate 12 0, none⟩
  let EE := GoTie.EncryptEnv.witnessW Stream.DstSpec.perfect (mkW [] ⟨[], ()⟩) mkW
  let DE := GoTie.DecryptEnv.witness
  have hP := Prims.toy16_correct
  obtain ⟨fk, st, hh, hid⟩ := GoTie.toy_header
  let n := ps.flatten.length + (Stream.encrypt Prims.toy16.aead 65536 (streamKey Prims.toy16 fk (List.replicate 16 7)) ps.flatten).length + 2
  obtain ⟨res, w1, w2, r', _, _, _, _, _, hdec, hrd⟩ := code_pipeline Prims.toy16 hP AEAD.toy16_nonceSep EE DE ⟨[], ()⟩ rfl
    [Recipient.x25519 (List.replicate 32 0)] (List.replicate 64 7)
    (by intro r hr; simp only [List.map_cons, List.map_nil, List.mem_singleton] at hr; subst hr; exact producesWF_x25519 _ hP _)
    fk st _ (List.replicate 16 7) [] hh (by decide) [] [] (Identity.x25519 [1]) (by intro i hi; cases hi) hid () (fun _ => rfl)
    (GoTie.AeadEnv.witness (streamKey Prims.toy16 fk (List.replicate 16 7))) (GoTie.DstEnv.witness Stream.DstSpec.perfect) rfl ps hlen (List.replicate n 1)
    (by intro s hs; rw [List.mem_replicate] at hs; omega) (by rw [List.length_replicate]; omega)
  exact ⟨streamKey Prims.toy16 fk (List.replicate 16 7), _, _, r', by intro s hs; rw [List.mem_replicate] at hs; omega, hrd, _, hdec⟩

/-- **the assumption structures this file's theorems take are satisfiable** (for a lawful toy primitive suite
    with the 16-byte tag, where they mention primitives): none of the theorems above is vacuous. The instances are
    collected by `Proofs/GoTieWitnessA.lean` / `GoTieWitnessB.lean`. -/
theorem assumptions_satisfiable :
    Prims.toy16.Correct ∧ Prims.toy16.aead.NonceSep ∧ Prims.toy16.aead.T = 16 ∧
    Nonempty (GoTie.DecryptEnv Prims.toy16 Identity) ∧
    Nonempty (GoTie.NativeEnv Prims.toy16 Bytes) ∧
    Nonempty (GoTie.RsaEnv Prims.toy16 Bytes Bytes Bytes) ∧
    Nonempty (GoTie.SshEnv Prims.toy16 Bytes Bytes) :=
  ⟨Prims.toy16_correct, AEAD.toy16_nonceSep, rfl, ⟨GoTie.DecryptEnv.witness⟩, ⟨GoTie.NativeEnv.witness⟩, ⟨GoTie.RsaEnv.witness⟩, ⟨GoTie.SshEnv.witness⟩⟩

end Tie.C01
end AgeModel
