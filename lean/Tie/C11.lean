/-
  Tie/C11 — in age.Encrypt every recipient is wrapped and its label set compared
  inside the recipients loop, and that loop ends before the destination is
  first used. Fact regenerated from /repo (`Extracted/CallOrder.lean`);
  positional evidence supporting the dynamic oracle (bytes at dst after refusal).
-/
import AgeModel.Extracted.CallOrder
import Proofs.GoTieSlicesEq
import Proofs.GoTieEncrypt
import Proofs.GoTieWrapLabels
import Props.C11
import Proofs.GoTieWitnessFile
namespace AgeModel
namespace Tie.C11

theorem label_check_precedes_first_write : Extracted.labelCheckPrecedesFirstWrite = true := by decide

/-- nothing touches dst before the wraps and the comparison -/
theorem encrypt_order_prefix : (Extracted.encryptOrder.map (·.1)).take 3 =
    ["wrap recipient (with labels)", "compare label sets", "use of dst"] := rfl


/-- The code itself (DESIGN.md §5.3): `slicesEqual`, with which Encrypt compares the sorted
    label lists, TRANSLATED from the source on every run, is list equality. -/
theorem slicesEqual_tie (a b : List Bytes) : Extracted.age_slicesEqual a b = .ok (decide (a = b)) :=
  GoTie.slicesEqual_tie a b


/-! ## age.Encrypt itself (DESIGN.md §5.3): the label rule and "a refusal writes nothing"

`age.Encrypt`, TRANSLATED from age.go on every run (recipient loop: `wrapWithLabels`,
`sort.Strings`, the first recipient's list as the reference, `slicesEqual`, the failing wrap with its
index; then `headerMAC`, `Header.Marshal(dst)`, the nonce, `dst.Write`), with the destination an
explicit state, does what the model's `encryptInit` does: it refuses exactly the lists the model
refuses, with the destination in the SAME state (untouched when the refusal comes from the labels or
a wrap) — `Props.C11.encrypt_ok_iff_labels_equal`, `refusal_writes_nothing`, `write_implies_compatible`
are about the source text. -/

theorem encrypt_tie (P : Prims) {S : AgeModel.Stream.DstSpec} {ρ δ ω : Type} (E : GoTie.EncryptEnv P S ρ δ ω)
    (d : δ) (rs : List ρ) (tape : Bytes) :
    ∃ res, Extracted.age_Encrypt E.nilW (GoTie.tapeRead E.eRand) E.W E.mac E.marshalF E.write E.newWriter E.key d rs tape = .ok res ∧
      match encryptInit P tape (rs.map E.recOf) E.hdrSegs (E.absD d) with
      | (.ok (w, k, t'), d2) =>
          res.1 = E.mkW k res.2.2.1 ∧ res.2.1 = none ∧ E.absD res.2.2.1 = d2 ∧ res.2.2.2 = t' ∧ w = AgeModel.Stream.Writer.new d2
      | (.error e, d2) => res.1 = E.nilW ∧ GoTie.encErrRel E.eRand e res.2.1 ∧ E.absD res.2.2.1 = d2 :=
  GoTie.encrypt_tie P E d rs tape

/-- `age.wrapWithLabels`, translated: a recipient that does not implement `RecipientWithLabels`
    counts as having NO labels -/
theorem wrapWithLabels_tie {ρ : Type} (impl : ρ → Bool)
    (WL : ρ → Bytes → Go.M (List Extracted.age_Stanza × List Bytes × Option Go.Err))
    (W : ρ → Bytes → Go.M (List Extracted.age_Stanza × Option Go.Err)) (r : ρ) (fk : Bytes) :
    Extracted.age_wrapWithLabels impl WL W r fk =
      if impl r = true then WL r fk
      else (W r fk).map (fun t => (t.1, [], t.2)) :=
  GoTie.wrapWithLabels_tie impl WL W r fk

/-! ### The property, stated about the CODE

`encrypt_tie` composed with `Props.C11.refusal_writes_nothing`: whenever the header cannot be built — no recipients, a
random source that fails, a recipient that fails to wrap, recipients whose label sets differ — the TRANSLATED
`age.Encrypt` reports an error, returns the NIL writer (nothing the caller could go on writing with) and hands the
destination back in the state it was given: not a byte was written. -/

theorem code_encrypt_refusal_writes_nothing (P : Prims) {S : AgeModel.Stream.DstSpec} {ρ δ ω : Type}
    (E : GoTie.EncryptEnv P S ρ δ ω) (d : δ) (rs : List ρ) (tape : Bytes) (e : EncErr)
    (h : encryptHeader P tape (rs.map E.recOf) = .error e) :
    ∃ res, Extracted.age_Encrypt E.nilW (GoTie.tapeRead E.eRand) E.W E.mac E.marshalF E.write E.newWriter E.key d rs tape = .ok res ∧
      res.1 = E.nilW ∧ GoTie.encErrRel E.eRand e res.2.1 ∧ E.absD res.2.2.1 = E.absD d := by
  obtain ⟨res, hrun, hres⟩ := encrypt_tie P E d rs tape
  rw [Props.C11.refusal_writes_nothing P tape (rs.map E.recOf) E.hdrSegs (E.absD d) e h] at hres
  exact ⟨res, hrun, hres⟩

/-- … in particular for recipients whose labels differ: error site 2 of `Encrypt`, nothing written -/
theorem code_encrypt_incompatible (P : Prims) {S : AgeModel.Stream.DstSpec} {ρ δ ω : Type}
    (E : GoTie.EncryptEnv P S ρ δ ω) (d : δ) (rs : List ρ) (tape : Bytes)
    (h : encryptHeader P tape (rs.map E.recOf) = .error .incompatible) :
    ∃ res, Extracted.age_Encrypt E.nilW (GoTie.tapeRead E.eRand) E.W E.mac E.marshalF E.write E.newWriter E.key d rs tape = .ok res ∧
      res.1 = E.nilW ∧ res.2.1 = some ⟨"age.Encrypt", 2, []⟩ ∧ E.absD res.2.2.1 = E.absD d := by
  obtain ⟨res, hrun, hnil, herr, habs⟩ := code_encrypt_refusal_writes_nothing P E d rs tape .incompatible h
  exact ⟨res, hrun, hnil, herr, habs⟩

/-- **the assumption structures this file's theorems take are satisfiable** (for a lawful toy primitive suite
    with the 16-byte tag, where they mention primitives): none of the theorems above is vacuous. The instances are
    collected by `Proofs/GoTieWitnessA.lean` / `GoTieWitnessB.lean`. -/
theorem assumptions_satisfiable :
    Prims.toy16.Correct ∧ Prims.toy16.aead.NonceSep ∧ Prims.toy16.aead.T = 16 ∧
    (∀ S : Stream.DstSpec, Nonempty (GoTie.EncryptEnv Prims.toy16 S Recipient (Stream.Dst S) (Option (Bytes × Stream.Dst S)))) :=
  ⟨Prims.toy16_correct, AEAD.toy16_nonceSep, rfl, (fun S => ⟨GoTie.EncryptEnv.witness S⟩)⟩

end Tie.C11
end AgeModel
