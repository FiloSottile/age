/-
  Tie/C09 — Bech32 and the key strings, as they stand in /repo.

  The constants the Bech32 model has inlined (character set, the five generator
  constants of the checksum, in index order) are the ones in
  /repo/internal/bech32/bech32.go (`Extracted/Consts.lean`, regenerated on every
  run).  The code-distance theorem `no_low_weight_codeword` is a statement about
  exactly these constants.

  Then the code itself: the translated functions of internal/bech32,
  plugin/encode.go and x25519.go compute what the model's functions compute, and
  the recipient round trip is stated about the code.
-/
import AgeModel.Bech32
import AgeModel.Extracted.Consts
import Proofs.GoTieCodec
import Proofs.GoTiePluginCodec
import Proofs.GoTieKeys
import Props.C09
namespace AgeModel
namespace Tie.C09
open Bech32

/-- the checksum step written over an explicit generator table, as the Go loop is -/
def polymodStepG (g : List Nat) (chk : Nat) (v : UInt8) : Nat :=
  let top := chk >>> 25
  let c0 := ((chk &&& 0x1ffffff) <<< 5) ^^^ v.toNat
  [0, 1, 2, 3, 4].foldl (fun c i => feed top i (g.getD i 0) c) c0

theorem charset_tie : charset.map UInt8.toNat = Extracted.bech32CharsetBytes := by decide

theorem generator_length : Extracted.bech32Generator.length = 5 := by decide

/-- the model's unrolled checksum step IS the loop over the extracted generator table -/
theorem generator_tie (chk : Nat) (v : UInt8) : polymodStep chk v = polymodStepG Extracted.bech32Generator chk v := by
  rfl


/-! ## The code itself (DESIGN.md §5.3)

`Extracted/Funcs.lean` is a statement-by-statement TRANSLATION of
internal/bech32/bech32.go and plugin/encode.go, regenerated from /repo on every
run. The theorems below say that, for ALL inputs, what that code computes is
what the hand-written model computes — so every theorem of Props/C09 about
`Bech32.decode`, `Bech32.encode`, `Keys.parse*`, `Keys.encode*` is a theorem about
the functions as they stand in the source. -/

open Extracted in
theorem polymod_tie (vs : Bytes) : bech32_polymod vs = .ok (UInt32.ofNat (Bech32.polymod vs)) :=
  GoTie.polymod_tie vs

open Extracted in
theorem createChecksum_tie (hrp data : Bytes) (h : Go.isAscii hrp = true) :
    bech32_createChecksum hrp data = .ok (Bech32.createChecksum hrp data) :=
  GoTie.createChecksum_tie hrp data h

open Extracted in
theorem verifyChecksum_tie (hrp data : Bytes) (h : Go.isAscii hrp = true) :
    bech32_verifyChecksum hrp data = .ok (Bech32.verifyChecksum hrp data) :=
  GoTie.verifyChecksum_tie hrp data h

open Extracted in
theorem convertBits_tie_8_5 (data : Bytes) :
    bech32_convertBits data 8 5 true = GoTie.cbRes (Bech32.convertBits data 8 5 true) :=
  GoTie.convertBits_tie_8_5 data

open Extracted in
theorem convertBits_tie_5_8 (data : Bytes) :
    bech32_convertBits data 5 8 false = GoTie.cbRes (Bech32.convertBits data 5 8 false) :=
  GoTie.convertBits_tie_5_8 data

/-- `bech32.Decode`, for EVERY byte string (non-ASCII and invalid UTF-8 included):
    the model's result, value or error class -/
theorem decode_tie (s : Bytes) :
    Extracted.bech32_Decode s = .ok (match Bech32.decode s with
      | .ok (h, d) => (h, d, none)
      | .error e => ([], [], GoTie.decErr e)) :=
  GoTie.decode_tie s

/-- `bech32.Encode`; in particular it never faults (the `charset[p]` index is always in range) -/
theorem encode_tie (hrp data : Bytes) :
    Extracted.bech32_Encode hrp data = .ok (match Bech32.encode hrp data with
      | .ok s => (s, none)
      | .error e => ([], GoTie.encErr e)) :=
  GoTie.encode_tie hrp data

theorem encodeIdentity_tie (name data : Bytes) :
    Extracted.plugin_EncodeIdentity name data = .ok (Keys.encodeIdentity name data) :=
  GoTie.encodeIdentity_tie name data

theorem encodeRecipient_tie (name data : Bytes) :
    Extracted.plugin_EncodeRecipient name data = .ok (Keys.encodeRecipient name data) :=
  GoTie.encodeRecipient_tie name data

theorem parseIdentity_tie (s : Bytes) :
    Extracted.plugin_ParseIdentity s = .ok (match Keys.parseIdentity s with
      | .ok (n, d) => (n, d, none)
      | .error e => ([], [], GoTie.parseIdErr e)) :=
  GoTie.parseIdentity_tie s

theorem parseRecipient_tie (s : Bytes) :
    Extracted.plugin_ParseRecipient s = .ok (match Keys.parseRecipient s with
      | .ok (n, d) => (n, d, none)
      | .error e => ([], [], GoTie.parseRcErr e)) :=
  GoTie.parseRecipient_tie s

/-! The native key strings themselves (x25519.go), translated on every run on top of the translated
`bech32.Decode` / `Encode`: for every byte string they compute the model's `Keys.parseX25519Recipient`,
`parseX25519Identity`, `recipientString`, `identityString` — the functions the round-trip,
canonicity and rejection theorems of `Props.C09` are about. -/

theorem parseX25519Recipient_tie (s : Bytes) :
    ∃ res, Extracted.age_ParseX25519Recipient s = .ok res ∧
      match Keys.parseX25519Recipient s with
      | .ok k => res = (⟨k⟩, none)
      | .error _ => res.1 = ⟨[]⟩ ∧ res.2 ≠ none :=
  GoTie.parseX25519Recipient_tie s

theorem recipientString_tie (k : Bytes) :
    Extracted.age_X25519Recipient_String ⟨k⟩ = .ok (Keys.recipientString k) :=
  GoTie.recipientString_tie k

theorem parseX25519Identity_tie (X : Bytes → Bytes → Go.M (Bytes × Option Go.Err)) (bp : Bytes)
    (hX : ∀ a b, ∃ r, X a b = .ok r) (s : Bytes) :
    ∃ res, Extracted.age_ParseX25519Identity X bp s = .ok res ∧
      match Keys.parseX25519Identity s with
      | .ok k => res.2 = none ∧ res.1.secretKey = k ∧ ∃ e, X k bp = .ok (res.1.ourPublicKey, e)
      | .error _ => res.1 = ⟨[], []⟩ ∧ res.2 ≠ none :=
  GoTie.parseX25519Identity_tie X bp hX s

theorem identityString_tie (k pub : Bytes) :
    Extracted.age_X25519Identity_String ⟨k, pub⟩ = .ok (Keys.identityString k) :=
  GoTie.identityString_tie k pub

/-! ### The round trip, stated about the CODE

The string ties composed with `Props.C09.x25519_recipient_roundtrip`: for EVERY 32-byte key, what the translated
`(*X25519Recipient).String` prints is parsed by the translated `ParseX25519Recipient` back to that key. -/

theorem code_recipient_roundtrip (k : Bytes) (hk : k.length = 32) :
    ∃ s, Extracted.age_X25519Recipient_String ⟨k⟩ = .ok s ∧ Extracted.age_ParseX25519Recipient s = .ok (⟨k⟩, none) := by
  refine ⟨Keys.recipientString k, recipientString_tie k, ?_⟩
  obtain ⟨res, hrun, hres⟩ := parseX25519Recipient_tie (Keys.recipientString k)
  rw [Props.C09.x25519_recipient_roundtrip k hk] at hres
  rw [hrun, hres]

end Tie.C09
end AgeModel
