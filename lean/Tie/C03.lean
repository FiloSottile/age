/-
  Tie/C03 — in age.Decrypt the header MAC comparison guards an error return and
  precedes the creation of the payload reader. Fact regenerated from /repo
  (`Extracted/CallOrder.lean`); positional evidence supporting the dynamic oracle.
-/
import AgeModel.Extracted.CallOrder
import Proofs.GoTieDecrypt
import Proofs.GoTiePrims
import Props.C03
import Proofs.GoTieWitnessFile
namespace AgeModel
namespace Tie.C03

/-- the extractor's own verdict (a constant it writes), AND the same fact recomputed here from the event table it
    emits: the MAC comparison and the reader's creation both occur, once each, the comparison on an earlier source line.
    (The semantic statement is `code_decrypt_mac_gate` below.) -/
theorem mac_check_precedes_reader :
    Extracted.macCheckPrecedesReader = true ∧
    (Extracted.decryptOrder.map (·.2)).Pairwise (· < ·) ∧
    (Extracted.decryptOrder.filter (·.1 == "hmac.Equal")).length = 1 ∧
    (Extracted.decryptOrder.filter (·.1 == "stream.NewReader")).length = 1 := by decide +kernel

theorem decrypt_order : Extracted.decryptOrder.map (·.1) = ["hmac.Equal", "stream.NewReader"] := rfl


/-! (That `format.Parse` as it stands in the source returns the model's header and remainder for every
    input — which makes `mac_covers_received_bytes` a statement about the source — is `Tie.C07.parse_tie`;
    it is not repeated here, so that a rewrite of the parser touches C07's obligations only.) -/


/-! ## age.Decrypt itself (DESIGN.md §5.3)

`age.Decrypt` is TRANSLATED from age.go on every run: `format.Parse` (translated too), the identity
loop, the nil-key test, THE HEADER MAC COMPARISON, the nonce, and only then `stream.NewReader`.
`Identity.Unwrap`, `headerMAC`, `streamKey`, `stream.NewReader`, `format.DecodeString` are abstract
and assumed to be the model's (`GoTie.DecryptEnv`). For every file and identity list the translated
`Decrypt` returns what the model's `decryptInit` returns — in particular a reader ONLY when the MAC
the file carries equals the MAC of the received header bytes under the unwrapped file key
(`Props.C03.mac_gate`, `wrong_mac_rejected`, `header_edit_reduction` are about the source text). -/

theorem decrypt_tie (P : Prims) {ι : Type} (E : GoTie.DecryptEnv P ι) (file : Bytes) (ids : List ι) :
    ∃ res, Extracted.age_Decrypt E.D E.U GoTie.errorsIsEq E.mac E.newReader E.key file ids = .ok res ∧
      match (decryptInit P (ids.map E.idOf) file).1 with
      | .ok (k, payload) => res = (k ++ payload, none)
      | .error (.fatal idx) => ∃ hdr payload j r, Format.parse file = .ok (hdr, payload) ∧ ids[idx]? = some j ∧
          E.U j (hdr.stanzas.map GoTie.toGoStanza) = .ok r ∧ r.2 ≠ none ∧ r.2 ≠ Extracted.age_ErrIncorrectIdentity ∧
          res = ([], r.2)
      | .error e => res = ([], GoTie.decryptErr e none) :=
  GoTie.decrypt_tie P E file ids

/-- what that MAC is, in the source: `age.headerMAC` translated from primitives.go — HMAC under
    HKDF(file key, no salt, "header") of the header as received, serialised without its MAC
    (HKDF, HMAC and `MarshalWithoutMAC` are parameters, `GoTie.MacEnv`) -/
theorem headerMAC_tie (P : Prims) {κ η : Type} (E : GoTie.MacEnv P κ η) (fk : Bytes) (hdr : Format.Header) :
    Extracted.age_headerMAC E.H E.R E.N E.M E.S fk ⟨hdr.stanzas.map GoTie.toGoFStanza, hdr.mac⟩ =
      .ok (P.hmac (P.hkdf fk [] headerInfo 32) (Format.marshalNoMAC hdr), none) :=
  GoTie.headerMAC_tie P E fk hdr

/-! ### The property, stated about the CODE

`decrypt_tie` composed with `Props.C03.mac_gate`: whenever the TRANSLATED `age.Decrypt` returns without an error —
i.e. hands out a reader — the file parsed as a header `hdr` followed by `rest`, some identity unwrapped a file key
`fk`, and the MAC the file carries IS HMAC(HKDF(fk, "header"), the header as received without its MAC); what is
handed on is the stream key derived from `fk` and the 16 bytes after the header, followed by the payload. -/

theorem code_decrypt_mac_gate (P : Prims) {ι : Type} (E : GoTie.DecryptEnv P ι) (file : Bytes) (ids : List ι)
    (out : Bytes) (hrun : Extracted.age_Decrypt E.D E.U GoTie.errorsIsEq E.mac E.newReader E.key file ids = .ok (out, none)) :
    ∃ hdr rest fk, Format.parse file = .ok (hdr, rest) ∧ (∃ i ∈ ids.map E.idOf, i.unwrap P hdr.stanzas = .key fk) ∧
      hdr.mac = P.hmac (P.hkdf fk [] headerInfo 32) (Format.marshalNoMAC hdr) ∧
      out = streamKey P fk (rest.take 16) ++ rest.drop 16 := by
  obtain ⟨res, hrun', hres⟩ := decrypt_tie P E file ids
  rw [hrun] at hrun'
  simp only [Except.ok.injEq] at hrun'
  subst hrun'
  cases hd : decryptInit P (ids.map E.idOf) file with
  | mk r c =>
    rw [hd] at hres
    cases r with
    | ok v =>
      obtain ⟨k, payload⟩ := v
      simp only [Prod.mk.injEq, and_true] at hres
      obtain ⟨hdr, rest, fk, hp, hi, hmac, hk, hpl⟩ := Props.C03.mac_gate P (ids.map E.idOf) file k payload c hd
      exact ⟨hdr, rest, fk, hp, hi, hmac, by rw [hres, hk, hpl]⟩
    | error e =>
      -- every error class of the model comes back as a non-nil error
      cases e with
      | fatal idx =>
        obtain ⟨_, _, _, r, _, _, _, hne, _, he⟩ := hres
        exact absurd (congrArg Prod.snd he).symm hne
      | _ => cases hres

/-- **the assumption structures this file's theorems take are satisfiable** (for a lawful toy primitive suite
    with the 16-byte tag, where they mention primitives): none of the theorems above is vacuous. The instances are
    collected by `Proofs/GoTieWitnessA.lean` / `GoTieWitnessB.lean`. -/
theorem assumptions_satisfiable :
    Prims.toy16.Correct ∧ Prims.toy16.aead.NonceSep ∧ Prims.toy16.aead.T = 16 ∧
    Nonempty (GoTie.DecryptEnv Prims.toy16 Identity) ∧
    Nonempty (GoTie.MacEnv Prims.toy16 Bytes (Bytes × Bytes)) :=
  ⟨Prims.toy16_correct, AEAD.toy16_nonceSep, rfl, ⟨GoTie.DecryptEnv.witness⟩, ⟨GoTie.MacEnv.witness⟩⟩

end Tie.C03
end AgeModel
