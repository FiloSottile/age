/-
  Tie/C16 — the plugin client's two conversations, as they stand in the source.

  `(*Recipient).WrapWithLabels` and `(*Identity).Unwrap` (plugin/client.go) are TRANSLATED from
  /repo on every run — phase 1, the phase-2 read loop with its `switch` on the stanza type, the
  labelled `break`, both `defer`s — with the process, the stanza reader on its output and the UI as
  abstract state (`GoTie.PluginEnv`: writing appends one stanza to the transcript, reading pops the
  next message of the plugin's script or reports how it ends, `ClientUI.handle` is the model's
  `UI.handle`). For EVERY script the translated client writes exactly the model's phase 1 followed
  by the model's replies, leaves the UI in the model's state and returns the model's result — so
  the theorems of `Props.C16` about `recipientClient` / `identityClient` (index 0 only, repeated
  file key or labels, error acknowledged then reported, unknown commands answered `unsupported`,
  zero stanzas, no file key = incorrect identity, a plugin that stops = an error) are about the
  state machines in the source. `(*ClientUI).handle` is translated too (`handle_tie`, for callbacks
  without hidden state); `readStanza`, the framing on the wire and the process itself stay tied by
  the correspondence (scripted plugin process).
-/
import Proofs.GoTiePluginR
import Proofs.GoTiePluginI
import Proofs.GoTieWriteStanza
import Proofs.GoTiePluginUI
import Props.C16
import Proofs.GoTieWitnessMarshal
import Proofs.GoTieWitnessPlugin
import Proofs.GoTiePluginFail
namespace AgeModel
namespace Tie.C16
open Extracted Plugin GoTie

theorem recipient_client_tie {S σ υ χ : Type} (E : PluginEnv S σ υ χ)
    (identityMode : Bool) (encoding grease : String) (fileKey : Bytes) :
    ∃ (res : List age_Stanza × Option (List Bytes) × Option Go.Err) (c : χ), plugin_Recipient_WrapWithLabels E.Open E.W E.Close (bs grease) E.WB E.New E.Rd E.Hd E.rem
        ⟨E.name, bs encoding, E.u, identityMode⟩ fileKey = .ok (res.1, res.2.1, res.2.2, some c) ∧
      let o := recipientClient E.ui E.dec E.st0 identityMode encoding fileKey grease E.script
      E.absC c = o.phase1 ++ o.replies ∧ E.uiOf c = o.ui ∧
      match o.result with
      | .ok (ss, ls) => res.1 = ss.map goAS ∧ res.2.1 = ls.map (·.map bs) ∧ res.2.2 = none
      | .error e => res.1 = [] ∧ res.2.1 = none ∧ rErrRel E e res.2.2 :=
  GoTie.recipient_client_tie E identityMode encoding grease fileKey

theorem identity_client_tie {S σ υ χ : Type} (E : PluginEnv S σ υ χ)
    (encoding grease : String) (stanzas : List Plugin.Stanza) :
    ∃ (res : Bytes × Option Go.Err) (c : χ), plugin_Identity_Unwrap E.Open E.W E.Close (bs grease) E.M E.New E.Rd E.Hd E.rem
        ⟨E.name, bs encoding, E.u⟩ (stanzas.map goAS) = .ok (res.1, res.2, some c) ∧
      let o := identityClient E.ui E.dec E.st0 encoding stanzas grease E.script
      E.absC c = o.phase1 ++ o.replies ∧ E.uiOf c = o.ui ∧
      match o.result with
      | .ok k => res.1 = k ∧ res.2 = none
      | .error e => res.1 = [] ∧ iErrRel E e res.2 :=
  GoTie.identity_client_tie E encoding grease stanzas

/-! What goes on the wire: `writeStanza` / `writeStanzaWithBody` (translated on top of the translated
`Stanza.Marshal`) write the canonical serialisation of the stanza they are given — the "writing
appends one stanza to the transcript" assumption of `PluginEnv`, at the level of bytes. -/

theorem writeStanza_tie {δ ε ω : Type} (E : GoTie.MarshalEnv δ ε ω) (t : Bytes) (args : List Bytes) (d : δ) :
    ∃ d', plugin_writeStanza E.W E.b64 E.New E.Wr E.Cl d t args = .ok (none, d') ∧
      E.absD d' = E.absD d ++ Format.marshalStanza ⟨t, args, []⟩ :=
  GoTie.writeStanza_tie E t args d

theorem writeStanzaWithBody_tie {δ ε ω : Type} (E : GoTie.MarshalEnv δ ε ω) (t body : Bytes) (d : δ) :
    ∃ d', plugin_writeStanzaWithBody E.W E.b64 E.New E.Wr E.Cl d t body = .ok (none, d') ∧
      E.absD d' = E.absD d ++ Format.marshalStanza ⟨t, [], body⟩ :=
  GoTie.writeStanzaWithBody_tie E t body d

/-! What a UI command gets for an answer: `(*ClientUI).handle`, translated with its three callbacks
as fields that may be nil. For callbacks given as pure functions it IS the model's `UI.handle`
(one reply appended to the transcript; a fatal error with nothing written; or "not a UI command"
with nothing written). Informally this is what `Hd` of `PluginEnv` above assumes about the shape of the
replies; it does not discharge `hHd`: `UIEnv` has no UI state, and a fatal case here says only that the
error is not nil, where `hHd` names it. -/

theorem handle_tie {χ : Type} (E : GoTie.UIEnv χ) (u : GoTie.PureUI) (eU : Go.Err) (name : Bytes) (conn : χ)
    (m : Plugin.Stanza) :
    ∃ out, plugin_ClientUI_handle E.W E.WB E.D (u.go eU) name conn (goFS m) = .ok out ∧
      match u.model.handle E.dec () m with
      | .reply _ r => out.1 = true ∧ out.2.1 = none ∧ E.absC out.2.2 = E.absC conn ++ [r]
      | .fatal => out.1 = true ∧ out.2.1 ≠ none ∧ E.absC out.2.2 = E.absC conn
      | .unknown => out.1 = false ∧ out.2.1 = none ∧ E.absC out.2.2 = E.absC conn :=
  GoTie.handle_tie E u eU name conn m

/-! ### Two clauses of the property, stated about the CODE

Through `recipient_client_tie`, theorems of `Props.C16` about the model's `recipientClient` become
statements about `(*Recipient).WrapWithLabels` as it stands in the source. -/

/-- a plugin whose output ends without `done` — cleanly, inside a stanza or with malformed framing — makes the translated
    `WrapWithLabels` return an ERROR and no stanzas, whatever it said before -/
theorem code_wrap_eof_is_error {S σ υ χ : Type} (E : PluginEnv S σ υ χ)
    (identityMode : Bool) (encoding grease : String) (fileKey : Bytes) (h : Props.C16.noDone E.script.msgs) :
    ∃ (res : List age_Stanza × Option (List Bytes) × Option Go.Err) (c : χ),
      plugin_Recipient_WrapWithLabels E.Open E.W E.Close (bs grease) E.WB E.New E.Rd E.Hd E.rem
        ⟨E.name, bs encoding, E.u, identityMode⟩ fileKey = .ok (res.1, res.2.1, res.2.2, some c) ∧
      res.1 = [] ∧ res.2.2 ≠ none := by
  obtain ⟨res, c, hrun, _, _, hres⟩ := GoTie.recipient_client_tie E identityMode encoding grease fileKey
  obtain ⟨err, herr, _⟩ := Props.C16.eof_is_error_recipient E.ui E.dec E.st0 identityMode encoding fileKey grease
    E.script.msgs E.script.fin h
  rw [show (⟨E.script.msgs, E.script.fin⟩ : Conv) = E.script from rfl] at herr
  rw [herr] at hres
  exact ⟨res, c, hrun, hres.1, rErrRel_ne_none E hres.2.2⟩

/-- the translated `WrapWithLabels` never succeeds with zero stanzas: what it returns without error are exactly the stanzas
    of the plugin's `recipient-stanza` messages, in order, at least one -/
theorem code_wrap_never_empty {S σ υ χ : Type} (E : PluginEnv S σ υ χ)
    (identityMode : Bool) (encoding grease : String) (fileKey : Bytes)
    (res : List age_Stanza × Option (List Bytes) × Option Go.Err) (c : Option χ)
    (hrun : plugin_Recipient_WrapWithLabels E.Open E.W E.Close (bs grease) E.WB E.New E.Rd E.Hd E.rem
        ⟨E.name, bs encoding, E.u, identityMode⟩ fileKey = .ok (res.1, res.2.1, res.2.2, c))
    (hok : res.2.2 = none) :
    res.1 ≠ [] ∧ res.1 = (wrappedOf E.script.msgs).map goAS := by
  obtain ⟨res', c', hrun', _, _, hres⟩ := GoTie.recipient_client_tie E identityMode encoding grease fileKey
  rw [hrun'] at hrun
  simp only [Except.ok.injEq, Prod.mk.injEq] at hrun
  obtain ⟨e1, _, e3, _⟩ := hrun
  cases hr : (recipientClient E.ui E.dec E.st0 identityMode encoding fileKey grease E.script).result with
  | ok v =>
    obtain ⟨ws, l⟩ := v
    rw [hr] at hres
    obtain ⟨h1, _, _⟩ := hres
    have hspec := (Props.C16.no_stanza_wrap_fails E.ui E.dec E.st0 identityMode encoding fileKey grease E.script).1 ws l hr
    rw [← e1, h1]
    refine ⟨?_, by rw [hspec.2.1]⟩
    intro hnil
    exact hspec.1 (List.map_eq_nil_iff.mp hnil)
  | error err =>
    rw [hr] at hres
    exact absurd (e3.trans hok) (rErrRel_ne_none E hres.2.2)

/-! ### When the plugin cannot be reached

The simulations above assume (`PluginEnv`) that the plugin starts and that every write to it
succeeds. The paths they leave out, for EVERY behaviour of the other callees: when
`openClientConnection` fails the two client methods return their own error at once — nothing is
written to the plugin, no UI callback runs, no stanza / file key is returned; when the FIRST write
(`add-recipient` / `add-identity`) fails, they close the connection and return that write's error
with nothing else. (A write that fails LATER in the conversation is still outside these theorems:
the correspondence's scripted-plugin cases with a plugin that closes its input cover it.) -/

section fail
variable {σ υ χ : Type} (Open : Bytes → Bytes → Go.M (χ × Option Go.Err))
  (W : χ → Bytes → List Bytes → Go.M (Option Go.Err × χ)) (Close : χ → Go.M (Option Go.Err)) (grease : Bytes)
  (WB : χ → Bytes → Bytes → Go.M (Option Go.Err × χ)) (M : Extracted.format_Stanza → χ → Go.M (Option Go.Err × χ))
  (New : χ → Go.M σ) (Rd : υ → Bytes → σ → Go.M (Extracted.format_Stanza × Option Go.Err × σ))
  (Hd : υ → Bytes → χ → Extracted.format_Stanza → Go.M (Bool × Option Go.Err × χ)) (rem : σ → Nat)

theorem recipient_open_fails (r : Extracted.plugin_Recipient υ) (fk : Bytes) (c : χ) (e : Go.Err)
    (hO : Open r.name "recipient-v1".toUTF8.toList = .ok (c, some e)) :
    Extracted.plugin_Recipient_WrapWithLabels Open W Close grease WB New Rd Hd rem r fk =
      .ok ([], none, some ⟨"plugin.(*Recipient).WrapWithLabels", 0, []⟩, some c) :=
  GoTie.recipient_open_fails Open W Close grease WB New Rd Hd rem r fk c e hO

theorem identity_open_fails (i : Extracted.plugin_Identity υ) (ss : List Extracted.age_Stanza) (c : χ) (e : Go.Err)
    (hO : Open i.name "identity-v1".toUTF8.toList = .ok (c, some e)) :
    Extracted.plugin_Identity_Unwrap Open W Close grease M New Rd Hd rem i ss =
      .ok ([], some ⟨"plugin.(*Identity).Unwrap", 0, []⟩, some c) :=
  GoTie.identity_open_fails Open W Close grease M New Rd Hd rem i ss c e hO

theorem recipient_first_write_fails (r : Extracted.plugin_Recipient υ) (fk : Bytes) (c c' : χ) (e : Go.Err) (ce : Option Go.Err)
    (hO : Open r.name "recipient-v1".toUTF8.toList = .ok (c, none))
    (hW : W c (if r.identity then "add-identity".toUTF8.toList else "add-recipient".toUTF8.toList) [r.encoding] = .ok (some e, c'))
    (hC : Close c' = .ok ce) :
    Extracted.plugin_Recipient_WrapWithLabels Open W Close grease WB New Rd Hd rem r fk = .ok ([], none, some e, some c') :=
  GoTie.recipient_first_write_fails Open W Close grease WB New Rd Hd rem r fk c c' e ce hO hW hC

theorem identity_first_write_fails (i : Extracted.plugin_Identity υ) (ss : List Extracted.age_Stanza) (c c' : χ) (e : Go.Err) (ce : Option Go.Err)
    (hO : Open i.name "identity-v1".toUTF8.toList = .ok (c, none))
    (hW : W c "add-identity".toUTF8.toList [i.encoding] = .ok (some e, c'))
    (hC : Close c' = .ok ce) :
    Extracted.plugin_Identity_Unwrap Open W Close grease M New Rd Hd rem i ss = .ok ([], some e, some c') :=
  GoTie.identity_first_write_fails Open W Close grease M New Rd Hd rem i ss c c' e ce hO hW hC
end fail

/-- **the assumption structures this file's theorems take are satisfiable** (for a lawful toy primitive suite
    with the 16-byte tag, where they mention primitives): none of the theorems above is vacuous. The instances are in
    `Proofs/GoTieWitnessMarshal.lean` and `Proofs/GoTieWitnessPlugin.lean`. -/
theorem assumptions_satisfiable :
    Nonempty (GoTie.MarshalEnv Bytes Unit Bytes) ∧
    (∀ {S : Type} (ui : Plugin.UI S) (dec : String → Option Bytes) (script : Plugin.Conv) (st0 : S), ∃ E : GoTie.PluginEnv S (List Plugin.Stanza × Plugin.End) Unit (List Plugin.Stanza × S), E.ui = ui ∧ E.dec = dec ∧ E.script = script ∧ E.st0 = st0) ∧
    Nonempty (GoTie.UIEnv (List Plugin.Stanza)) :=
  ⟨⟨GoTie.MarshalEnv.witness⟩, (fun ui dec script st0 => ⟨GoTie.PluginEnv.witness ui dec script st0, ⟨rfl, rfl, rfl, rfl⟩⟩), ⟨GoTie.UIEnv.witness⟩⟩

end Tie.C16
end AgeModel
