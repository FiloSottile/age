/-
  Tie/C07 — the code itself (DESIGN.md §5.3). Two helpers of the header parser,
  TRANSLATED from internal/format/format.go on every run (`Extracted/Funcs.lean`),
  compute what the model's `validString` and `splitSp` compute, for every byte
  string — in particular `isValidString`, which ranges over RUNES, accepts exactly
  the non-empty strings all of whose BYTES are in 33..126.

  After them: the header parser itself (`readStanza_tie`, `readStanza_sticky`, `parse_tie`), the
  header serialiser (`header_marshal_tie` and its parts), `format.DecodeString`, and the round trip of
  the two translated functions (`code_parse_of_marshal`).

  Breaks when: the character range, the emptiness test, the separator or the
  trimming of the line terminator change.
-/
import Proofs.GoTieFmtStr
import Proofs.GoTieFormat
import Proofs.GoTieMarshal
import Proofs.GoTieSmall
import Props.C07
import Proofs.GoTieWitnessMarshal
namespace AgeModel
namespace Tie.C07

theorem isValidString_tie (s : Bytes) : Extracted.format_isValidString s = .ok (Format.validString s) :=
  GoTie.isValidString_tie s

/-- `splitArgs` on a line as `ReadBytes('\n')` returns it (terminator included) -/
theorem splitArgs_tie (l : Bytes) :
    Extracted.format_splitArgs (l ++ [Format.nl]) =
      .ok (match Format.splitSp l with
           | h :: t => (h, t)
           | [] => ([], [])) :=
  GoTie.splitArgs_tie l


/-! ## The header parser itself (DESIGN.md §5.3)

`format.Parse`, `(*StanzaReader).ReadStanza` and `NewStanzaReader` are TRANSLATED from
internal/format/format.go on every run — the intro line, the `Peek`/`ReadStanza` loop,
the sticky error with its `defer`, the body-line loop, the closing line with the MAC —
with `format.DecodeString` kept abstract and assumed to be the model's `decodeString`
(`GoTie.DecodeIsModel`; the strict base64 of the model is tied to Go's by this property's
correspondence). For EVERY input the translated parser returns what the model's
`Format.parse` returns: the same header (stanzas in order, MAC) and the same unread
remainder, or an error. `marshal_of_parse`, `parse_of_marshal`, `no_two_spellings`,
`parse_consumes_exactly` (Props/C07) are thereby theorems about the parser as it stands in
the source. (Translated up to the point where the Go code hands back the unread input;
the tail that unwinds bufio's read-ahead is outside the fragment, see Proofs/GoTieFormat.) -/

theorem parse_tie (D : Bytes → Go.M (Bytes × Option Go.Err)) (eD : Go.Err) (hD : GoTie.DecodeIsModel D eD)
    (input : Bytes) :
    ∃ res, Extracted.format_Parse D input = .ok res ∧
      match Format.parse input with
      | .ok (h, rest) => res = (GoTie.toGoHeader h, rest, none)
      | .error _ => res.2.2 ≠ none :=
  GoTie.parse_tie D eD hD input

theorem readStanza_tie (D : Bytes → Go.M (Bytes × Option Go.Err)) (eD : Go.Err) (hD : GoTie.DecodeIsModel D eD)
    (input : Bytes) :
    ∃ res, Extracted.format_StanzaReader_ReadStanza D ⟨input, none⟩ = .ok res ∧
      match Format.readStanza input with
      | .ok (st, rest) => res = (GoTie.toGoFStanza st, none, ⟨rest, none⟩)
      | .error _ => res.2.1 ≠ none ∧ res.2.2.err = res.2.1 :=
  GoTie.readStanza_tie D eD hD input

/-- read errors are unrecoverable -/
theorem readStanza_sticky (D : Bytes → Go.M (Bytes × Option Go.Err)) (rd : Bytes) (e : Go.Err) :
    Extracted.format_StanzaReader_ReadStanza D ⟨rd, some e⟩ =
      .ok (({ Type_ := [], Args := [], Body := [] } : Extracted.format_Stanza), some e, ⟨rd, some e⟩) :=
  GoTie.readStanza_sticky D rd e

/-! The header serialiser (internal/format/format.go: `Stanza.Marshal`, `Header.MarshalWithoutMAC`,
`Header.Marshal`), translated on every run with the destination and the wrapped base64 encoder as
abstract state (`GoTie.MarshalEnv`: the destination takes every write; a body written to the
encoder comes out as unpadded base64 in 64-column lines): what reaches the destination is the
model's `marshalStanza` / `marshalNoMAC` / `marshal`, byte for byte. -/

theorem stanza_marshal_tie {δ ε ω : Type} (E : GoTie.MarshalEnv δ ε ω) (s : Format.Stanza) (d : δ) :
    ∃ d', Extracted.format_Stanza_Marshal E.W E.b64 E.New E.Wr E.Cl (GoTie.toGoFStanza s) d = .ok (none, d') ∧
      E.absD d' = E.absD d ++ Format.marshalStanza s :=
  GoTie.stanza_marshal_tie E s d

theorem header_marshalNoMAC_tie {δ ε ω : Type} (E : GoTie.MarshalEnv δ ε ω) (h : Format.Header) (d : δ) :
    ∃ d', Extracted.format_Header_MarshalWithoutMAC E.W E.b64 E.New E.Wr E.Cl ⟨h.stanzas.map GoTie.toGoFStanza, h.mac⟩ d = .ok (none, d') ∧
      E.absD d' = E.absD d ++ Format.marshalNoMAC h :=
  GoTie.header_marshalNoMAC_tie E h d

theorem header_marshal_tie {δ ε ω : Type} (E : GoTie.MarshalEnv δ ε ω) (h : Format.Header) (d : δ) :
    ∃ d', Extracted.format_Header_Marshal E.W E.b64 E.New E.Wr E.Cl E.Enc ⟨h.stanzas.map GoTie.toGoFStanza, h.mac⟩ d = .ok (none, d') ∧
      E.absD d' = E.absD d ++ Format.marshal h :=
  GoTie.header_marshal_tie E h d

/-- `format.DecodeString`, translated: CR and LF are refused BEFORE the decoder is asked (the
    standard decoder skips them, which would give a second spelling of every header) -/
theorem decodeString_tie {ε : Type} (Dec : ε → Bytes → Go.M (Bytes × Option Go.Err)) (b64 : ε) (s : Bytes) :
    Extracted.format_DecodeString Dec b64 s =
      if s.any (fun c => c = Format.nl || c = Format.cr) = true then .ok ([], some ⟨"format.DecodeString", 0, []⟩)
      else Dec b64 s :=
  GoTie.decodeString_tie Dec b64 s

theorem decodeString_model {ε : Type} (Dec : ε → Bytes → Go.M (Bytes × Option Go.Err)) (b64 : ε) (eD : Go.Err)
    (hDec : ∀ s, Dec b64 s = .ok (match B64.decRaw s with | some b => (b, none) | none => ([], some eD))) (s : Bytes) :
    ∃ r, Extracted.format_DecodeString Dec b64 s = .ok r ∧
      match Format.decodeString s with
      | some b => r = (b, none)
      | none => r.1 = [] ∧ r.2 ≠ none :=
  GoTie.decodeString_model Dec b64 eD hDec s

/-! ### The round trip, stated about the CODE

`header_marshal_tie`, `Props.C07.parse_of_marshal` and `parse_tie` composed: for EVERY well-formed header and
whatever follows it, what the translated `Header.Marshal` writes is read back by the translated `Parse` as that
header, with exactly the rest left over. -/

theorem code_parse_of_marshal {δ ε ω : Type} (E : GoTie.MarshalEnv δ ε ω) (D : Bytes → Go.M (Bytes × Option Go.Err)) (eD : Go.Err)
    (hD : GoTie.DecodeIsModel D eD) (h : Format.Header) (hwf : h.WF) (rest : Bytes) (d : δ) :
    ∃ d', Extracted.format_Header_Marshal E.W E.b64 E.New E.Wr E.Cl E.Enc ⟨h.stanzas.map GoTie.toGoFStanza, h.mac⟩ d = .ok (none, d') ∧
      Extracted.format_Parse D ((E.absD d').drop (E.absD d).length ++ rest) = .ok (GoTie.toGoHeader h, rest, none) := by
  obtain ⟨d', hm, habs⟩ := header_marshal_tie E h d
  refine ⟨d', hm, ?_⟩
  rw [habs, List.drop_left]
  obtain ⟨res, hp, hres⟩ := parse_tie D eD hD (Format.marshal h ++ rest)
  rw [Props.C07.parse_of_marshal h hwf rest] at hres
  rw [hp, hres]

/-- **the assumption structures this file's theorems take are satisfiable** (for a lawful toy primitive suite
    with the 16-byte tag, where they mention primitives): none of the theorems above is vacuous. The instances are
    collected by `Proofs/GoTieWitnessA.lean` / `GoTieWitnessB.lean`. -/
theorem assumptions_satisfiable :
    Nonempty (GoTie.MarshalEnv Bytes Unit Bytes) :=
  ⟨GoTie.MarshalEnv.witness⟩

end Tie.C07
end AgeModel
