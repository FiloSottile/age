/-
  Tie/C06 — every secret comes from crypto/rand; math/rand is confined to
  protocol grease. Facts regenerated from /repo (`Extracted/RandUse.lean`),
  expectations written by hand.

  After the fact tables: the chunk nonce arithmetic of internal/stream, the order of the random draws
  of `age.Encrypt`, key generation and the suggested passphrase of cmd/age, each TRANSLATED with
  crypto/rand as an explicit tape.

  Breaks when: a file of the library starts importing math/rand (or any other
  package called `rand`), a crypto/rand call is added to or removed from a
  function, or math/rand output flows anywhere but the "grease-%x" stanza type.
-/
import AgeModel.Extracted.RandUse
import Proofs.GoTieNonce
import Proofs.GoTieEncrypt
import Proofs.GoTieGenerate
import Proofs.GoTieCliPass
import Proofs.GoTieWitnessFile
namespace AgeModel
namespace Tie.C06

def startsWith (p s : String) : Bool := p.toList.isPrefixOf s.toList

/-- Which files import a package called `rand`, and which one. In particular
    age.go, x25519.go, scrypt.go, agessh/agessh.go and cmd/age/wordlist.go use
    crypto/rand; internal/stream, internal/format, armor, bech32 import none. -/
theorem rand_imports : Extracted.randImports = [
    ("age.go", "rand", "crypto/rand"),
    ("agessh/agessh.go", "rand", "crypto/rand"),
    ("cmd/age/wordlist.go", "rand", "crypto/rand"),
    ("plugin/client.go", "rand", "math/rand"),
    ("scrypt.go", "rand", "crypto/rand"),
    ("x25519.go", "rand", "crypto/rand")] := rfl

/-- math/rand (or anything that is not crypto/rand) is imported only by plugin/client.go -/
theorem only_plugin_imports_math_rand :
    (Extracted.randImports.filter (fun i => i.2.2 != "crypto/rand")).map (·.1) = ["plugin/client.go"] := by decide +kernel

/-- every use of it is `rand.Int()` as the argument of the "grease-%x" Sprintf -/
theorem math_rand_only_grease :
    Extracted.otherRandUses.all (fun u =>
      u.1 == "plugin/client.go" && u.2.2.1 == "math/rand" && u.2.2.2.1 == "Int" &&
      startsWith "arg 1 of fmt.Sprintf \"grease-%x\"" u.2.2.2.2) = true := by
  -- on literals `startsWith` compares the characters as written; left to evaluate `String.toList`,
  -- the kernel would decode the UTF-8 bytes of every literal, which is slow to check
  have lit (p s : List Char) : startsWith (String.ofList p) (String.ofList s) = p.isPrefixOf s :=
    congr (congrArg _ String.toList_ofList) String.toList_ofList
  simp only [Extracted.otherRandUses, List.all_cons, List.all_nil]
  repeat rw [lit]
  decide +kernel

/-- The crypto/rand call sites are exactly: Encrypt (file key, payload nonce),
    one ephemeral secret or salt per Wrap, the scrypt label, rand.Reader handed to
    RSA-OAEP, key generation, and the CLI's random word. -/
theorem crypto_rand_sites : Extracted.cryptoRandSites = [
    ("age.go", "Encrypt", "Read"),
    ("age.go", "Encrypt", "Read"),
    ("agessh/agessh.go", "(*Ed25519Recipient).Wrap", "Read"),
    ("agessh/agessh.go", "(*RSAIdentity).unwrap", "Reader"),
    ("agessh/agessh.go", "(*RSARecipient).Wrap", "Reader"),
    ("cmd/age/wordlist.go", "randomWord", "Read"),
    ("scrypt.go", "(*ScryptRecipient).Wrap", "Read"),
    ("scrypt.go", "(*ScryptRecipient).WrapWithLabels", "Read"),
    ("x25519.go", "(*X25519Recipient).Wrap", "Read"),
    ("x25519.go", "GenerateX25519Identity", "Read")] := rfl

/-- every use of any `rand` package is accounted for by the two lists above: the `crypto/rand` rows of the primary
    table `randUses` (file, function, package, member, sink), projected, ARE `cryptoRandSites`, and its other rows ARE
    `otherRandUses` — a partition recomputed here from the primary table -/
theorem all_uses_accounted :
    (Extracted.randUses.filter (fun u => u.2.2.1 == "crypto/rand")).map (fun u => (u.1, u.2.1, u.2.2.2.1)) = Extracted.cryptoRandSites ∧
    Extracted.randUses.filter (fun u => u.2.2.1 != "crypto/rand") = Extracted.otherRandUses :=
  ⟨rfl, rfl⟩


/-! ## The code itself (DESIGN.md §5.3): the chunk nonce arithmetic of internal/stream,
    TRANSLATED from the source on every run. The nonce of chunk `i` is the 88-bit
    big-endian counter `i` followed by the flag byte; `incNonce` steps the counter by one
    (carrying through all eleven bytes) and leaves the flag alone, so — with
    `Props.C06.chunk_nonces_distinct` — no two chunks of a payload share a nonce. -/

theorem incNonce_tie (i : Nat) (last : Bool) (h : i + 1 < 2 ^ 88) :
    Extracted.stream_incNonce (Stream.nonce i last) = .ok (Stream.nonce (i + 1) last) :=
  GoTie.incNonce_tie i last h

theorem setLastChunkFlag_tie (i : Nat) (last : Bool) :
    Extracted.stream_setLastChunkFlag (Stream.nonce i last) = .ok (Stream.nonce i true) :=
  GoTie.setLastChunkFlag_tie i last


/-! ## age.Encrypt itself (DESIGN.md §5.3): the order of the random draws

`age.Encrypt` is TRANSLATED from age.go on every run with `crypto/rand` as an EXPLICIT TAPE
(`rand.Read(buf)` takes the next `len(buf)` bytes; the tape left over is handed back) and the
recipients' wraps abstract but tape-threaded (`GoTie.EncryptEnv.hW`: each draws what the model's
`wrapOne` draws). The translated `Encrypt` leaves the SAME tape as the model's `encryptInit`: 16
bytes of file key first, every recipient's draws in list order, 16 bytes of payload nonce last,
nothing else — `Props.C06.tape_linear`, `two_files_disjoint`, `x25519_secret_is_slice` are about the
source text. -/

theorem encrypt_tie (P : Prims) {S : AgeModel.Stream.DstSpec} {ρ δ ω : Type} (E : GoTie.EncryptEnv P S ρ δ ω)
    (d : δ) (rs : List ρ) (tape : Bytes) :
    ∃ res, Extracted.age_Encrypt E.nilW (GoTie.tapeRead E.eRand) E.W E.mac E.marshalF E.write E.newWriter E.key d rs tape = .ok res ∧
      match encryptInit P tape (rs.map E.recOf) E.hdrSegs (E.absD d) with
      | (.ok (w, k, t'), d2) =>
          res.1 = E.mkW k res.2.2.1 ∧ res.2.1 = none ∧ E.absD res.2.2.1 = d2 ∧ res.2.2.2 = t' ∧ w = AgeModel.Stream.Writer.new d2
      | (.error e, d2) => res.1 = E.nilW ∧ GoTie.encErrRel E.eRand e res.2.1 ∧ E.absD res.2.2.1 = d2 :=
  GoTie.encrypt_tie P E d rs tape

/-- `age.GenerateX25519Identity`, translated with crypto/rand as a tape: the secret key is exactly
    the next 32 bytes of the random source and nothing else is drawn -/
theorem generate_tie (eRand : Go.Err) (X : Bytes → Bytes → Go.M (Bytes × Option Go.Err)) (bp tape : Bytes) :
    Extracted.age_GenerateX25519Identity (GoTie.tapeRead eRand) X bp tape =
      match draw 32 tape with
      | none => .ok (⟨[], []⟩, some ⟨"age.GenerateX25519Identity", 0, []⟩, tape)
      | some (sk, t) =>
        match X sk bp with
        | .ok r => .ok (⟨sk, r.1⟩, none, t)
        | .error e => .error e :=
  GoTie.generate_tie eRand X bp tape

/-! The passphrase the command line tool suggests (`age -p`, nothing typed): `randomWord` and
`passphrasePromptForEncryption` of cmd/age, translated with crypto/rand as a tape and the terminal
as abstract state. Each word is selected by the next TWO bytes of the tape (big end first, modulo
2048); the suggestion is ten such words joined by `-`, i.e. a function of exactly the next 20
bytes of the random source; an exhausted source is a panic, never a shorter or weaker passphrase;
the suggestion is shown before it is returned; a typed passphrase is returned only when its
confirmation equals it. And nothing is lost on the way to text: for a table without `-` in its
words the suggestion determines the ten selected words (`autogen_injective`). -/

theorem randomWord_tie (eRand : Go.Err) (W : List Bytes) (hW : W.length = 2048) (tape : Bytes) :
    Extracted.main_randomWord (GoTie.tapeRead eRand) W tape =
      match draw 2 tape with
      | none => .error (Go.Fault.panic 0)
      | some (b, t) => .ok ((GoTie.wordsOf W b).headD [], t) :=
  GoTie.randomWord_tie eRand W hW tape

theorem prompt_tie {σ : Type} (eRand : Go.Err) (S : Bytes → σ → Go.M (Bytes × Option Go.Err × σ))
    (Pr : Bytes → Bytes → σ → Go.M (Option Go.Err × σ)) (W : List Bytes) (hW : W.length = 2048)
    (tape : Bytes) (s0 : σ) :
    Extracted.main_passphrasePromptForEncryption (GoTie.liftSecret S) (GoTie.liftRead eRand) W (GoTie.liftPrint Pr) (tape, s0) =
      GoTie.promptModel S Pr W tape s0 :=
  GoTie.prompt_tie eRand S Pr W hW tape s0

theorem autogen_injective (W : List Bytes) (hW : W.length = 2048) (hnd : W.Nodup) (hdash : ∀ w ∈ W, (45 : UInt8) ∉ w)
    (r1 r2 : Bytes) (h1 : r1.length = 20) (h2 : r2.length = 20) (h : GoTie.autogen W r1 = GoTie.autogen W r2) :
    GoTie.wordsOf W r1 = GoTie.wordsOf W r2 :=
  GoTie.autogen_injective W hW hnd hdash r1 r2 h1 h2 h

/-- **the assumption structures this file's theorems take are satisfiable** (for a lawful toy primitive suite
    with the 16-byte tag, where they mention primitives): none of the theorems above is vacuous. The instances are
    collected by `Proofs/GoTieWitnessA.lean` / `GoTieWitnessB.lean`. -/
theorem assumptions_satisfiable :
    Prims.toy16.Correct ∧ Prims.toy16.aead.NonceSep ∧ Prims.toy16.aead.T = 16 ∧
    (∀ S : Stream.DstSpec, Nonempty (GoTie.EncryptEnv Prims.toy16 S Recipient (Stream.Dst S) (Option (Bytes × Stream.Dst S)))) :=
  ⟨Prims.toy16_correct, AEAD.toy16_nonceSep, rfl, (fun S => ⟨GoTie.EncryptEnv.witness S⟩)⟩

end Tie.C06
end AgeModel
