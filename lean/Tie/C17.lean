/-
  Tie/C17 — the only way the module starts a process is the plugin connection
  opener, with a path built from "age-plugin-" and the client's name; only the
  two client methods call it; client values come into being only in the three
  validating constructors and Identity.Recipient; the native packages cannot
  reach it. Facts regenerated from /repo (`Extracted/ExecSites.lean`,
  `Extracted/Consts.lean`).
-/
import AgeModel.Extracted.ExecSites
import AgeModel.Extracted.Consts
import AgeModel.SpecConsts
import Proofs.GoTiePlugName
import Proofs.GoTieCli
import Proofs.GoTieCtors
import Proofs.GoTieExec
import Proofs.GoTieCliModes
namespace AgeModel
namespace Tie.C17

/-- One process-creation site in the whole module (exec.Command*, os.StartProcess,
    syscall.Exec/ForkExec, an exec.Cmd literal): execabs.Command in plugin/client.go,
    whose path argument is `"age-plugin-" + <parameter 0>` (or, under the test-only
    variable, that joined to a directory). `$0` is the function's first parameter,
    `·` the variable itself. -/
theorem exec_sites : Extracted.execSites.map (fun s => (s.1, s.2.2.1, s.2.2.2.2)) = [
    ("plugin/client.go", "execabs.Command",
     "{\"age-plugin-\" + $0 | filepath.Join(testOnlyPluginPath, ·)}")] := by decide +kernel

theorem one_opener : Extracted.processOpeners.length = 1 := by decide

/-- the opener is referred to (called, or taken as a value) only by the two client methods … -/
theorem opener_callers : Extracted.openerCallers.map (fun c => (c.1, c.2.1)) = [
    ("plugin/client.go", "(*Identity).Unwrap"),
    ("plugin/client.go", "(*Recipient).WrapWithLabels")] := by decide +kernel

/-- … and each of them refers to that one opener -/
theorem opener_callers_target :
    Extracted.openerCallers.all (fun c => Extracted.processOpeners.contains c.2.2) = true := by decide +kernel

/-- client values are created (literal, new, zero value) only here -/
theorem client_constructions : Extracted.clientConstructions = [
    ("plugin/client.go", "(*Identity).Recipient", "Recipient", "literal"),
    ("plugin/client.go", "NewIdentity", "Identity", "literal"),
    ("plugin/client.go", "NewIdentityWithoutData", "Identity", "literal"),
    ("plugin/client.go", "NewRecipient", "Recipient", "literal")] := by decide +kernel

/-- age, agessh, armor and the internal packages import neither os/exec, execabs,
    syscall, x/sys/unix nor the plugin package -/
theorem native_packages_cannot_exec : Extracted.nativeForbiddenImports = [] := by decide

/-- … and that verdict is not the emptiness of an empty scan: the eleven non-test files of those packages WERE scanned,
    they import what one knows they import (positive controls: `crypto/rand`, `golang.org/x/crypto/ssh`, the internal
    packages), and the forbidden imports RECOMPUTED here from the per-import table the extractor emits are the list
    above -/
theorem native_imports_recomputed :
    (Extracted.nativeImportPairs.map (·.1)).eraseDups =
      ["age.go", "agessh/agessh.go", "agessh/encrypted_keys.go", "armor/armor.go", "internal/bech32/bech32.go",
       "internal/format/format.go", "internal/stream/stream.go", "parse.go", "primitives.go", "scrypt.go", "x25519.go"] ∧
    Extracted.nativeFileImports.map (·.1) = (Extracted.nativeImportPairs.map (·.1)).eraseDups ∧
    (("age.go", "crypto/rand") ∈ Extracted.nativeImportPairs ∧ ("agessh/encrypted_keys.go", "golang.org/x/crypto/ssh") ∈ Extracted.nativeImportPairs ∧
      ("age.go", "filippo.io/age/internal/stream") ∈ Extracted.nativeImportPairs ∧ ("scrypt.go", "golang.org/x/crypto/scrypt") ∈ Extracted.nativeImportPairs) ∧
    Extracted.nativeImportPairs.filter (fun r =>
      ["os/exec", "golang.org/x/sys/execabs", "syscall", "golang.org/x/sys/unix", "plugin", "filippo.io/age/plugin"].contains r.2) =
      Extracted.nativeForbiddenImports := by decide +kernel

/-- the name allow-list is the specified one … -/
theorem allowlist_tie : Extracted.pluginNameAllowedBytes = SpecConsts.pluginNameAllowedBytes := by decide

/-- … and contains no path separator ('/' = 47, '\' = 92), no NUL, no space -/
theorem allowlist_no_separator :
    Extracted.pluginNameAllowedBytes.all (fun b => b != 47 && b != 92 && b != 0 && b != 32) = true := by decide +kernel


/-! ## The code itself (DESIGN.md §5.3): `plugin.validPluginName`, the one test every construction
    of a plugin client goes through, TRANSLATED from the source on every run, computes the model's
    function for all byte strings (invalid UTF-8 included). (The parsers and encoders built on it
    and on Bech32 are tied in Tie/C09; they are kept out of this file so that a rewrite of the
    Bech32 code does not touch this property's obligations.) -/

theorem validPluginName_tie (n : Bytes) :
    Extracted.plugin_validPluginName n = .ok (Keys.validPluginName n) :=
  GoTie.validPluginName_tie n

/-! The command line's routing (cmd/age/parse.go), translated on every run: for every argument,
which constructor it is handed to. A plugin client is constructed exactly for `-r` arguments that
start with "age1" and contain a second "1", and for identity lines that start with "AGE-PLUGIN-";
handed a plugin constructor that FAULTS when called, `parseRecipient` still returns normally for
every other argument (`cli_native_no_plugin`). -/

theorem cli_parseRecipient_tie {ρ υ : Type} (NR : Bytes → υ → Go.M (ρ × Option Go.Err)) (ui : υ)
    (PX PS : Bytes → Go.M (ρ × Option Go.Err)) (nilρ : ρ) (arg : Bytes) :
    Extracted.main_parseRecipient NR ui PX PS nilρ arg =
      if (Keys.hasPrefix arg Keys.pfxAge1 && decide (Keys.countByte arg 0x31 > 1)) = true then NR arg ui
      else if Keys.hasPrefix arg Keys.pfxAge1 = true then PX arg
      else if Keys.hasPrefix arg Keys.pfxSsh = true then PS arg
      else if Keys.hasPrefix arg Keys.pfxGithub = true then .ok (nilρ, some ⟨"main.gitHubRecipientError", 0, []⟩)
      else .ok (nilρ, some ⟨"main.parseRecipient", 0, []⟩) :=
  GoTie.cli_parseRecipient_tie NR ui PX PS nilρ arg

theorem cli_parseIdentity_tie {ι υ : Type} (NI : Bytes → υ → Go.M (ι × Option Go.Err)) (ui : υ)
    (PX : Bytes → Go.M (ι × Option Go.Err)) (nilι : ι) (s : Bytes) :
    Extracted.main_parseIdentity NI ui PX nilι s =
      if Keys.hasPrefix s Keys.pfxPlugin = true then NI s ui
      else if Keys.hasPrefix s Keys.pfxSecret1 = true then PX s
      else .ok (nilι, some ⟨"main.parseIdentity", 0, []⟩) :=
  GoTie.cli_parseIdentity_tie NI ui PX nilι s

theorem cli_native_no_plugin {ρ υ : Type} (ui : υ) (PX PS : Bytes → Go.M (ρ × Option Go.Err)) (nilρ : ρ) (arg : Bytes)
    (h : (Keys.hasPrefix arg Keys.pfxAge1 && decide (Keys.countByte arg 0x31 > 1)) = false) :
    Extracted.main_parseRecipient (fun _ _ => .error (.panic 99)) ui PX PS nilρ arg =
      if Keys.hasPrefix arg Keys.pfxAge1 = true then PX arg
      else if Keys.hasPrefix arg Keys.pfxSsh = true then PS arg
      else if Keys.hasPrefix arg Keys.pfxGithub = true then .ok (nilρ, some ⟨"main.gitHubRecipientError", 0, []⟩)
      else .ok (nilρ, some ⟨"main.parseRecipient", 0, []⟩) :=
  GoTie.cli_native_no_plugin ui PX PS nilρ arg h

/-! Every construction of a plugin client (plugin/client.go), translated on every run: it goes
through `ParseRecipient` / `ParseIdentity` / `EncodeIdentity` — hence through the name check — and
keeps the string it was given; these are the model's `newRecipient`, `newIdentity`,
`newIdentityWithoutData` that `constructors_validate` / `constructors_no_separator` are about. -/

theorem newRecipient_tie {υ : Type} (nilυ ui : υ) (s : Bytes) :
    Extracted.plugin_NewRecipient nilυ s ui = .ok (match Keys.newRecipient s with
      | .ok c => (⟨c.name, c.encoding, ui, false⟩, none)
      | .error e => (⟨[], [], nilυ, false⟩, GoTie.parseRcErr e)) :=
  GoTie.newRecipient_tie nilυ ui s

theorem newIdentity_tie {υ : Type} (nilυ ui : υ) (s : Bytes) :
    Extracted.plugin_NewIdentity nilυ s ui = .ok (match Keys.newIdentity s with
      | .ok c => (⟨c.name, c.encoding, ui⟩, none)
      | .error e => (⟨[], [], nilυ⟩, GoTie.parseIdErr e)) :=
  GoTie.newIdentity_tie nilυ ui s

theorem newIdentityWithoutData_tie {υ : Type} (nilυ ui : υ) (name : Bytes) :
    Extracted.plugin_NewIdentityWithoutData nilυ name ui = .ok (match Keys.newIdentityWithoutData name with
      | .ok c => (⟨c.name, c.encoding, ui⟩, none)
      | .error _ => (⟨[], [], nilυ⟩, some ⟨"plugin.NewIdentityWithoutData", 0, []⟩)) :=
  GoTie.newIdentityWithoutData_tie nilυ ui name

/-! Which program is started (`openClientConnection`, plugin/client.go), translated up to the
`exec.Command` call: `age-plugin-NAME --age-plugin=PROTOCOL` for a name without '/', nothing at all
otherwise — the model's `openClientCommand`. -/

theorem exec_tie {κ χ : Type} (J : List Bytes → Go.M Bytes) (nilχ : χ) (Cmd : Bytes → List Bytes → Go.M χ)
    (SP : χ → Go.M (κ × Option Go.Err)) (name proto : Bytes) :
    Extracted.plugin_openClientConnection J nilχ Cmd SP name proto =
      match Keys.openClientCommand ⟨name, []⟩ with
      | .error _ => .ok (nilχ, some ⟨"plugin.openClientConnection", 0, []⟩)
      | .ok path => (do
          let cmd ← Cmd path [([45, 45, 97, 103, 101, 45, 112, 108, 117, 103, 105, 110, 61] : Bytes) ++ proto]
          let t ← SP cmd
          pure (cmd, t.2)) :=
  GoTie.exec_tie J nilχ Cmd SP name proto

theorem exec_refuses_separator_src {κ χ : Type} (J : List Bytes → Go.M Bytes) (nilχ : χ)
    (SP : χ → Go.M (κ × Option Go.Err)) (name proto : Bytes) (h : name.contains (0x2f : UInt8) = true) :
    Extracted.plugin_openClientConnection J nilχ (fun _ _ => .error (.panic 99)) SP name proto =
      .ok (nilχ, some ⟨"plugin.openClientConnection", 0, []⟩) :=
  GoTie.exec_refuses_separator J nilχ SP name proto h

/-! `age -d -i … -j …` (`decryptNotPass` of cmd/age/age.go, translated on every run): the ONLY thing done
with a `-j` value is `plugin.NewIdentityWithoutData(value, ui)` — whose name check is tied above — and a
failure to initialise it ends the process before `decrypt` (and with it any plugin) is started; the
identities reach `decrypt` in the order of the flags. -/

theorem decryptNotPass_tie {ζ ι τ υ : Type} (reject : ι) (PIF : Bytes → τ → Go.M (List ι × Option Go.Err × τ)) (ui : υ)
    (NI : Bytes → υ → τ → Go.M (ι × Option Go.Err × τ)) (D : List ι → Bytes → ζ → τ → Go.M τ)
    (flags : List Extracted.main_identityFlag) (inp : Bytes) (out : ζ) (t0 : τ) :
    Extracted.main_decryptNotPass reject PIF ui NI D flags inp out t0 =
      (do let r ← GoTie.collectIds PIF ui NI flags t0 [reject]
          D r.2 inp out r.1) :=
  GoTie.decryptNotPass_tie reject PIF ui NI D flags inp out t0

/-! `age -e -r … -R … -i … -j …` (`encryptNotPass`, translated on every run; the test of the error's concrete type
`gitHubRecipientError` is a test of the name such errors carry): again the ONLY thing done with a `-j` value is
`plugin.NewIdentityWithoutData(value, ui)`, followed by `.Recipient()`; the recipients reach `encrypt` in the order
`-r`, `-R`, `-i`/`-j`; any failure ends the process before `encrypt` (and any plugin) is started. -/

theorem encryptNotPass_tie {ζ ι ρ τ υ : Type} (PR : Bytes → τ → Go.M (ρ × Option Go.Err × τ))
    (PRF : Bytes → τ → Go.M (List ρ × Option Go.Err × τ)) (PIF : Bytes → τ → Go.M (List ι × Option Go.Err × τ))
    (I2R : List ι → τ → Go.M (List ρ × Option Go.Err × τ)) (ui : υ) (NI : Bytes → υ → τ → Go.M (ι × Option Go.Err × τ))
    (IR : ι → τ → Go.M (ρ × τ)) (E : List ρ → Bytes → ζ → Bool → τ → Go.M τ)
    (recs files : List Bytes) (flags : List Extracted.main_identityFlag) (inp : Bytes) (out : ζ) (armor : Bool) (t0 : τ) :
    Extracted.main_encryptNotPass PR PRF PIF I2R ui NI IR E recs files flags inp out armor t0 =
      (do let a ← GoTie.collectR PR recs t0 []
          let b ← GoTie.collectRF PRF files a.1 a.2
          let c ← GoTie.collectIR PIF I2R ui NI IR flags b.1 b.2
          E c.2 inp out armor c.1) :=
  GoTie.encryptNotPass_tie PR PRF PIF I2R ui NI IR E recs files flags inp out armor t0

end Tie.C17
end AgeModel
