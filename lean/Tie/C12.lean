/-
  Tie/C12 — stream.Reader and stream.Writer themselves (DESIGN.md §5.3).

  `Read`/`readChunk` and `Write`/`Close`/`flushChunk` are TRANSLATED from
  internal/stream/stream.go on every run, with `unread`/`unwritten`/`in`/`freeBuf` as VIEWS into
  the struct's own `buf` (extract/funcs_views.go), the AEAD and the destination abstract. The
  theorems are SIMULATIONS between the translated code and the model's Reader/Writer machines
  (AgeModel/Stream.lean): related states, one call on each side ⇒ the same reported count, the
  same bytes, corresponding errors, related states. By induction over calls the machine-level
  theorems of Props/C12 — `writer_refines_spec`, `writer_holdback`, `reader_refines_spec`,
  `reader_chunking_irrelevant`, `reader_lookahead` — hold of the code in the source: the output
  does not depend on how the caller splits its writes and reads.

  Breaks when: the fill/flush loop of Write, the hold-back of a full buffer, the copy-out of
  Read, the probe after the final chunk or the order of the two `Open` attempts change.
-/
import Proofs.GoTieStreamW
import Proofs.GoTieStreamNew
import Proofs.GoTieWitnessStream
import Proofs.GoTieStreamRT
namespace AgeModel
namespace Tie.C12

theorem reader_read_tie {α : Type} (A : AEAD) (k : Bytes) (E : GoTie.AeadEnv α A k)
    (r : Extracted.stream_Reader α) (m : AgeModel.Stream.Reader) (h : GoTie.RRel r m) (hctr : m.ctr + 1 < 2 ^ 88) (p : Bytes) :
    ∃ res, Extracted.stream_Reader_Read E.over E.open_ r p = .ok res ∧
      let mr := m.read A 65536 (2 ^ 88) k p.length
      res.1 = Int.ofNat mr.2.1.length ∧
      GoTie.rdErrRel res.2.1 mr.2.2 ∧
      GoTie.RRel res.2.2.1 mr.1 ∧
      res.2.2.2 = mr.2.1 ++ p.drop mr.2.1.length :=
  GoTie.reader_read_tie A k E r m h hctr p

theorem reader_new_rel {α : Type} (a : α) (data : Bytes) (fail : Bool) :
    GoTie.RRel (⟨a, ⟨data, fail⟩, 0, 0, List.replicate 65552 0, none, List.replicate 12 0⟩ : Extracted.stream_Reader α)
      (AgeModel.Stream.Reader.new ⟨data, fail⟩) :=
  GoTie.reader_new_rel a data fail

theorem writer_write_tie {α δ : Type} {S : AgeModel.Stream.DstSpec} (A : AEAD) (k : Bytes) (E : GoTie.AeadEnv α A k)
    (D : GoTie.DstEnv δ S) (w : Extracted.stream_Writer α δ) (m : AgeModel.Stream.Writer S) (h : GoTie.WRel D w m) (p : Bytes)
    (hctr : m.ctr + p.length / 65536 + 2 < 2 ^ 88) :
    ∃ res, Extracted.stream_Writer_Write E.seal_ D.write w p = .ok res ∧
      let mw := m.write A 65536 (2 ^ 88) k p
      res.1 = Int.ofNat mw.2.1 ∧ GoTie.wrErrRel res.2.1 D.eW mw.2.2 ∧ GoTie.WRel D res.2.2 mw.1 :=
  GoTie.writer_write_tie A k E D w m h p hctr

theorem writer_close_tie {α δ : Type} {S : AgeModel.Stream.DstSpec} (A : AEAD) (k : Bytes) (E : GoTie.AeadEnv α A k)
    (D : GoTie.DstEnv δ S) (w : Extracted.stream_Writer α δ) (m : AgeModel.Stream.Writer S) (h : GoTie.WRel D w m)
    (hctr : m.ctr + 2 < 2 ^ 88) :
    ∃ res, Extracted.stream_Writer_Close E.seal_ D.write w = .ok res ∧
      let mc := m.close A 65536 (2 ^ 88) k
      GoTie.wrErrRel res.1 D.eW mc.2 ∧ GoTie.WRel D res.2 mc.1 ∧
      (mc.2 = none → D.absD res.2.dst = mc.1.dst) ∧
      GoTie.wrErrRel res.2.err D.eW mc.1.err :=
  GoTie.writer_close_tie A k E D w m h hctr

/-! `stream.NewReader` / `NewWriter`, translated: with a key the AEAD accepts they build the initial
states the simulations start from (related to the model's `Reader.new` / `Writer.new`). -/

theorem newReader_rel {α : Type} (New : Bytes → Go.M (α × Option Go.Err)) (nilα a : α) (key : Bytes)
    (hNew : New key = .ok (a, none)) (data : Bytes) (fail : Bool) :
    ∃ g, Extracted.stream_NewReader New nilα key ⟨data, fail⟩ = .ok (g, none) ∧ GoTie.RRel g (Stream.Reader.new ⟨data, fail⟩) :=
  GoTie.newReader_rel New nilα a key hNew data fail

theorem newWriter_tie {α δ : Type} (New : Bytes → Go.M (α × Option Go.Err)) (nilα a : α) (nilδ : δ) (key : Bytes)
    (hNew : New key = .ok (a, none)) (dst : δ) :
    Extracted.stream_NewWriter New nilα nilδ key dst =
      .ok (⟨a, dst, 0, 0, List.replicate 65552 0, List.replicate 12 0, none⟩, none) :=
  GoTie.newWriter_tie New nilα a nilδ key hNew dst

theorem newWriter_rel {α δ : Type} {S : Stream.DstSpec} (D : GoTie.DstEnv δ S) (a : α) (dst : δ) :
    GoTie.WRel D (⟨a, dst, 0, 0, List.replicate 65552 0, List.replicate 12 0, none⟩ : Extracted.stream_Writer α δ) (Stream.Writer.new (D.absD dst)) :=
  GoTie.newWriter_rel D a dst

/-! The two translated ends composed. `GoTie.streamWrites` pushes a sequence of writes through the
translated `Write`; `GoTie.streamReads` calls the translated `Read` with buffers of the given sizes
and collects what each call copied until the first reported error. Driven call by call the
translated reader yields what the model's `Reader.drain` yields, for EVERY list of sizes
(`streamReads_tie`); and the property's round trip holds of the code (`code_stream_roundtrip`):
whatever goes through the translated `Write`s and `Close` into an empty destination that takes every
write comes back, followed by io.EOF, from the translated `Read` over the destination's bytes — for
every input below 2^64 bytes, every split into writes, every sequence of positive read sizes long
enough to reach the end. -/

theorem streamReads_tie {α : Type} (A : AEAD) (k : Bytes) (E : GoTie.AeadEnv α A k) (sizes : List Nat)
    (g : Extracted.stream_Reader α) (m : Stream.Reader) (h : GoTie.RRel g m) (hb : m.Bounded (2 ^ 88 - 1)) :
    ∃ g' ge, GoTie.streamReads E g sizes = .ok (g', (m.drain A 65536 (2 ^ 88) k sizes).2.1, ge) ∧
      GoTie.rdErrRel ge (m.drain A 65536 (2 ^ 88) k sizes).2.2 ∧ GoTie.RRel g' (m.drain A 65536 (2 ^ 88) k sizes).1 :=
  GoTie.streamReads_tie A k E sizes g m h hb

theorem code_stream_roundtrip {α δ : Type} (A : AEAD) (hA : A.Correct) (hN : A.NonceSep) (k : Bytes) (E : GoTie.AeadEnv α A k)
    (D : GoTie.DstEnv δ Stream.DstSpec.perfect) (a : α) (dst : δ) (hd : (D.absD dst).acc = []) (ps : List Bytes)
    (hlen : ps.flatten.length < 2 ^ 64) (sizes : List Nat) (hpos : ∀ s ∈ sizes, 0 < s)
    (hlong : ps.flatten.length + (Stream.encrypt A 65536 k ps.flatten).length + 1 < sizes.length) :
    ∃ w1 w2 r', GoTie.streamWrites E D ⟨a, dst, 0, 0, List.replicate 65552 0, List.replicate 12 0, none⟩ ps = .ok (none, w1) ∧
      Extracted.stream_Writer_Close E.seal_ D.write w1 = .ok (none, w2) ∧
      GoTie.streamReads E ⟨a, ⟨(D.absD w2.dst).acc, false⟩, 0, 0, List.replicate 65552 0, none, List.replicate 12 0⟩ sizes =
        .ok (r', ps.flatten, Go.io_EOF) :=
  GoTie.code_stream_roundtrip A hA hN k E D a dst hd ps hlen sizes hpos hlong

/-- non-vacuity of the round trip: the toy AEAD with the 16-byte tag, the destination that is the model's own, any
    key and any input below 2^64 bytes — the conclusion holds of one-byte reads -/
theorem code_stream_roundtrip_instance (k : Bytes) (ps : List Bytes) (hlen : ps.flatten.length < 2 ^ 64) :
    ∃ sizes w1 w2 r',
      GoTie.streamWrites (GoTie.AeadEnv.witness k) (GoTie.DstEnv.witness Stream.DstSpec.perfect)
          ⟨(), ⟨[], ()⟩, 0, 0, List.replicate 65552 0, List.replicate 12 0, none⟩ ps = .ok (none, w1) ∧
      Extracted.stream_Writer_Close (GoTie.AeadEnv.witness k).seal_ (GoTie.DstEnv.witness Stream.DstSpec.perfect).write w1 = .ok (none, w2) ∧
      GoTie.streamReads (GoTie.AeadEnv.witness k)
          ⟨(), ⟨((GoTie.DstEnv.witness Stream.DstSpec.perfect).absD w2.dst).acc, false⟩, 0, 0, List.replicate 65552 0, none, List.replicate 12 0⟩ sizes =
        .ok (r', ps.flatten, Go.io_EOF) := by
  let n := ps.flatten.length + (Stream.encrypt AEAD.toy16 65536 k ps.flatten).length + 2
  obtain ⟨w1, w2, r', h⟩ := code_stream_roundtrip AEAD.toy16 AEAD.toy16_correct AEAD.toy16_nonceSep k (GoTie.AeadEnv.witness k)
    (GoTie.DstEnv.witness Stream.DstSpec.perfect) () ⟨[], ()⟩ rfl ps hlen (List.replicate n 1)
    (by intro s hs; rw [List.mem_replicate] at hs; omega) (by rw [List.length_replicate]; omega)
  exact ⟨_, w1, w2, r', h⟩

/-- **the assumption structures this file's theorems take are satisfiable** (for a lawful toy primitive suite
    with the 16-byte tag, where they mention primitives): none of the theorems above is vacuous. The instances are in
    `Proofs/GoTieWitnessA.lean` / `GoTieWitnessB.lean`. -/
theorem assumptions_satisfiable :
    Prims.toy16.Correct ∧ Prims.toy16.aead.NonceSep ∧ Prims.toy16.aead.T = 16 ∧
    (∀ k : Bytes, Nonempty (GoTie.AeadEnv Unit AEAD.toy16 k)) ∧
    (∀ S : Stream.DstSpec, Nonempty (GoTie.DstEnv (Stream.Dst S) S)) :=
  ⟨Prims.toy16_correct, AEAD.toy16_nonceSep, rfl, (fun k => ⟨GoTie.AeadEnv.witness k⟩), (fun S => ⟨GoTie.DstEnv.witness S⟩)⟩

end Tie.C12
end AgeModel
