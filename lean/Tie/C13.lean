/-
  Tie/C13 — stream.Writer and stream.Reader themselves (DESIGN.md §5.3): every destination
  failure surfaces. `Write`/`Close`/`flushChunk` are TRANSLATED from the source on every run;
  the destination is abstract and may fail at any call (`GoTie.DstEnv`: it is the model's
  `Dst S` for an arbitrary behaviour `S`). SIMULATION with the model's Writer machine: the
  error `Write`/`Close` report, the sticky `w.err`, and the bytes the destination holds are the
  model's — so `no_silent_loss`, `writer_sticky`, `write_error_recorded` (Props/C13) are about the
  source text. For the reading side (`src_fault_surfaces`, `reader_sticky`): `reader_read_tie`
  with a source that ends in an error.
-/
import Proofs.GoTieStreamW
import Proofs.GoTieWitnessStream
import Proofs.GoTieEncrypt
namespace AgeModel
namespace Tie.C13

theorem writer_write_tie {α δ : Type} {S : AgeModel.Stream.DstSpec} (A : AEAD) (k : Bytes) (E : GoTie.AeadEnv α A k)
    (D : GoTie.DstEnv δ S) (w : Extracted.stream_Writer α δ) (m : AgeModel.Stream.Writer S) (h : GoTie.WRel D w m) (p : Bytes)
    (hctr : m.ctr + p.length / 65536 + 2 < 2 ^ 88) :
    ∃ res, Extracted.stream_Writer_Write E.seal_ D.write w p = .ok res ∧
      let mw := m.write A 65536 (2 ^ 88) k p
      res.1 = Int.ofNat mw.2.1 ∧ GoTie.wrErrRel res.2.1 D.eW mw.2.2 ∧ GoTie.WRel D res.2.2 mw.1 :=
  GoTie.writer_write_tie A k E D w m h p hctr

theorem writer_close_tie {α δ : Type} {S : AgeModel.Stream.DstSpec} (A : AEAD) (k : Bytes) (E : GoTie.AeadEnv α A k)
    (D : GoTie.DstEnv δ S) (w : Extracted.stream_Writer α δ) (m : AgeModel.Stream.Writer S) (h : GoTie.WRel D w m)
    (hctr : m.ctr + 2 < 2 ^ 88) :
    ∃ res, Extracted.stream_Writer_Close E.seal_ D.write w = .ok res ∧
      let mc := m.close A 65536 (2 ^ 88) k
      GoTie.wrErrRel res.1 D.eW mc.2 ∧ GoTie.WRel D res.2 mc.1 ∧
      (mc.2 = none → D.absD res.2.dst = mc.1.dst) ∧
      GoTie.wrErrRel res.2.err D.eW mc.1.err :=
  GoTie.writer_close_tie A k E D w m h hctr

theorem reader_read_tie {α : Type} (A : AEAD) (k : Bytes) (E : GoTie.AeadEnv α A k)
    (r : Extracted.stream_Reader α) (m : AgeModel.Stream.Reader) (h : GoTie.RRel r m) (hctr : m.ctr + 1 < 2 ^ 88) (p : Bytes) :
    ∃ res, Extracted.stream_Reader_Read E.over E.open_ r p = .ok res ∧
      let mr := m.read A 65536 (2 ^ 88) k p.length
      res.1 = Int.ofNat mr.2.1.length ∧
      GoTie.rdErrRel res.2.1 mr.2.2 ∧
      GoTie.RRel res.2.2.1 mr.1 ∧
      res.2.2.2 = mr.2.1 ++ p.drop mr.2.1.length :=
  GoTie.reader_read_tie A k E r m h hctr p

theorem reader_new_rel {α : Type} (a : α) (data : Bytes) (fail : Bool) :
    GoTie.RRel (⟨a, ⟨data, fail⟩, 0, 0, List.replicate 65552 0, none, List.replicate 12 0⟩ : Extracted.stream_Reader α)
      (AgeModel.Stream.Reader.new ⟨data, fail⟩) :=
  GoTie.reader_new_rel a data fail

/-- after `Close` — successful or not — every further `Write` and `Close` of the TRANSLATED writer is refused and
    touches nothing, exactly as the model's (`Props.C13.writer_sticky`). It applies to the states `Close` leaves:
    `writer_close_tie` re-establishes `WRel`, and the model's state after any `Close` has an error
    (`writer_close_err_some`). -/
theorem writer_after_close_stuck {α δ : Type} {S : AgeModel.Stream.DstSpec} (A : AEAD) (k : Bytes) (E : GoTie.AeadEnv α A k)
    (D : GoTie.DstEnv δ S) (w : Extracted.stream_Writer α δ) (m : AgeModel.Stream.Writer S) (h : GoTie.WRel D w m)
    (e : AgeModel.Stream.Outcome) (hme : m.err = some e) :
    w.err ≠ none ∧ GoTie.wrErrRel w.err D.eW (some e) ∧
    (∀ p, Extracted.stream_Writer_Write E.seal_ D.write w p = .ok (0, w.err, w) ∧
          m.write A 65536 (2 ^ 88) k p = (m, 0, some e)) ∧
    Extracted.stream_Writer_Close E.seal_ D.write w = .ok (w.err, w) ∧
    m.close A 65536 (2 ^ 88) k = (m, some e) :=
  GoTie.writer_after_close_stuck A k E D w m h e hme

/-- the model's writer carries a sticky error after ANY `Close` (`.closed` after a successful one), so
    `writer_after_close_stuck` applies to the related pair of states `writer_close_tie` returns -/
theorem writer_close_err_some {S : AgeModel.Stream.DstSpec} (A : AEAD) (C L : Nat) (k : Bytes) (m : AgeModel.Stream.Writer S) :
    ∃ e, (m.close A C L k).1.err = some e :=
  GoTie.writer_close_err_some A C L k m

/-- "a failed Encrypt returns no writer", about the code (`Props.C13.encrypt_failure_no_writer` holds of the model by
    the type of its result alone): whenever the translated `age.Encrypt` reports an error — whatever the recipients,
    the random source and the destination do — the writer it returns is the nil writer, so the caller has nothing to
    go on writing with; and when it reports none, the writer is a stream writer over the destination -/
theorem code_encrypt_failure_nil_writer (P : Prims) {S : AgeModel.Stream.DstSpec} {ρ δ ω : Type}
    (E : GoTie.EncryptEnv P S ρ δ ω) (d : δ) (rs : List ρ) (tape : Bytes) :
    ∃ res, Extracted.age_Encrypt E.nilW (GoTie.tapeRead E.eRand) E.W E.mac E.marshalF E.write E.newWriter E.key d rs tape = .ok res ∧
      (res.2.1 ≠ none → res.1 = E.nilW) ∧ (res.2.1 = none → ∃ k, res.1 = E.mkW k res.2.2.1) := by
  obtain ⟨res, hrun, hres⟩ := GoTie.encrypt_tie P E d rs tape
  refine ⟨res, hrun, ?_⟩
  generalize encryptInit P tape (rs.map E.recOf) E.hdrSegs (E.absD d) = r at hres
  obtain ⟨r1, d2⟩ := r
  cases r1 with
  | ok v =>
    obtain ⟨w, k, t'⟩ := v
    exact ⟨fun hne => absurd hres.2.1 hne, fun _ => ⟨k, hres.1⟩⟩
  | error e =>
    refine ⟨fun _ => hres.1, fun hnone => ?_⟩
    have := hres.2.1
    rw [hnone] at this
    cases e <;> simp [GoTie.encErrRel] at this

/-- **the assumption structures this file's theorems take are satisfiable** (for a lawful toy primitive suite
    with the 16-byte tag, where they mention primitives): none of the theorems above is vacuous. The instances are in
    `Proofs/GoTieWitnessA.lean` / `GoTieWitnessB.lean`. -/
theorem assumptions_satisfiable :
    Prims.toy16.Correct ∧ Prims.toy16.aead.NonceSep ∧ Prims.toy16.aead.T = 16 ∧
    (∀ k : Bytes, Nonempty (GoTie.AeadEnv Unit AEAD.toy16 k)) ∧
    (∀ S : Stream.DstSpec, Nonempty (GoTie.DstEnv (Stream.Dst S) S)) :=
  ⟨Prims.toy16_correct, AEAD.toy16_nonceSep, rfl, (fun k => ⟨GoTie.AeadEnv.witness k⟩), (fun S => ⟨GoTie.DstEnv.witness S⟩)⟩

end Tie.C13
end AgeModel
