/-
  Tie/C15 — the order of effects of cmd/age and cmd/age-keygen ("the -o file is opened on first
  write only", and what surrounds it), in the source. Everything here is about functions TRANSLATED
  from /repo on every run, with what they call as parameters.

  * `(*lazyOpener).Write` / `.Close` are the three-state machine `Cli.Lazy` of the model (unopened /
    opened / failed): the file is created by the first `Write` and by nothing else — handed an
    `os.Create` that FAULTS when called, a `Write` on an opened or failed opener still returns
    normally, and `Close` cannot reach it at all — a failed creation is remembered, and `Close` on an
    opener that never wrote closes nothing; read in the model's world, `Write` IS `Proc.write`.
  * `decrypt`: the order of its effects; a refused decryption exits without any `Write`.
  * `encrypt`: it returns exactly when every step, the armor writer's `Close` last, reported success.
  * age-keygen: how output and input are opened, `convert`, `generate`.
  * The writing phases refine the model of Props/C15 (`Cli.execute`, `Cli.krun`); segment-by-segment
    writing is observably one write.
  * `main` of cmd/age from the flag-conflict switch to its end against `Cli.flagCheck` / `Cli.prepare`.
  * The mode functions instantiated with the translated `decrypt` / `encrypt`.
-/
import Proofs.GoTieLazy
import Proofs.GoTieCliDecrypt
import Proofs.GoTieCliEncrypt
import Proofs.GoTieKeygen
import Proofs.GoTieKeygenMain
import Proofs.GoTieKeygenModel
import Proofs.GoTieCliModel
import Proofs.GoTieCliSegments
import Proofs.GoTieCliMain
import Proofs.GoTieCliCompose
namespace AgeModel
namespace Tie.C15
open Extracted

theorem lazy_write_unopened {τ φ : Type} (isNil : φ → Bool) (Create : Bytes → τ → Go.M (φ × Option Go.Err × τ))
    (FW : φ → Bytes → τ → Go.M (Int × Option Go.Err × τ)) (name : Bytes) (f : φ) (hf : isNil f = true) (p : Bytes) (t0 : τ) :
    main_lazyOpener_Write isNil Create FW ⟨name, f, none⟩ p t0 =
      (do let t ← Create name t0
          if (t.2.1 != none) = true then pure (0, t.2.1, ⟨name, t.1, t.2.1⟩, t.2.2)
          else do
            let r ← FW t.1 p t.2.2
            pure (r.1, r.2.1, ⟨name, t.1, t.2.1⟩, r.2.2)) :=
  GoTie.lazy_write_unopened isNil Create FW name f hf p t0

theorem lazy_write_opened {τ φ : Type} (isNil : φ → Bool) (FW : φ → Bytes → τ → Go.M (Int × Option Go.Err × τ))
    (name : Bytes) (f : φ) (hf : isNil f = false) (p : Bytes) (t0 : τ) :
    main_lazyOpener_Write isNil (fun _ _ => .error (.panic 99)) FW ⟨name, f, none⟩ p t0 =
      (do let r ← FW f p t0
          pure (r.1, r.2.1, ⟨name, f, none⟩, r.2.2)) :=
  GoTie.lazy_write_opened isNil FW name f hf p t0

theorem lazy_write_failed {τ φ : Type} (isNil : φ → Bool) (name : Bytes) (f : φ) (e : Go.Err) (p : Bytes) (t0 : τ) :
    main_lazyOpener_Write isNil (fun _ _ => .error (.panic 99)) (fun _ _ _ => .error (.panic 98)) ⟨name, f, some e⟩ p t0 =
      .ok (0, some e, ⟨name, f, some e⟩, t0) :=
  GoTie.lazy_write_failed isNil name f e p t0

theorem lazy_close {τ φ : Type} (isNil : φ → Bool) (FC : φ → τ → Go.M (Option Go.Err × τ)) (name : Bytes) (f : φ)
    (err : Option Go.Err) (t0 : τ) :
    main_lazyOpener_Close isNil FC ⟨name, f, err⟩ t0 = if isNil f = true then .ok (none, t0) else FC f t0 :=
  GoTie.lazy_close isNil FC name f err t0

/-- read in the model's world (`os.Create` = `Cli.create`, `(*os.File).Write` = `Proc.writeFile`), the translated
    `Write` IS the model's `Proc.write (.lazy name)`: same world, same opener state, same success -/
theorem lazy_write_refines (eC eW : Go.Err) (l : main_lazyOpener (Option Cli.Path)) (d : Bytes) (p : Cli.Proc)
    (hp : p.lz = GoTie.lzOf l) :
    ∃ n e l' w', main_lazyOpener_Write Option.isNone (GoTie.mCreate eC) (GoTie.mFileWrite eW) l d p.w = .ok (n, e, l', w') ∧
      ((Cli.Proc.write (.lazy l.name) p d).1.w = w' ∧ (Cli.Proc.write (.lazy l.name) p d).1.lz = GoTie.lzOf l' ∧
        (Cli.Proc.write (.lazy l.name) p d).2 = e.isNone) :=
  GoTie.lazy_write_refines eC eW l d p hp

/-! `decrypt` of cmd/age/age.go, translated on every run (`errorf` / `errorWithHint`, which end the
process with status 1, are exit sites — faults 1000 … 1003): the order of effects of `age -d`, and
in particular: a refused decryption exits WITHOUT ANY WRITE to the output. -/

theorem cli_decrypt_tie {δ ι : Type} (NR : Bytes → Go.M Bytes) (D : Bytes → List ι → Go.M (Bytes × Option Go.Err))
    (W : δ → Bytes → Go.M (Int × Option Go.Err × δ)) (Cp : δ → Bytes → Go.M (Int × Option Go.Err × δ))
    (ids : List ι) (inp : Bytes) (out : δ) :
    main_decrypt NR D W Cp ids inp out =
      if GoTie.mangled inp = true then .error (.panic 1000)
      else (do
        let in' ← (if GoTie.armored inp = true then NR inp else pure inp)
        let t ← D in' ids
        if (t.2 != none) = true then .error (.panic 1001)
        else do
          let w ← W out []
          if (w.2.1 != none) = true then .error (.panic 1002)
          else do
            let c ← Cp w.2.2 t.1
            if (c.2.1 != none) = true then .error (.panic 1003) else pure c.2.2) :=
  GoTie.cli_decrypt_tie NR D W Cp ids inp out

theorem cli_decrypt_refused {δ ι : Type} (NR : Bytes → Go.M Bytes) (D : Bytes → List ι → Go.M (Bytes × Option Go.Err))
    (ids : List ι) (inp : Bytes) (out : δ) (in' : Bytes)
    (hin : (if GoTie.armored inp = true then NR inp else pure inp) = .ok in')
    (r : Bytes) (e : Go.Err) (hD : D in' ids = .ok (r, some e)) :
    main_decrypt NR D (fun _ _ => .error (.panic 77)) (fun _ _ => .error (.panic 78)) ids inp out =
      .error (.panic (if GoTie.mangled inp = true then 1000 else 1001)) :=
  GoTie.cli_decrypt_refused NR D ids inp out in' hin r e hD

/-! `encrypt` of cmd/age/age.go, translated on every run with everything outside it as one explicit state
(output, armor writer and stream writer are handles into it) and `errorf` as an exit site. The armor
writer's `Close` — deferred in the source INSIDE `if withArmor` — runs at the end exactly when that branch was
taken. `encrypt` returns, and only then can `age -e` exit 0, exactly when `age.Encrypt`, the copy of the whole
input, the stream writer's `Close` and, last, the armor writer's `Close` all reported success; every failure is
an exit with status 1 after which nothing more is written. -/

theorem cli_encrypt_tie {ζ ρ τ : Type} (nilZ : ζ) (NW : ζ → τ → Go.M (ζ × τ))
    (Enc : ζ → List ρ → τ → Go.M (ζ × Option Go.Err × τ)) (Cp : ζ → Bytes → τ → Go.M (Int × Option Go.Err × τ))
    (Cl : ζ → τ → Go.M (Option Go.Err × τ)) (recs : List ρ) (inp : Bytes) (out : ζ) (armor : Bool) (t0 : τ) :
    main_encrypt nilZ NW Enc Cp Cl recs inp out armor t0 =
      if armor = true then (do
        let r ← NW out t0
        GoTie.encryptTail Enc Cp Cl recs inp r.1 (some r.1) r.2)
      else GoTie.encryptTail Enc Cp Cl recs inp out none t0 :=
  GoTie.cli_encrypt_tie nilZ NW Enc Cp Cl recs inp out armor t0

theorem cli_encrypt_returns_iff {ζ ρ τ : Type} (nilZ : ζ) (NW : ζ → τ → Go.M (ζ × τ))
    (Enc : ζ → List ρ → τ → Go.M (ζ × Option Go.Err × τ)) (Cp : ζ → Bytes → τ → Go.M (Int × Option Go.Err × τ))
    (Cl : ζ → τ → Go.M (Option Go.Err × τ)) (recs : List ρ) (inp : Bytes) (out : ζ) (armor : Bool) (t0 t' : τ) :
    main_encrypt nilZ NW Enc Cp Cl recs inp out armor t0 = .ok t' ↔
      ∃ dst t1, (if armor = true then NW out t0 = .ok (dst, t1) else dst = out ∧ t1 = t0) ∧
        ∃ w t2 n t3 t4, Enc dst recs t1 = .ok (w, none, t2) ∧ Cp w inp t2 = .ok (n, none, t3) ∧
          Cl w t3 = .ok (none, t4) ∧
          if armor = true then Cl dst t4 = .ok (none, t') else t' = t4 :=
  GoTie.cli_encrypt_returns_iff nilZ NW Enc Cp Cl recs inp out armor t0 t'

/-! `age-keygen` (cmd/age-keygen/keygen.go), translated on every run with everything outside as one
explicit state and `errorf` as an exit site: how the output and the input are opened (`main`, from
`out := os.Stdout` to the dispatch on `-y`), `convert` (`-y`) and `generate`. -/

/-- the `-o` file is opened first, by `os.OpenFile(name, O_WRONLY|O_CREATE|O_EXCL, 0600)`; failure ends the process -/
theorem keygen_open_tie {ζ τ : Type} (nilZ stdout stdin : ζ) (OF : Bytes → Int → UInt32 → τ → Go.M (ζ × Option Go.Err × τ))
    (Arg : Int → τ → Go.M (Bytes × τ)) (Op : Bytes → τ → Go.M (ζ × Option Go.Err × τ))
    (convertFlag : Bool) (outFlag : Bytes) (t0 : τ) :
    keygen_main nilZ stdout OF stdin Arg Op convertFlag outFlag t0 =
      if outFlag = [] then GoTie.keygenOpenIn stdin Arg Op stdout t0
      else (do
        let f ← OF outFlag 193 384 t0
        if (f.2.1 != none) = true then .error (.panic 1000)
        else GoTie.keygenOpenIn stdin Arg Op f.1 f.2.2) :=
  GoTie.keygen_open_tie nilZ stdout stdin OF Arg Op convertFlag outFlag t0

theorem keygen_flags : (193 : Int) = 1 + 64 + 128 ∧ (384 : UInt32) = 6 * 64 := GoTie.keygen_flags

/-- no other flags, no other mode, ever -/
theorem keygen_open_flags {ζ τ : Type} (nilZ stdout stdin : ζ) (OF OF' : Bytes → Int → UInt32 → τ → Go.M (ζ × Option Go.Err × τ))
    (Arg : Int → τ → Go.M (Bytes × τ)) (Op : Bytes → τ → Go.M (ζ × Option Go.Err × τ))
    (h : ∀ n t, OF n 193 384 t = OF' n 193 384 t) (convertFlag : Bool) (outFlag : Bytes) (t0 : τ) :
    keygen_main nilZ stdout OF stdin Arg Op convertFlag outFlag t0 =
      keygen_main nilZ stdout OF' stdin Arg Op convertFlag outFlag t0 :=
  GoTie.keygen_open_flags nilZ stdout stdin OF Arg Op OF' h convertFlag outFlag t0

/-- `age-keygen -y` returns exactly when the input parsed to at least one identity, all native, and every recipient line
    was written without error, one per identity, in order -/
theorem keygen_convert_returns_iff {ζ ι ρ τ : Type} (PI : Bytes → τ → Go.M (List ι × Option Go.Err × τ)) (isX : ι → Bool)
    (Rc : ι → τ → Go.M (ρ × τ)) (F : ζ → Bytes → ρ → τ → Go.M (Int × Option Go.Err × τ)) (inp : Bytes) (out : ζ) (t0 t' : τ) :
    keygen_convert PI isX Rc F inp out t0 = .ok t' ↔
      ∃ ids t1, PI inp t0 = .ok (ids, none, t1) ∧ ids ≠ [] ∧ (∀ id ∈ ids, isX id = true) ∧
        GoTie.KeygenWrites Rc F out ids t1 t' :=
  GoTie.keygen_convert_returns_iff PI isX Rc F inp out t0 t'

/-- … and otherwise ends the process at one of its four exit sites -/
theorem keygen_convert_exits {ζ ι ρ τ : Type} (PI : Bytes → τ → Go.M (List ι × Option Go.Err × τ)) (isX : ι → Bool)
    (Rc : ι → τ → Go.M (ρ × τ)) (F : ζ → Bytes → ρ → τ → Go.M (Int × Option Go.Err × τ)) (inp : Bytes) (out : ζ) (t0 : τ)
    (hPI : ∀ b t, ∃ r, PI b t = .ok r) (hRc : ∀ i t, ∃ r, Rc i t = .ok r) (hF : ∀ o f r t, ∃ x, F o f r t = .ok x) :
    (∃ t', keygen_convert PI isX Rc F inp out t0 = .ok t') ∨
      ∃ k, k < 4 ∧ keygen_convert PI isX Rc F inp out t0 = .error (.panic (1000 + k)) :=
  GoTie.keygen_convert_exits PI isX Rc F inp out t0 hPI hRc hF

/-- `generate`, as it stands in the source, IS this sequence (`GoTie.generateModel`): generate the key pair (exit site 0
    if that fails); look whether standard output is a terminal and, if it is not, print the public key to standard
    error (the result of that write is not looked at); take the time, format it, derive the recipient from THE
    generated key, and write the key file in ONE `Fprintf` to `out` with that timestamp, that recipient and that key,
    in the state those steps left (exit site 1 if that write reports an error) — for every behaviour of the callees -/
theorem keygen_generate_tie {ζ θ ι ρ τ : Type} (G : τ → Go.M (ι × Option Go.Err × τ)) (Fd : ζ → τ → Go.M (Int × τ))
    (IsT : Int → τ → Go.M (Bool × τ)) (stderr : ζ) (Rc : ι → τ → Go.M (ρ × τ))
    (F1 : ζ → Bytes → ρ → τ → Go.M (Int × Option Go.Err × τ)) (Fmt : θ → Bytes → τ → Go.M (Bytes × τ))
    (Now : τ → Go.M (θ × τ)) (F2 : ζ → Bytes → Bytes → ρ → ι → τ → Go.M (Int × Option Go.Err × τ)) (out : ζ) (t0 : τ) :
    keygen_generate G Fd IsT stderr Rc F1 Fmt Now F2 out t0 = GoTie.generateModel G Fd IsT stderr Rc F1 Fmt Now F2 out t0 :=
  GoTie.keygen_generate_tie G Fd IsT stderr Rc F1 Fmt Now F2 out t0

/-- a corollary (weaker than the equation above: its timestamp, recipient and state are existential): `generate` returns
    only if the key pair was generated and a write of the key file with that key reported success -/
theorem keygen_generate_returns {ζ θ ι ρ τ : Type} (G : τ → Go.M (ι × Option Go.Err × τ)) (Fd : ζ → τ → Go.M (Int × τ))
    (IsT : Int → τ → Go.M (Bool × τ)) (stderr : ζ) (Rc : ι → τ → Go.M (ρ × τ))
    (F1 : ζ → Bytes → ρ → τ → Go.M (Int × Option Go.Err × τ)) (Fmt : θ → Bytes → τ → Go.M (Bytes × τ))
    (Now : τ → Go.M (θ × τ)) (F2 : ζ → Bytes → Bytes → ρ → ι → τ → Go.M (Int × Option Go.Err × τ)) (out : ζ) (t0 t' : τ)
    (h : keygen_generate G Fd IsT stderr Rc F1 Fmt Now F2 out t0 = .ok t') :
    ∃ k t1, G t0 = .ok (k, none, t1) ∧
      ∃ (ts : Bytes) (rc : ρ) (t2 : τ) (n : Int), F2 out GoTie.fmtKeyFile ts rc k t2 = .ok (n, none, t') :=
  GoTie.keygen_generate_returns G Fd IsT stderr Rc F1 Fmt Now F2 out t0 t' h

/-! ## The translated code refines the command-line model of Props/C15

`Cli.execute` / `Cli.krun` (AgeModel/Cli.lean) — the model the theorems of Props/C15 are about — is
otherwise tied to the tools by the correspondence only. Here the TRANSLATED writing phases are shown
to be that model's: the outside state is read as the model's process state `Cli.Proc`, a write of
the source as the model's write to the model's destination. -/

/-- `decrypt`, outcome by outcome. `r1` is the first, empty write (the one that makes the lazy opener create the file), `r2`
    the copy of the bytes the payload releases, from the state `r1` leaves. The translated function returns only if both
    writes succeeded and the payload was whole, with exactly the state `r2.1`, and `execute` is `finish` of it. Otherwise
    the fault is one of two exit sites and nothing else: site 2 (after `out.Write(nil)`) exactly when the empty write
    failed — `execute` is then the state that write left, status 1; site 3 (after `io.Copy`) when the empty write
    succeeded and the copy failed or the payload is damaged after `n` bytes — `execute` is then the state after the copy
    (the released prefix, as far as the destination took it), status 1. -/
theorem cli_decrypt_refines {ι : Type} (eW : Go.Err) (dest : Cli.Dest) (pt : Bytes) (fa : Option Nat) (ids : List ι) (inp : Bytes)
    (w : Cli.World) (hm : GoTie.mangled inp = false) (ha : GoTie.armored inp = false) :
    let data : Bytes := match fa with | none => pt | some n => pt.take n
    let r1 := ({ w := w } : Cli.Proc).write dest []
    let r2 := r1.1.writeNE dest data
    match main_decrypt (fun b => pure b) (fun _ (_ : List ι) => .ok (pt, none)) (GoTie.mWrite eW dest)
        (GoTie.mCopy eW dest data fa.isSome) ids inp ({ w := w } : Cli.Proc) with
    | .ok p' => p' = r2.1 ∧ r1.2 = true ∧ r2.2 = true ∧ fa = none ∧ Cli.execute dest (.dec (.ok pt fa)) w = p'.finish dest
    | .error f =>
      (f = .panic 1002 ∧ r1.2 = false ∧ Cli.execute dest (.dec (.ok pt fa)) w = r1.1.result 1) ∨
      (f = .panic 1003 ∧ r1.2 = true ∧ (r2.2 = false ∨ fa.isSome = true) ∧
        Cli.execute dest (.dec (.ok pt fa)) w = r2.1.result 1) :=
  GoTie.cli_decrypt_refines eW dest pt fa ids inp w hm ha

theorem cli_decrypt_refused_refines {ι : Type} (dest : Cli.Dest) (e : Go.Err) (ids : List ι) (inp : Bytes) (w : Cli.World)
    (hm : GoTie.mangled inp = false) (ha : GoTie.armored inp = false) :
    main_decrypt (fun b => pure b) (fun _ (_ : List ι) => .ok ([], some e)) (fun (_ : Cli.Proc) _ => .error (.panic 77))
        (fun _ _ => .error (.panic 78)) ids inp ({ w := w } : Cli.Proc) = .error (.panic 1001) ∧
      Cli.execute dest (.dec .headerRefused) w = ⟨1, w, []⟩ :=
  GoTie.cli_decrypt_refused_refines dest e ids inp w hm ha

/-- `age-keygen -y`: the translated loop is `Cli.kwriteLines` over the recipient lines -/
theorem keygen_convert_refines {ι : Type} (eW : Go.Err) (rcOf : ι → Bytes) (ids : List ι) (hne : ids ≠ [])
    (inp : Bytes) (out : Cli.KDest) (p : Cli.Proc) :
    keygen_convert (fun _ t => .ok (ids, none, t)) (fun _ => true) (fun id t => .ok (rcOf id, t)) (GoTie.kFprintfLine eW) inp out p =
      match Cli.kwriteLines out p (ids.map fun id => rcOf id ++ [10]) with
      | (p', true) => .ok p'
      | (_, false) => .error (.panic 1003) :=
  GoTie.keygen_convert_refines eW rcOf ids hne inp out p

/-- `age-keygen`: the translated `generate` is `Cli.kwriteLines` of the one key-file text -/
theorem keygen_generate_refines {ι θ : Type} (eW : Go.Err) (text : Bytes) (k : ι) (fd : Int) (isTerm : Bool) (rc ts : Bytes)
    (now : θ) (e1 : Option Go.Err) (n1 : Int) (stderr out : Cli.KDest) (p : Cli.Proc) :
    keygen_generate (fun t => .ok (k, none, t)) (fun _ t => .ok (fd, t)) (fun _ t => .ok (isTerm, t)) stderr
        (fun _ t => .ok (rc, t)) (fun _ _ _ t => .ok (n1, e1, t)) (fun _ _ t => .ok (ts, t)) (fun t => .ok (now, t))
        (GoTie.kFprintfKey eW text) out p =
      match Cli.kwriteLines out p [text] with
      | (p', true) => .ok p'
      | (_, false) => .error (.panic 1001) :=
  GoTie.keygen_generate_refines eW text k fd isTerm rc ts now e1 n1 stderr out p

/-! ### "the copy loops are modelled as one write", proved — and `encrypt`

`io.Copy`, the STREAM writer and the armor writer issue many non-empty writes and stop at the first
error; `Cli.execute` hands the whole ciphertext to the destination at once. For EVERY destination of
the model (standard output, the buffer used when it is a terminal, the lazily opened file) writing
segment by segment leaves the process observably where the single write leaves it, with the same
success (`writeSegs_flatten`). With the four steps of the translated `encrypt` read as segment
writers, it returns exactly when `Cli.execute` reaches `finish`, observably in the model's final
state, and otherwise ends the process at the exit site of the first step whose write failed, the
model's result being observably the state that step stopped in, with status 1
(`cli_encrypt_refines`). -/

theorem writeSegs_flatten (dest : Cli.Dest) (segs : List Bytes) (p : Cli.Proc) (h : GoTie.SegInv p) :
    GoTie.ObsEq (GoTie.writeSegs dest p segs).1 (p.writeNE dest segs.flatten).1 ∧
      (GoTie.writeSegs dest p segs).2 = (p.writeNE dest segs.flatten).2 :=
  GoTie.writeSegs_flatten dest segs p h

/-- `encrypt`, outcome by outcome. `r1 … r4` are the segment writers of the four writing steps, each from the state the one
    before left: `age.Encrypt` (`s1`), `io.Copy` (`s2`), the stream writer's `Close` (`s3`), the armor writer's `Close`
    (`s4`, reached only with `-a`). The translated function returns only if every step that is run succeeded, with exactly
    the state the last of them left, and `execute` is observably `finish` of it. Otherwise the fault is one of the four
    exit sites and nothing else, and the site names the step: 0 — `s1` could not be written; 1 — `s1` was, `s2` could
    not; 2 — `s1`, `s2` were, `s3` could not; 3 (only with `-a`) — `s1`, `s2`, `s3` were, `s4` could not; `execute` is
    then observably the state in which that segment writer stopped, with status 1. (`armor.NewWriter` writes nothing and
    reports no error in the source; its model `mNW` cannot fail.) -/
theorem cli_encrypt_refines {ρ : Type} (eW : Go.Err) (dest : Cli.Dest) (s1 s2 s3 s4 : List Bytes) (recs : List ρ) (inp : Bytes)
    (armor : Bool) (w : Cli.World) :
    let ct := (s1 ++ s2 ++ s3 ++ (if armor then s4 else [])).flatten
    let r1 := GoTie.writeSegs dest ({ w := w } : Cli.Proc) s1
    let r2 := GoTie.writeSegs dest r1.1 s2
    let r3 := GoTie.writeSegs dest r2.1 s3
    let r4 := GoTie.writeSegs dest r3.1 s4
    match main_encrypt (0 : Nat) GoTie.mNW (GoTie.mEnc eW dest s1) (GoTie.mCp eW dest s2) (GoTie.mCl eW dest s3 s4) recs inp 0 armor
        ({ w := w } : Cli.Proc) with
    | .ok p' =>
      r1.2 = true ∧ r2.2 = true ∧ r3.2 = true ∧ (armor = true → r4.2 = true) ∧ p' = (if armor then r4.1 else r3.1) ∧
        GoTie.ResObsEq (Cli.execute dest (.enc ct) w) (p'.finish dest)
    | .error f =>
      (f = .panic 1000 ∧ r1.2 = false ∧ GoTie.ResObsEq (Cli.execute dest (.enc ct) w) (r1.1.result 1)) ∨
      (f = .panic 1001 ∧ r1.2 = true ∧ r2.2 = false ∧ GoTie.ResObsEq (Cli.execute dest (.enc ct) w) (r2.1.result 1)) ∨
      (f = .panic 1002 ∧ r1.2 = true ∧ r2.2 = true ∧ r3.2 = false ∧
        GoTie.ResObsEq (Cli.execute dest (.enc ct) w) (r3.1.result 1)) ∨
      (f = .panic 1003 ∧ armor = true ∧ r1.2 = true ∧ r2.2 = true ∧ r3.2 = true ∧ r4.2 = false ∧
        GoTie.ResObsEq (Cli.execute dest (.enc ct) w) (r4.1.result 1)) :=
  GoTie.cli_encrypt_refines eW dest s1 s2 s3 s4 recs inp armor w

/-! ### `main` of cmd/age, from the flag-conflict switch to its end

Translated on every run (flag parsing, `-version` and the "too many arguments" hints are outside the
fragment; the three `defer`s inside branches run at the end exactly when their branch was taken). It
IS the model's `Cli.flagCheck` / `Cli.prepare` where it matters for this property: -/

/-- every flag conflict the model names ends the process at its site — whatever the environment does, i.e. before anything
    is looked at, opened or started -/
theorem main_flagCheck {ζ τ : Type} (E : GoTie.MainEnv ζ τ) (a : Cli.Args) (err : Cli.ErrClass) (h : Cli.flagCheck a = some err) (t0 : τ) :
    E.run a.output a.decrypt a.encrypt a.passphrase a.armor a.recipients a.recipientsFiles (a.identities.map GoTie.main_toFlag) t0 =
      .error (.panic (1000 + GoTie.main_flagSite err)) :=
  GoTie.main_flagCheck E a err h t0

/-- an output whose absolute path is that of an `-i` file, an `-R` file or the input is refused (site 12) BEFORE the output is
    opened: the `newLazyOpener` handed in here faults when called, and is not reached -/
theorem main_sameFile {ζ τ : Type} (E : GoTie.MainEnv ζ τ) (ap : Bytes → Bytes) (a : Cli.Args) (hfc : Cli.flagCheck a = none)
    (inputName : Bytes) (hArg : ∀ t, E.Arg 0 t = .ok (inputName, t))
    (hOpen : ∀ n t, ∃ f t', E.Open n t = .ok (f, none, t'))
    (hSet : ∀ b t, ∃ t', E.SetStdin b t = .ok t') (hFd : ∀ z t, ∃ n t', E.Fd z t = .ok (n, t'))
    (hIsT : ∀ n t, ∃ t', E.IsT n t = .ok (false, t'))
    (hAP : E.AP = GoTie.main_pureAP ap) (hNL : E.NL = fun _ _ => .error (.panic 77))
    (hout : a.output ≠ [] ∧ a.output ≠ [45])
    (hin : ap a.output ∈ GoTie.main_inUse ap a.identities a.recipientsFiles inputName) (t0 : τ) :
    E.run a.output a.decrypt a.encrypt a.passphrase a.armor a.recipients a.recipientsFiles (a.identities.map GoTie.main_toFlag) t0 =
      .error (.panic 1012) :=
  GoTie.main_sameFile E ap a hfc inputName hArg hOpen hSet hFd hIsT hAP hNL hout hin t0

/-- `-o FILE` not in use: the output handed to the mode function IS the lazy opener for that name, exactly one mode function
    is called — the one the model's dispatch names —, and `main` returns only if the opener's `Close` reports success -/
theorem main_dispatch_file {ζ τ : Type} (E : GoTie.MainEnv ζ τ) (ap : Bytes → Bytes) (a : Cli.Args) (hfc : Cli.flagCheck a = none)
    (hArg : ∀ t, E.Arg 0 t = .ok ([], t)) (hSet : ∀ b t, E.SetStdin b t = .ok t) (hFd : ∀ z t, E.Fd z t = .ok (0, t))
    (hIsT : ∀ n t, E.IsT n t = .ok (false, t)) (hAP : E.AP = GoTie.main_pureAP ap)
    (hout : a.output ≠ [] ∧ a.output ≠ [45])
    (hnot : ap a.output ∉ GoTie.main_inUse ap a.identities a.recipientsFiles []) (t0 : τ) :
    E.run a.output a.decrypt a.encrypt a.passphrase a.armor a.recipients a.recipientsFiles (a.identities.map GoTie.main_toFlag) t0 =
      (do let o ← E.NL a.output t0
          let t2 ← E.mode a E.stdin o.1 o.2
          let c ← E.WCl o.1 t2
          if (c.1 != none) = true then .error (.panic 1014) else pure c.2) :=
  GoTie.main_dispatch_file E ap a hfc hArg hSet hFd hIsT hAP hout hnot t0

/-- binary output is not sent to a terminal (site 13), before any mode function is called -/
theorem main_binaryToTerminal {ζ τ : Type} (E : GoTie.MainEnv ζ τ) (ap : Bytes → Bytes) (a : Cli.Args) (hfc : Cli.flagCheck a = none)
    (hArg : ∀ t, E.Arg 0 t = .ok ([], t)) (hSet : ∀ b t, E.SetStdin b t = .ok t) (hFd : ∀ z t, E.Fd z t = .ok (0, t))
    (hIsT : ∀ n t, E.IsT n t = .ok (true, t)) (hAP : E.AP = GoTie.main_pureAP ap)
    (hout : a.output = []) (hd : a.decrypt = false) (harm : a.armor = false) (t0 : τ) :
    E.run a.output a.decrypt a.encrypt a.passphrase a.armor a.recipients a.recipientsFiles (a.identities.map GoTie.main_toFlag) t0 =
      .error (.panic 1013) :=
  GoTie.main_binaryToTerminal E ap a hfc hArg hSet hFd hIsT hAP hout hd harm t0

/-- an input file that cannot be opened ends the process (site 10) before the output is looked at -/
theorem main_openInput {ζ τ : Type} (E : GoTie.MainEnv ζ τ) (ap : Bytes → Bytes) (a : Cli.Args) (hfc : Cli.flagCheck a = none)
    (inputName : Bytes) (hname : inputName ≠ [] ∧ inputName ≠ [45]) (hArg : ∀ t, E.Arg 0 t = .ok (inputName, t))
    (f : ζ) (e : Go.Err) (hOpen : ∀ n t, E.Open n t = .ok (f, some e, t)) (hAP : E.AP = GoTie.main_pureAP ap)
    (hNL : E.NL = fun _ _ => .error (.panic 77)) (hFd : E.Fd = fun _ _ => .error (.panic 78)) (t0 : τ) :
    E.run a.output a.decrypt a.encrypt a.passphrase a.armor a.recipients a.recipientsFiles (a.identities.map GoTie.main_toFlag) t0 =
      .error (.panic 1010) :=
  GoTie.main_openInput E ap a hfc inputName hname hArg f e hOpen hAP hNL hFd t0

/-- no `-o`, nothing is a terminal: the mode function writes to standard output itself; nothing is closed or copied after it -/
theorem main_dispatch_stdout {ζ τ : Type} (E : GoTie.MainEnv ζ τ) (ap : Bytes → Bytes) (a : Cli.Args) (hfc : Cli.flagCheck a = none)
    (hArg : ∀ t, E.Arg 0 t = .ok ([], t)) (hSet : ∀ b t, E.SetStdin b t = .ok t) (hFd : ∀ z t, E.Fd z t = .ok (0, t))
    (hIsT : ∀ n t, E.IsT n t = .ok (false, t)) (hAP : E.AP = GoTie.main_pureAP ap)
    (hout : a.output = [] ∨ a.output = [45]) (t0 : τ) :
    E.run a.output a.decrypt a.encrypt a.passphrase a.armor a.recipients a.recipientsFiles (a.identities.map GoTie.main_toFlag) t0 =
      E.mode a E.stdin E.stdout t0 :=
  GoTie.main_dispatch_stdout E ap a hfc hArg hSet hFd hIsT hAP hout t0

/-- armored encryption from a terminal to a terminal: into a buffer that is copied to standard output when `main` returns,
    whatever that copy reports (the model's `Dest.buffered`) -/
theorem main_dispatch_buffered {ζ τ : Type} (E : GoTie.MainEnv ζ τ) (ap : Bytes → Bytes) (a : Cli.Args) (hfc : Cli.flagCheck a = none)
    (hArg : ∀ t, E.Arg 0 t = .ok ([], t)) (hSet : ∀ b t, E.SetStdin b t = .ok t) (hFd : ∀ z t, E.Fd z t = .ok (0, t))
    (hIsT : ∀ n t, E.IsT n t = .ok (true, t)) (hAP : E.AP = GoTie.main_pureAP ap) (hsame : E.same E.stdin E.stdin = true)
    (hout : a.output = []) (hd : a.decrypt = false) (harm : a.armor = true) (t0 : τ) :
    E.run a.output a.decrypt a.encrypt a.passphrase a.armor a.recipients a.recipientsFiles (a.identities.map GoTie.main_toFlag) t0 =
      (do let t2 ← E.mode a E.stdin E.bufV t0
          let c ← E.Cp E.stdout E.bufV t2
          pure c.2.2) :=
  GoTie.main_dispatch_buffered E ap a hfc hArg hSet hFd hIsT hAP hsame hout hd harm t0

/-! ### The pieces fit together

The abstract callee of one translated function, instantiated with the TRANSLATED definition of the
function it stands for: `decryptNotPass` with `decrypt`, `encryptPass` / `encryptNotPass` with
`encrypt`. No assumption about `decrypt` / `encrypt` is left — only about what they call. -/

theorem decryptNotPass_decrypt {ι τ υ ζ : Type} (reject : ι) (PIF : Bytes → τ → Go.M (List ι × Option Go.Err × τ)) (ui : υ)
    (NI : Bytes → υ → τ → Go.M (ι × Option Go.Err × τ))
    (NR : Bytes → Go.M Bytes) (Dec : Bytes → List ι → Go.M (Bytes × Option Go.Err))
    (W : τ → Bytes → Go.M (Int × Option Go.Err × τ)) (Cp : τ → Bytes → Go.M (Int × Option Go.Err × τ))
    (flags : List main_identityFlag) (inp : Bytes) (out : ζ) (t0 : τ) :
    main_decryptNotPass reject PIF ui NI (fun ids i (_ : ζ) t => main_decrypt NR Dec W Cp ids i t) flags inp out t0 =
      (do let r ← GoTie.collectIds PIF ui NI flags t0 [reject]
          if GoTie.mangled inp = true then .error (.panic 1000)
          else (do
            let in' ← (if GoTie.armored inp = true then NR inp else pure inp)
            let d ← Dec in' r.2
            if (d.2 != none) = true then .error (.panic 1001)
            else do
              let w ← W r.1 []
              if (w.2.1 != none) = true then .error (.panic 1002)
              else do
                let c ← Cp w.2.2 d.1
                if (c.2.1 != none) = true then .error (.panic 1003) else pure c.2.2)) :=
  GoTie.decryptNotPass_decrypt reject PIF ui NI NR Dec W Cp flags inp out t0

theorem encryptPass_encrypt {ζ ρ τ : Type} (Pr : τ → Go.M (Bytes × Option Go.Err × τ)) (NS : Bytes → τ → Go.M (ρ × Option Go.Err × τ))
    (Cfg : ρ → Go.M Unit) (nilZ : ζ) (NW : ζ → τ → Go.M (ζ × τ)) (Enc : ζ → List ρ → τ → Go.M (ζ × Option Go.Err × τ))
    (Cp : ζ → Bytes → τ → Go.M (Int × Option Go.Err × τ)) (Cl : ζ → τ → Go.M (Option Go.Err × τ))
    (inp : Bytes) (out : ζ) (armor : Bool) (t0 : τ) :
    main_encryptPass Pr NS Cfg (main_encrypt nilZ NW Enc Cp Cl) inp out armor t0 =
      (do let p ← Pr t0
          if (p.2.1 != none) = true then .error (.panic 1000)
          else do
            let r ← NS p.1 p.2.2
            if (r.2.1 != none) = true then .error (.panic 1001)
            else do
              Cfg r.1
              if armor = true then (do
                let a ← NW out r.2.2
                GoTie.encryptTail Enc Cp Cl [r.1] inp a.1 (some a.1) a.2)
              else GoTie.encryptTail Enc Cp Cl [r.1] inp out none r.2.2) :=
  GoTie.encryptPass_encrypt Pr NS Cfg nilZ NW Enc Cp Cl inp out armor t0

theorem encryptNotPass_encrypt {ζ ι ρ τ υ : Type} (PR : Bytes → τ → Go.M (ρ × Option Go.Err × τ))
    (PRF : Bytes → τ → Go.M (List ρ × Option Go.Err × τ)) (PIF : Bytes → τ → Go.M (List ι × Option Go.Err × τ))
    (I2R : List ι → τ → Go.M (List ρ × Option Go.Err × τ)) (ui : υ) (NI : Bytes → υ → τ → Go.M (ι × Option Go.Err × τ))
    (IR : ι → τ → Go.M (ρ × τ)) (nilZ : ζ) (NW : ζ → τ → Go.M (ζ × τ)) (Enc : ζ → List ρ → τ → Go.M (ζ × Option Go.Err × τ))
    (Cp : ζ → Bytes → τ → Go.M (Int × Option Go.Err × τ)) (Cl : ζ → τ → Go.M (Option Go.Err × τ))
    (recs files : List Bytes) (flags : List main_identityFlag) (inp : Bytes) (out : ζ) (armor : Bool) (t0 : τ) :
    main_encryptNotPass PR PRF PIF I2R ui NI IR (main_encrypt nilZ NW Enc Cp Cl) recs files flags inp out armor t0 =
      (do let a ← GoTie.collectR PR recs t0 []
          let b ← GoTie.collectRF PRF files a.1 a.2
          let c ← GoTie.collectIR PIF I2R ui NI IR flags b.1 b.2
          if armor = true then (do
            let w ← NW out c.1
            GoTie.encryptTail Enc Cp Cl c.2 inp w.1 (some w.1) w.2)
          else GoTie.encryptTail Enc Cp Cl c.2 inp out none c.1) :=
  GoTie.encryptNotPass_encrypt PR PRF PIF I2R ui NI IR nilZ NW Enc Cp Cl recs files flags inp out armor t0

end Tie.C15
end AgeModel
