/-
  Tie/C05 — the wire-format constants of the Go code are the constants of the
  age v1 specification as the model states them.

  `AgeModel/Extracted/Consts.lean` is regenerated from /repo by every ./check;
  the expectations below are written by hand. A label, a size, a stanza type
  name, an scrypt parameter, the chunk size or the nonce layout changed in the
  code — even consistently on the encrypting and the decrypting side — breaks
  one of these theorems.

  Limits that are not wire format (`maxWhitespace`, the key-file size limits,
  the default work factors) are model parameters and deliberately not pinned.
-/
import AgeModel.Extracted.Consts
import AgeModel.SpecConsts
import AgeModel.Concrete
import AgeModel.File
import Proofs.GoTieLit
import Proofs.GoTieNative
import Proofs.GoTiePrims
import Proofs.GoTieSshRsa
import Proofs.GoTieScryptCtor
import Proofs.GoTieMarshal
import Proofs.GoTieSmall
import Proofs.GoTieAead
import Proofs.GoTieWitnessRecip
import Proofs.GoTieWitnessFile
import Proofs.GoTieWitnessMarshal
namespace AgeModel
namespace Tie.C05
open SpecConsts

/-! ### the specification constants: String form and byte form agree -/

theorem spec_bytes_consistent :
    codes intro = introBytes ∧ codes stanzaPrefix = stanzaPrefixBytes ∧ codes footerPrefix = footerPrefixBytes ∧
    codes hkdfInfoHeader = hkdfInfoHeaderBytes ∧ codes hkdfInfoPayload = hkdfInfoPayloadBytes ∧
    codes stanzaTypeX25519 = stanzaTypeX25519Bytes ∧ codes stanzaTypeScrypt = stanzaTypeScryptBytes ∧
    codes stanzaTypeSshRsa = stanzaTypeSshRsaBytes ∧ codes stanzaTypeSshEd25519 = stanzaTypeSshEd25519Bytes ∧
    codes SpecConsts.x25519Label = x25519LabelBytes ∧ codes SpecConsts.scryptLabel = scryptLabelBytes ∧
    codes sshRsaLabel = sshRsaLabelBytes ∧ codes sshEd25519Label = sshEd25519LabelBytes ∧
    codes workFactorSyntax = workFactorSyntaxBytes ∧
    codes armorHeader = armorHeaderBytes ∧ codes armorFooter = armorFooterBytes ∧
    codes bech32Charset = bech32CharsetBytes ∧ codes pluginNameAllowed = pluginNameAllowedBytes := by
  and_intros <;> exact codes_eq rfl rfl

/-- the same for the regenerated constants (a check on the extractor's byte rendering) -/
theorem extracted_bytes_consistent :
    codes Extracted.intro = Extracted.introBytes ∧ codes Extracted.stanzaPrefix = Extracted.stanzaPrefixBytes ∧
    codes Extracted.footerPrefix = Extracted.footerPrefixBytes ∧
    codes Extracted.x25519Label = Extracted.x25519LabelBytes ∧ codes Extracted.scryptLabel = Extracted.scryptLabelBytes ∧
    codes Extracted.oaepLabel = Extracted.oaepLabelBytes ∧ codes Extracted.ed25519Label = Extracted.ed25519LabelBytes ∧
    codes Extracted.hkdfInfoHeader = Extracted.hkdfInfoHeaderBytes ∧
    codes Extracted.hkdfInfoPayload = Extracted.hkdfInfoPayloadBytes := by
  and_intros <;> exact codes_eq rfl rfl

/-! ### the model's execution parameters are the specification's -/

theorem model_chunkSize : AgeModel.chunkSize = SpecConsts.chunkSize := rfl
theorem model_ctrLimit : AgeModel.ctrLimit = SpecConsts.ctrLimit := rfl
theorem model_tag : AgeModel.chacha.T = SpecConsts.tagSize := rfl

/-! ### payload (internal/stream) -/

theorem chunkSize_tie : Extracted.chunkSize = SpecConsts.chunkSize := rfl
theorem chunkSize_model_tie : Extracted.chunkSize = AgeModel.chunkSize := rfl
theorem encChunkSize_tie : Extracted.encChunkSize = SpecConsts.encChunkSize := rfl
theorem tagSize_tie : Extracted.encChunkOverhead = SpecConsts.tagSize := rfl
theorem nonceSize_tie : Extracted.nonceSize = SpecConsts.nonceSize := rfl
theorem lastChunkFlag_tie : Extracted.lastChunkFlag = SpecConsts.lastChunkFlag := rfl
/-- the counter occupies all nonce bytes but the flag byte, so it wraps at 2^(8·11) = 2^88 -/
theorem ctrLimit_tie : 2 ^ (8 * (Extracted.nonceSize - 1)) = AgeModel.ctrLimit := rfl
theorem streamNonceSize_tie : Extracted.streamNonceSize = SpecConsts.streamNonceSize := rfl
theorem fileKeySize_tie : Extracted.fileKeySize = SpecConsts.fileKeySize := rfl

/-! ### header (internal/format) -/

theorem intro_tie : Extracted.introBytes = SpecConsts.introBytes := rfl
theorem intro_string_tie : Extracted.intro = SpecConsts.intro := rfl
theorem stanzaPrefix_tie : Extracted.stanzaPrefixBytes = SpecConsts.stanzaPrefixBytes := rfl
theorem footerPrefix_tie : Extracted.footerPrefixBytes = SpecConsts.footerPrefixBytes := rfl
theorem columnsPerLine_tie : Extracted.columnsPerLine = SpecConsts.columnsPerLine := rfl
theorem bytesPerLine_tie : Extracted.bytesPerLine = SpecConsts.bytesPerLine := rfl
theorem hkdfInfoHeader_tie : Extracted.hkdfInfoHeaderBytes = SpecConsts.hkdfInfoHeaderBytes := rfl
theorem hkdfInfoPayload_tie : Extracted.hkdfInfoPayloadBytes = SpecConsts.hkdfInfoPayloadBytes := rfl

/-! ### recipient types -/

theorem x25519Label_tie : Extracted.x25519LabelBytes = SpecConsts.x25519LabelBytes := rfl
theorem scryptLabel_tie : Extracted.scryptLabelBytes = SpecConsts.scryptLabelBytes := rfl
theorem oaepLabel_tie : Extracted.oaepLabelBytes = SpecConsts.sshRsaLabelBytes := rfl
theorem ed25519Label_tie : Extracted.ed25519LabelBytes = SpecConsts.sshEd25519LabelBytes := rfl

/-- Every place the code turns an "age-encryption.org/…" label into bytes, on the
    wrapping AND on the unwrapping side, with the primitive it is handed to: per source
    file, which primitive receives which label (the enclosing function is not pinned, so
    moving a derivation into a helper of the same file is not a change). -/
def expectedLabelUses : List (String × String × String) := [
    ("agessh/agessh.go", "hkdf.New", SpecConsts.sshEd25519Label),
    ("agessh/agessh.go", "rsa.DecryptOAEP", SpecConsts.sshRsaLabel),
    ("agessh/agessh.go", "rsa.EncryptOAEP", SpecConsts.sshRsaLabel),
    ("scrypt.go", "append", SpecConsts.scryptLabel),
    ("x25519.go", "hkdf.New", SpecConsts.x25519Label)]

/-- as SETS: every use found in the source is an expected one, and every expected one occurs -/
theorem labelSites_tie :
    (Extracted.labelSites.map (fun s => (s.1, s.2.2.1, s.2.2.2))).all (fun u => expectedLabelUses.contains u) = true ∧
    expectedLabelUses.all (fun u => (Extracted.labelSites.map (fun s => (s.1, s.2.2.1, s.2.2.2))).contains u) = true := by decide +kernel

theorem stanzaTypes_tie :
    [Extracted.stanzaTypeX25519Bytes, Extracted.stanzaTypeScryptBytes, Extracted.stanzaTypeSshRsaBytes,
     Extracted.stanzaTypeSshEd25519Bytes] =
    [SpecConsts.stanzaTypeX25519Bytes, SpecConsts.stanzaTypeScryptBytes, SpecConsts.stanzaTypeSshRsaBytes,
     SpecConsts.stanzaTypeSshEd25519Bytes] := rfl

/-- the type names the identities test for are the ones the recipients write -/
theorem stanzaTypeChecks_tie : Extracted.stanzaTypeChecks = [
    ("age.(*ScryptIdentity).Unwrap", "==", SpecConsts.stanzaTypeScrypt),
    ("age.(*ScryptIdentity).unwrap", "!=", SpecConsts.stanzaTypeScrypt),
    ("age.(*X25519Identity).unwrap", "!=", SpecConsts.stanzaTypeX25519),
    ("agessh.(*Ed25519Identity).unwrap", "!=", SpecConsts.stanzaTypeSshEd25519),
    ("agessh.(*RSAIdentity).unwrap", "!=", SpecConsts.stanzaTypeSshRsa)] := rfl

theorem scryptSaltSize_tie : Extracted.scryptSaltSize = SpecConsts.scryptSaltSize := rfl

/-- both scrypt.Key calls: N = 1 << logN, r = 8, p = 1, 32-byte key -/
theorem scryptKeyCalls_tie : Extracted.scryptKeyCalls = [
    ("age.(*ScryptIdentity).unwrap", "1 << <var>", SpecConsts.scryptR, SpecConsts.scryptP, SpecConsts.scryptKeyLen),
    ("age.(*ScryptRecipient).Wrap", "1 << <var>", SpecConsts.scryptR, SpecConsts.scryptP, SpecConsts.scryptKeyLen)] := rfl

theorem workFactorSyntax_tie : Extracted.digitsReBytes = SpecConsts.workFactorSyntaxBytes := rfl

/-! ### armor, Bech32 -/

theorem armorHeader_tie : Extracted.armorHeaderBytes = SpecConsts.armorHeaderBytes := rfl
theorem armorFooter_tie : Extracted.armorFooterBytes = SpecConsts.armorFooterBytes := rfl
theorem bech32Charset_tie : Extracted.bech32CharsetBytes = SpecConsts.bech32CharsetBytes := rfl
theorem bech32Generator_tie : Extracted.bech32Generator = SpecConsts.bech32Generator := rfl

/-! ### the byte-list constants the model's definitions use are the specification's -/

/-- every format constant the Lean model (Format / Recipients / File) is written
    with equals the specification constant that the regenerated source constant
    was just tied to — so a theorem about the model is a theorem about these values -/
theorem model_constants :
    Format.intro.map UInt8.toNat = SpecConsts.introBytes ∧
    Format.stanzaPrefix.map UInt8.toNat = SpecConsts.stanzaPrefixBytes ∧
    Format.footerPrefix.map UInt8.toNat = SpecConsts.footerPrefixBytes ∧
    Format.columnsPerLine = SpecConsts.columnsPerLine ∧ Format.bytesPerLine = SpecConsts.bytesPerLine ∧
    AgeModel.x25519Label.map UInt8.toNat = SpecConsts.x25519LabelBytes ∧
    AgeModel.scryptLabel.map UInt8.toNat = SpecConsts.scryptLabelBytes ∧
    AgeModel.oaepLabel.map UInt8.toNat = SpecConsts.sshRsaLabelBytes ∧
    AgeModel.ed25519Label.map UInt8.toNat = SpecConsts.sshEd25519LabelBytes ∧
    AgeModel.tX25519.map UInt8.toNat = SpecConsts.stanzaTypeX25519Bytes ∧
    AgeModel.tScrypt.map UInt8.toNat = SpecConsts.stanzaTypeScryptBytes ∧
    AgeModel.tSshRsa.map UInt8.toNat = SpecConsts.stanzaTypeSshRsaBytes ∧
    AgeModel.tSshEd.map UInt8.toNat = SpecConsts.stanzaTypeSshEd25519Bytes ∧
    AgeModel.headerInfo.map UInt8.toNat = SpecConsts.hkdfInfoHeaderBytes ∧
    AgeModel.payloadInfo.map UInt8.toNat = SpecConsts.hkdfInfoPayloadBytes ∧
    AgeModel.fileKeySize = SpecConsts.fileKeySize ∧ AgeModel.streamNonceSize = SpecConsts.streamNonceSize ∧
    AgeModel.scryptSaltSize = SpecConsts.scryptSaltSize := by
  and_intros <;> rfl

/-! ## The code itself: the native stanzas (DESIGN.md §5.3)

`(*X25519Recipient).Wrap`, `(*ScryptRecipient).Wrap` and `.WrapWithLabels` are TRANSLATED from
x25519.go / scrypt.go on every run; the primitives (`curve25519.X25519`, HKDF-SHA256, `scrypt.Key`,
`aeadEncrypt`, base64, `crypto/rand` as a tape) are parameters, bundled with what is assumed of them
in `GoTie.NativeEnv`. The stanza the source writes — type, arguments, salt layout
`ephemeral share ‖ recipient`, info label, `label ‖ salt` and `N = 2^logN, r = 8, p = 1` for scrypt,
the work factor in decimal, what is drawn from the random source and in which order — is the
stanza of the model (`wrapOne`, `wrapX25519`, `wrapScrypt`), whose bytes `Props.C05` compares
with the specification. -/

theorem x25519_wrap_tie (P : Prims) {κ : Type} (E : GoTie.NativeEnv P κ) (pub fk tape : Bytes) :
    ∃ res, Extracted.age_X25519Recipient_Wrap (GoTie.tapeRead E.eRand) E.X P.basepoint E.Enc E.H E.R E.Seal ⟨pub⟩ fk tape = .ok res ∧
      match wrapOne P (.x25519 pub) fk tape with
      | .error () => res = ([], some E.eRand, tape)
      | .ok (some (ss, ls), t) => res = (ss.map GoTie.toGoStanza, none, t) ∧ ls = []
      | .ok (none, t) => res = ([], some E.eX, t) :=
  GoTie.x25519_wrap_tie P E pub fk tape

theorem scrypt_wrap_tie (P : Prims) {κ : Type} (E : GoTie.NativeEnv P κ) (pw : Bytes) (logN : Nat) (hN : logN < 63) (fk tape : Bytes) :
    ∃ res, Extracted.age_ScryptRecipient_Wrap (GoTie.tapeRead E.eRand) E.Enc E.K E.Seal ⟨pw, Int.ofNat logN⟩ fk tape = .ok res ∧
      match draw scryptSaltSize tape with
      | none => res = ([], some E.eRand, tape)
      | some (salt, t) => res = ([GoTie.toGoStanza (wrapScrypt P pw logN salt fk)], none, t) :=
  GoTie.scrypt_wrap_tie P E pw logN hN fk tape

theorem scrypt_wrapWithLabels_tie (P : Prims) {κ : Type} (E : GoTie.NativeEnv P κ) (pw : Bytes) (logN : Nat) (hN : logN < 63) (fk tape : Bytes) :
    ∃ res, Extracted.age_ScryptRecipient_WrapWithLabels (GoTie.tapeRead E.eRand) E.Enc E.K E.Seal ⟨pw, Int.ofNat logN⟩ fk tape = .ok res ∧
      match wrapOne P (.scrypt pw logN) fk tape with
      | .error () => res.1 = [] ∧ res.2.1 = [] ∧ res.2.2.1 = some E.eRand
      | .ok (some (ss, ls), t) => res = (ss.map GoTie.toGoStanza, ls, none, t)
      | .ok (none, _) => False :=
  GoTie.scrypt_wrapWithLabels_tie P E pw logN hN fk tape

/-! `age.headerMAC` and `age.streamKey` (primitives.go), translated on every run; HKDF, HMAC and
`MarshalWithoutMAC` are parameters (`GoTie.MacEnv`): the MAC key is HKDF(file key, no salt, "header"),
the MAC covers the header serialised without its MAC, the payload key is
HKDF(file key, salt = nonce, "payload") — the model's `headerMAC` and `streamKey`. -/

theorem headerMAC_tie (P : Prims) {κ η : Type} (E : GoTie.MacEnv P κ η) (fk : Bytes) (ss : List Format.Stanza) :
    Extracted.age_headerMAC E.H E.R E.N E.M E.S fk ⟨ss.map GoTie.toGoFStanza, []⟩ = .ok (headerMAC P fk ss, none) :=
  GoTie.headerMAC_tie P E fk { stanzas := ss, mac := [] }

theorem streamKey_tie (P : Prims) {κ η : Type} (E : GoTie.MacEnv P κ η) (fk nonce : Bytes) :
    Extracted.age_streamKey E.H E.R fk nonce = .ok (streamKey P fk nonce) :=
  GoTie.streamKey_tie P E fk nonce

/-! The SSH recipients (agessh/agessh.go), translated on every run: the ssh-ed25519 stanza — tag,
ephemeral share, tweak = HKDF(no secret, salt = the key's wire form, label), the tweaked shared
secret (error of the second scalar multiplication dropped, as in the source), HKDF salt = ephemeral
share ‖ recipient point — and the ssh-rsa stanza — the tag as the only argument, OAEP-SHA256 under
the label — are the model's `wrapSshEd` / `wrapSshRsa` (`GoTie.SshEnv`, `GoTie.RsaEnv` state what
is assumed of the primitives, of `ssh.PublicKey.Marshal` and of `sshFingerprint`). -/

theorem sshEd_wrap_tie (P : Prims) {κ π : Type} (E : GoTie.SshEnv P κ π) (key : π) (mont fk tape : Bytes) :
    ∃ res, Extracted.agessh_Ed25519Recipient_Wrap (GoTie.tapeRead E.eRand) E.X P.basepoint E.H E.Mar E.R E.Fp E.Enc E.Seal ⟨key, mont⟩ fk tape = .ok res ∧
      match wrapOne P (.sshEd (E.wire key) mont) fk tape with
      | .error () => res = ([], some E.eRand, tape)
      | .ok (some (ss, ls), t) => res = (ss.map GoTie.toGoStanza, none, t) ∧ ls = []
      | .ok (none, t) => res = ([], some E.eX, t) :=
  GoTie.sshEd_wrap_tie P E key mont fk tape

theorem sshRsa_wrap_tie (P : Prims) {π β γ : Type} (E : GoTie.RsaEnv P π β γ) (key : π) (pub : β) (fk tape : Bytes) :
    ∃ res, Extracted.agessh_RSARecipient_Wrap E.Fp E.EncO ⟨key, pub⟩ fk tape = .ok res ∧
      match wrapOne P (.sshRsa (E.wire key) (E.pubOf pub)) fk tape with
      | .error () => res = ([], some E.eRand, tape)
      | .ok (some (ss, ls), t) => res = (ss.map GoTie.toGoStanza, none, t) ∧ ls = []
      | .ok (none, t) => res = ([], some E.eEnc, t) :=
  GoTie.sshRsa_wrap_tie P E key pub fk tape

/-- the passphrase that reaches scrypt is the string the caller gave, byte for byte -/
theorem newScryptRecipient_tie (pw : Bytes) :
    Extracted.age_NewScryptRecipient pw =
      .ok (if pw = [] then (⟨[], 0⟩, some ⟨"age.NewScryptRecipient", 0, []⟩) else (⟨pw, 18⟩, none)) :=
  GoTie.newScryptRecipient_tie pw

theorem newScryptIdentity_tie (pw : Bytes) :
    Extracted.age_NewScryptIdentity pw =
      .ok (if pw = [] then (⟨[], 0⟩, some ⟨"age.NewScryptIdentity", 0, []⟩) else (⟨pw, 22⟩, none)) :=
  GoTie.newScryptIdentity_tie pw

/-! The header serialiser (internal/format/format.go: `Stanza.Marshal`, `Header.MarshalWithoutMAC`,
`Header.Marshal`), translated on every run with the destination and the wrapped base64 encoder as
abstract state (`GoTie.MarshalEnv`: the destination takes every write; a body written to the
encoder comes out as unpadded base64 in 64-column lines): what reaches the destination is the
model's `marshalStanza` / `marshalNoMAC` / `marshal`, byte for byte. -/

theorem stanza_marshal_tie {δ ε ω : Type} (E : GoTie.MarshalEnv δ ε ω) (s : Format.Stanza) (d : δ) :
    ∃ d', Extracted.format_Stanza_Marshal E.W E.b64 E.New E.Wr E.Cl (GoTie.toGoFStanza s) d = .ok (none, d') ∧
      E.absD d' = E.absD d ++ Format.marshalStanza s :=
  GoTie.stanza_marshal_tie E s d

theorem header_marshalNoMAC_tie {δ ε ω : Type} (E : GoTie.MarshalEnv δ ε ω) (h : Format.Header) (d : δ) :
    ∃ d', Extracted.format_Header_MarshalWithoutMAC E.W E.b64 E.New E.Wr E.Cl ⟨h.stanzas.map GoTie.toGoFStanza, h.mac⟩ d = .ok (none, d') ∧
      E.absD d' = E.absD d ++ Format.marshalNoMAC h :=
  GoTie.header_marshalNoMAC_tie E h d

theorem header_marshal_tie {δ ε ω : Type} (E : GoTie.MarshalEnv δ ε ω) (h : Format.Header) (d : δ) :
    ∃ d', Extracted.format_Header_Marshal E.W E.b64 E.New E.Wr E.Cl E.Enc ⟨h.stanzas.map GoTie.toGoFStanza, h.mac⟩ d = .ok (none, d') ∧
      E.absD d' = E.absD d ++ Format.marshal h :=
  GoTie.header_marshal_tie E h d

/-- `agessh.sshFingerprint`, translated: the tag written on (and compared with) SSH stanzas is the
    first four bytes of SHA-256 of the key's wire form in unpadded base64 — the model's `sshTag` -/
theorem sshFingerprint_tie {π : Type} (P : Prims) (wire : π → Bytes)
    (Sum : Bytes → Go.M Bytes) (hSum : ∀ b, Sum b = .ok (P.sha256 b)) (hLen : ∀ b, (P.sha256 b).length = 32)
    (Mar : π → Go.M Bytes) (hMar : ∀ k, Mar k = .ok (wire k))
    (Enc : Bytes → Go.M Bytes) (hEnc : ∀ b, Enc b = .ok (B64.encRaw b)) (k : π) :
    Extracted.agessh_sshFingerprint Sum Mar Enc k = .ok (sshTag P (wire k)) :=
  GoTie.sshFingerprint_tie P wire Sum hSum hLen Mar hMar Enc hEnc k

/-! The body of every native and SSH-Ed25519 stanza: `aeadEncrypt` (package age and agessh),
translated with ChaCha20-Poly1305 abstract — the file key sealed under the wrapping key with twelve
zero bytes as nonce and no additional data, as the format prescribes. -/

theorem aeadEncrypt_tie {α : Type} {P : Prims} (E : GoTie.WrapAeadEnv α P) (k pt : Bytes) (hk : k.length = 32) :
    Extracted.age_aeadEncrypt E.New E.seal_ k pt = .ok (P.wrapSeal k pt, none) :=
  GoTie.aeadEncrypt_tie E k pt hk

theorem ssh_aeadEncrypt_tie {α : Type} {P : Prims} (E : GoTie.WrapAeadEnv α P) (k pt : Bytes) (hk : k.length = 32) :
    Extracted.agessh_aeadEncrypt E.New E.seal_ k pt = .ok (P.wrapSeal k pt, none) :=
  GoTie.ssh_aeadEncrypt_tie E k pt hk

/-- **the assumption structures this file's theorems take are satisfiable** (for a lawful toy primitive suite
    with the 16-byte tag, where they mention primitives): none of the theorems above is vacuous. The instances are in
    `Proofs/GoTieWitnessA.lean` / `GoTieWitnessB.lean`. -/
theorem assumptions_satisfiable :
    Prims.toy16.Correct ∧ Prims.toy16.aead.NonceSep ∧ Prims.toy16.aead.T = 16 ∧
    Nonempty (GoTie.MacEnv Prims.toy16 Bytes (Bytes × Bytes)) ∧
    Nonempty (GoTie.NativeEnv Prims.toy16 Bytes) ∧
    Nonempty (GoTie.RsaEnv Prims.toy16 Bytes Bytes Bytes) ∧
    Nonempty (GoTie.SshEnv Prims.toy16 Bytes Bytes) ∧
    Nonempty (GoTie.WrapAeadEnv Bytes Prims.toy16) ∧
    Nonempty (GoTie.MarshalEnv Bytes Unit Bytes) :=
  ⟨Prims.toy16_correct, AEAD.toy16_nonceSep, rfl, ⟨GoTie.MacEnv.witness⟩, ⟨GoTie.NativeEnv.witness⟩, ⟨GoTie.RsaEnv.witness⟩, ⟨GoTie.SshEnv.witness⟩, ⟨GoTie.WrapAeadEnv.witness⟩, ⟨GoTie.MarshalEnv.witness⟩⟩

end Tie.C05
end AgeModel
