/-
  Tie/C14 — the explicit `panic(...)` sites of the library are exactly the ones
  the model carries as named, proved-unreachable outcomes; and the passphrase
  identity checks the work factor before it derives a key.

  Facts regenerated from /repo (`Extracted/Panics.lean`, `Extracted/CallOrder.lean`).
  A new panic, or one moved to another function, breaks `panic_sites`. The
  message texts are not pinned (rewording one is harmless); the number of sites
  per function is.

  Then the code itself: the translated `(*ScryptIdentity).unwrap` calls `scrypt.Key` only when
  the model derives a key, and only at the cost the model states; the translated header
  parser, stream `Read`/`Write`/`Close` and armor `Read` return (a value or an error) from
  every state their ties relate to the model — no fault, no panic, no exhausted fuel.
-/
import AgeModel.Extracted.Panics
import AgeModel.Extracted.CallOrder
import Proofs.GoTieScrypt
import Proofs.GoTieFormat
import Proofs.GoTieStreamW
import Proofs.GoTieArmorR
import Proofs.GoTieWitnessStream
import Proofs.GoTieWitnessRecip
import Proofs.GoTieWitnessArmor
namespace AgeModel
namespace Tie.C14

/-- (file, function) of every panic call outside cmd/, sorted:
    format  — writeWrapped called with a non-empty line buffer
    stream  — readChunk with a dirty buffer; flushChunk with a partial chunk; chunk counter wrap
    age     — HKDF read failure in streamKey
    scrypt  — the two setters called with a work factor outside 1..30 (caller error, not input) -/
theorem panic_sites : Extracted.panicSites.map (fun s => (s.1, s.2.1)) = [
    ("internal/format/format.go", "(*WrappedBase64Encoder).writeWrapped"),
    ("internal/stream/stream.go", "(*Reader).readChunk"),
    ("internal/stream/stream.go", "(*Writer).flushChunk"),
    ("internal/stream/stream.go", "incNonce"),
    ("primitives.go", "streamKey"),
    ("scrypt.go", "(*ScryptIdentity).SetMaxWorkFactor"),
    ("scrypt.go", "(*ScryptRecipient).SetWorkFactor")] := rfl

/-- in the scrypt stanza unwrap: syntax check, Atoi and the comparison with the
    configured maximum all precede the only scrypt.Key call -/
theorem kdf_after_checks : Extracted.scryptChecksPrecedeKdf = true := by decide


/-! ## The code itself (DESIGN.md §5.3): the passphrase identity never performs key-derivation
    work its maximum does not allow — `(*ScryptIdentity).unwrap`, TRANSLATED from scrypt.go on every
    run, handed a `scrypt.Key` that faults when called, still returns normally whenever the model
    derives no key; and when it derives one the cost is `2^logN` with `logN ≤ maxWF`. -/

theorem scrypt_unwrap_no_kdf (P : Prims) (E : GoTie.ScryptEnv P) (pw : Bytes) (maxWF : Nat) (s : Format.Stanza)
    (h : (unwrapScrypt P pw maxWF s).2 = []) :
    ∃ r, Extracted.age_ScryptIdentity_unwrap E.D (fun _ _ _ _ _ _ => .error (.panic 99)) E.A ⟨pw, Int.ofNat maxWF⟩
        (GoTie.toGoStanza s) = .ok r ∧
      GoTie.resClass r = (unwrapScrypt P pw maxWF s).1 :=
  GoTie.scrypt_unwrap_no_kdf P E pw maxWF s h

/-- when the model derives a key with work factor `logN`: `logN ≤ maxWF` (a fact of the model), AND the translated
    `unwrap` looks at `scrypt.Key` only at cost `2^logN`, r = 8, p = 1, 32 bytes — replace the KDF by ANY function that
    agrees with it at those arguments and the translated code cannot tell (the part about the code) -/
theorem scrypt_unwrap_kdf_bounded (P : Prims) (E : GoTie.ScryptEnv P) (pw : Bytes) (maxWF : Nat) (s : Format.Stanza)
    (logN : Nat) (h : (unwrapScrypt P pw maxWF s).2 = [logN]) :
    logN ≤ maxWF ∧
    ∀ K', (∀ salt, K' pw salt ((2 : Int) ^ logN) 8 1 32 = E.K pw salt ((2 : Int) ^ logN) 8 1 32) →
      Extracted.age_ScryptIdentity_unwrap E.D K' E.A ⟨pw, Int.ofNat maxWF⟩ (GoTie.toGoStanza s) =
      Extracted.age_ScryptIdentity_unwrap E.D E.K E.A ⟨pw, Int.ofNat maxWF⟩ (GoTie.toGoStanza s) :=
  GoTie.scrypt_unwrap_kdf_args P E pw maxWF s logN h


/-- The code itself (DESIGN.md §5.3): the header parser as TRANSLATED from the source returns
    (a header or an error) on EVERY input — no fault of the translated fragment (index or slice
    out of range, explicit panic, an unbounded loop: the fuel `len(input)+1` suffices) is reachable,
    provided `format.DecodeString` returns. -/
theorem header_parser_returns (D : Bytes → Go.M (Bytes × Option Go.Err)) (eD : Go.Err) (hD : GoTie.DecodeIsModel D eD)
    (input : Bytes) : ∃ res, Extracted.format_Parse D input = .ok res :=
  let ⟨res, h, _⟩ := GoTie.parse_tie D eD hD input
  ⟨res, h⟩


/-! ## The code itself: no panic, no fault in the STREAM code. The translated `Read`, `Write` and
    `Close` RETURN from every related state (for every buffer size, every source and destination
    behaviour, fewer than 2^88 chunks): none of the three explicit `panic`s of stream.go (dirty
    buffer, partial-chunk flush, counter wrap), no index or slice out of range, no append that
    would leave the array a view looks into (`Go.Fault.alias`), no exhausted loop fuel. -/

theorem stream_read_returns {α : Type} (A : AEAD) (k : Bytes) (E : GoTie.AeadEnv α A k)
    (r : Extracted.stream_Reader α) (m : AgeModel.Stream.Reader) (h : GoTie.RRel r m) (hctr : m.ctr + 1 < 2 ^ 88) (p : Bytes) :
    ∃ res, Extracted.stream_Reader_Read E.over E.open_ r p = .ok res :=
  let ⟨res, h1, _⟩ := GoTie.reader_read_tie A k E r m h hctr p
  ⟨res, h1⟩

theorem stream_write_returns {α δ : Type} {S : AgeModel.Stream.DstSpec} (A : AEAD) (k : Bytes) (E : GoTie.AeadEnv α A k)
    (D : GoTie.DstEnv δ S) (w : Extracted.stream_Writer α δ) (m : AgeModel.Stream.Writer S) (h : GoTie.WRel D w m) (p : Bytes)
    (hctr : m.ctr + p.length / 65536 + 2 < 2 ^ 88) :
    ∃ res, Extracted.stream_Writer_Write E.seal_ D.write w p = .ok res :=
  let ⟨res, h1, _⟩ := GoTie.writer_write_tie A k E D w m h p hctr
  ⟨res, h1⟩

theorem stream_close_returns {α δ : Type} {S : AgeModel.Stream.DstSpec} (A : AEAD) (k : Bytes) (E : GoTie.AeadEnv α A k)
    (D : GoTie.DstEnv δ S) (w : Extracted.stream_Writer α δ) (m : AgeModel.Stream.Writer S) (h : GoTie.WRel D w m)
    (hctr : m.ctr + 2 < 2 ^ 88) :
    ∃ res, Extracted.stream_Writer_Close E.seal_ D.write w = .ok res :=
  let ⟨res, h1, _⟩ := GoTie.writer_close_tie A k E D w m h hctr
  ⟨res, h1⟩

/-- the de-armoring reader, translated from armor/armor.go, returns from every state related to a
    state of the model's machine, whatever text is left and whatever the decoder answers: no index
    or slice fault, no exhausted fuel (the leading-whitespace loop needs at most one round per
    remaining byte), no panic -/
theorem armor_read_returns (E : GoTie.B64DecEnv) (g : Extracted.armor_armoredReader) (m : Armor.AReader)
    (h : GoTie.ARel g m) (p : Bytes) :
    ∃ res, Extracted.armor_armoredReader_Read E.Dec g p = .ok res :=
  GoTie.armor_read_returns E g m h p

/-- **the assumption structures this file's theorems take are satisfiable** (for a lawful toy primitive suite
    with the 16-byte tag, where they mention primitives): none of the theorems above is vacuous. The instances are in
    `Proofs/GoTieWitnessStream`, `GoTieWitnessRecip` and `GoTieWitnessArmor` (collected by `GoTieWitnessA` / `GoTieWitnessB`). -/
theorem assumptions_satisfiable :
    Prims.toy16.Correct ∧ Prims.toy16.aead.NonceSep ∧ Prims.toy16.aead.T = 16 ∧
    (∀ k : Bytes, Nonempty (GoTie.AeadEnv Unit AEAD.toy16 k)) ∧
    (∀ S : Stream.DstSpec, Nonempty (GoTie.DstEnv (Stream.Dst S) S)) ∧
    Nonempty (GoTie.ScryptEnv Prims.toy16) ∧
    Nonempty GoTie.B64DecEnv :=
  ⟨Prims.toy16_correct, AEAD.toy16_nonceSep, rfl, (fun k => ⟨GoTie.AeadEnv.witness k⟩), (fun S => ⟨GoTie.DstEnv.witness S⟩), ⟨GoTie.ScryptEnv.witness⟩, ⟨GoTie.B64DecEnv.witness⟩⟩

end Tie.C14
end AgeModel
