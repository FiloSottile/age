/-
  Tie/C18 — the size bound the key-file model runs with is the source's
  (`Extracted/Consts.lean`, regenerated from /repo on every run): the library
  reads at most `privateKeySizeLimit` bytes of an identities file and the command
  line tool at most `recipientFileSizeLimit` bytes of a recipients file. Then the
  four translated parsers compute the model, and two clauses of C18 about the code.
-/
import AgeModel.Exec.KeyFileExec
import AgeModel.Extracted.Consts
import Proofs.GoTieKeyFile
import Proofs.GoTieCliKeyFile
import Props.C18
import Proofs.GoTieWitnessRecFile
namespace AgeModel
namespace Tie.C18

theorem identities_limit_tie : Exec.KeyFile.limit = Extracted.privateKeySizeLimit := by decide
theorem recipients_limit_tie : Exec.KeyFile.limit = Extracted.recipientFileSizeLimit := by decide

/-! ## The code itself (DESIGN.md §5.3)

`age.ParseIdentities` and `age.ParseRecipients` (parse.go) are TRANSLATED from the
source on every run, with the single-line parser kept abstract (a parameter, as in
the model). For EVERY file content and EVERY single-line parser that returns, they
compute the file-level model of AgeModel/KeyFile.lean — the keys in file order, or
the error with the 1-based number of the FIRST offending line (an argument of the
error's fmt.Errorf call), or "scanner error" / "no keys". Every theorem of Props/C18
about `KeyFile.parseIdentities` / `parseRecipients` (keyfile_exact, keyfile_no_skip,
keyfile_first_error, …) is thereby a theorem about these two functions as they stand
in the source. A `continue` on a malformed line, a line counter that skips comments,
a swallowed scanner error each break these. -/

theorem parseIdentities_tie {κ : Type} (P : Bytes → Go.M (κ × Option Go.Err))
    (hP : ∀ l, ∃ r, P l = .ok r) (f : Bytes) :
    Extracted.age_ParseIdentities P f = .ok (match KeyFile.parseIdentities (GoTie.lineKey P) 65536 16777216 f with
      | .ok ks => (ks, none)
      | .error e => ([], GoTie.idFileErr e)) :=
  GoTie.parseIdentities_tie P hP f

theorem parseRecipients_tie {κ : Type} (P : Bytes → Go.M (κ × Option Go.Err))
    (hP : ∀ l, ∃ r, P l = .ok r) (f : Bytes) :
    Extracted.age_ParseRecipients P f = .ok (match KeyFile.parseRecipients (GoTie.lineKey P) 65536 16777216 f with
      | .ok ks => (ks, none)
      | .error e => ([], GoTie.rcFileErr e)) :=
  GoTie.parseRecipients_tie P hP f

/-! ## The command line tool's own parsers (cmd/age/parse.go)

`parseIdentities` (identity files, plugin identities included) and the line loop of
`parseRecipientsFile` (`-R`) are translated too — the latter from the statement after the file has
been opened (the `-`/stdin bookkeeping, `os.Open` and the deferred `Close` are outside the
fragment), with `parseRecipient`, `sshKeyType`, `ssh.ParseAuthorizedKey` as parameters and
`warningf` appending to an explicit log. They compute `KeyFile.parseIdentities` and
`KeyFile.cliParseRecipientsFile`: the model's keys or the model's error (line number included), and
EXACTLY the model's warnings — a line that fails to parse is skipped only under `KeyFile.skipCond`
(an SSH key type age does not support, or a well-formed `ssh-rsa` key age refuses), each time with
one warning naming its line; a corrupted `ssh-rsa` / `ssh-ed25519` line rejects the file (the
repair of finding F9 is thereby pinned by a theorem about the source). -/

theorem cli_parseIdentities_tie {ι : Type} (P : Bytes → Go.M (ι × Option Go.Err))
    (hP : ∀ l, ∃ r, P l = .ok r) (f : Bytes) :
    Extracted.main_parseIdentities P f =
      .ok (GoTie.modelOut "main.parseIdentities" (KeyFile.parseIdentities (GoTie.lineKey P) 65536 16777216 f)) :=
  GoTie.cli_parseIdentities_tie P hP f

theorem cli_parseRecipientsFile_tie {ρ π τ : Type} (E : GoTie.RecFileEnv ρ π τ) (name f : Bytes) (t0 : τ) :
    ∃ (res : List ρ × Option Go.Err) (t' : τ),
      Extracted.main_parseRecipientsFile E.P E.K E.A E.W name f t0 = .ok (res.1, res.2, t') ∧
      let o := KeyFile.cliParseRecipientsFile (GoTie.lineKey E.P) E.sniff E.valid 8192 65536 16777216 f
      E.absT t' = E.absT t0 ++ o.skipped ∧
      res = match o.res with
            | .ok ks => (ks, none)
            | .error e => ([], GoTie.recFileErr e) :=
  GoTie.cli_parseRecipientsFile_tie E name f t0

/-! ### The property, stated about the CODE

`Props.C18.cli_keyfile_exact` and `cli_skipped_sound` are theorems about the model; through the tie
they become statements about `parseRecipientsFile` as it stands in the source (from the opened file
on): it succeeds with `ks` exactly when the scanner did not fail, every line that is neither empty nor
a comment is within the length limit and either parses or is an SSH key the skip rule covers, `ks`
are the keys of the parsing lines in file order, and there is at least one; and every warning it
logged names a line that failed to parse and is covered by the skip rule. -/

theorem code_recipientsFile_exact {ρ π τ : Type} (E : GoTie.RecFileEnv ρ π τ) (name f : Bytes) (t0 : τ) (ks : List ρ) :
    (∃ t', Extracted.main_parseRecipientsFile E.P E.K E.A E.W name f t0 = .ok (ks, none, t')) ↔
      KeyFile.scanFailed 65536 16777216 f = false ∧
      (∀ l ∈ KeyFile.linesOf 65536 16777216 f, KeyFile.content l = true →
        l.length ≤ 8192 ∧ (GoTie.lineKey E.P l = none → KeyFile.skipCond E.sniff E.valid l = true)) ∧
      ks = ((KeyFile.linesOf 65536 16777216 f).filter KeyFile.content).filterMap (GoTie.lineKey E.P) ∧
      ks ≠ [] := by
  rw [← Props.C18.cli_keyfile_exact (GoTie.lineKey E.P) E.sniff E.valid 8192 65536 16777216 f ks,
    ← GoTie.modelOutR_eq_ok_iff]
  obtain ⟨⟨r1, r2⟩, t', hrun, _, hres⟩ := GoTie.cli_parseRecipientsFile_tie E name f t0
  rw [hrun]
  constructor
  · rintro ⟨_, h⟩
    cases h
    exact hres.symm
  · intro h
    exact ⟨t', by rw [hres.trans h]⟩

theorem code_recipientsFile_warnings {ρ π τ : Type} (E : GoTie.RecFileEnv ρ π τ) (name f : Bytes) (t0 : τ)
    (res : List ρ × Option Go.Err) (t' : τ)
    (hrun : Extracted.main_parseRecipientsFile E.P E.K E.A E.W name f t0 = .ok (res.1, res.2, t')) :
    ∃ skipped, E.absT t' = E.absT t0 ++ skipped ∧
      ∀ m ∈ skipped, ∃ i l, m = i + 1 ∧ (KeyFile.linesOf 65536 16777216 f)[i]? = some l ∧ KeyFile.content l = true ∧
        l.length ≤ 8192 ∧ GoTie.lineKey E.P l = none ∧
        ∃ t, E.sniff l = some t ∧ ((t ≠ KeyFile.sshRsa ∧ t ≠ KeyFile.sshEd25519) ∨ (t = KeyFile.sshRsa ∧ E.valid l = true)) := by
  obtain ⟨res', t'', hrun', hlog, _⟩ := GoTie.cli_parseRecipientsFile_tie E name f t0
  rw [hrun'] at hrun
  simp only [Except.ok.injEq, Prod.mk.injEq] at hrun
  obtain ⟨_, _, ht⟩ := hrun
  subst ht
  exact ⟨_, hlog, fun m hm => Props.C18.cli_skipped_sound (GoTie.lineKey E.P) E.sniff E.valid 8192 65536 16777216 f m hm⟩

/-- the model parameters used above are the ones the driver runs the model with -/
theorem model_parameters : Exec.KeyFile.limit = 16777216 ∧ Exec.KeyFile.maxTok = 65536 ∧ Go.maxScanTokenSize = 65536 := by decide

/-- **the assumption structures this file's theorems take are satisfiable** (for a lawful toy primitive suite
    with the 16-byte tag, where they mention primitives): none of the theorems above is vacuous. The instances are collected by
    `Proofs/GoTieWitnessA.lean` / `GoTieWitnessB.lean`. -/
theorem assumptions_satisfiable :
    (∀ (sniff : Bytes → Option Bytes) (valid : Bytes → Bool), ∃ E : GoTie.RecFileEnv Unit Unit (List Nat), E.sniff = sniff ∧ E.valid = valid) :=
  fun sniff valid => ⟨GoTie.RecFileEnv.witness sniff valid, ⟨rfl, rfl⟩⟩

end Tie.C18
end AgeModel
