/-
  C17 — only validly named plugins on PATH are ever executed.
  Property theorems only (helper lemmas live in Proofs/Bech32*.lean).

  What is proved here is the part of the property that lives in the model of
  plugin/encode.go, plugin/client.go and cmd/age/parse.go: which strings can
  construct a client value, what its name can be, and which command that value
  passes to `exec.Command`.  That the command is then looked up on PATH is
  `execabs`/`os/exec` behaviour (a command without a path separator is searched
  in PATH): modelled, exercised by the sentinel-PATH runs of the harness, not
  proved.  That nothing else in the module creates a process, and that native
  decryption has no call path to `openClientConnection`, is checked on the real
  code by the harness (decrypting headers with unknown stanza types under the
  sentinel PATH).
-/
import Proofs.Bech32Keys
namespace AgeModel
namespace Props.C17
open Bech32 Keys

/-- the allow-list as a predicate on one byte: letters, digits, `+ - . _` -/
def NameByte (c : UInt8) : Prop :=
  (0x61 ≤ c ∧ c ≤ 0x7a) ∨ (0x41 ≤ c ∧ c ≤ 0x5a) ∨ (0x30 ≤ c ∧ c ≤ 0x39) ∨ c = 0x2b ∨ c = 0x2d ∨ c = 0x2e ∨ c = 0x5f

/-- `validPluginName` accepts exactly the non-empty strings over the allow-list -/
theorem valid_name_charset (n : Bytes) : validPluginName n = true ↔ n ≠ [] ∧ ∀ c ∈ n, NameByte c := by
  rw [validPluginName_iff]
  constructor
  · rintro ⟨h1, h2⟩; exact ⟨h1, fun c hc => (allowed_iff c).mp (h2 c hc)⟩
  · rintro ⟨h1, h2⟩; exact ⟨h1, fun c hc => (allowed_iff c).mpr (h2 c hc)⟩

example : validPluginName [0x79, 0x75, 0x62, 0x69, 0x6b, 0x65, 0x79] = true := by decide +kernel   -- "yubikey"
example : validPluginName [0x2e, 0x2e] = true := by decide +kernel                                 -- ".." (a file name, not a path)
example : validPluginName [0x2e, 0x2e, 0x2f, 0x78] = false := by decide +kernel                    -- "../x"
example : validPluginName [0x78, 0x5c, 0x79] = false := by decide +kernel                          -- "x\y"
example : validPluginName [] = false := by decide

/-- a valid name contains neither `/` nor `\` (nor any byte outside printable ASCII) -/
theorem valid_name_no_separator (n : Bytes) (h : validPluginName n = true) :
    (0x2f : UInt8) ∉ n ∧ (0x5c : UInt8) ∉ n ∧ hasBadByte n = false :=
  ⟨(valid_noSep h).1, (valid_noSep h).2, valid_noBad h⟩

/-- each of the three constructors returns a client value only with a valid
    name; the value keeps the string it was made from -/
theorem constructors_validate :
    (∀ s c, newRecipient s = .ok c → validPluginName c.name = true ∧ c.encoding = s) ∧
    (∀ s c, newIdentity s = .ok c → validPluginName c.name = true ∧ c.encoding = s) ∧
    (∀ n c, newIdentityWithoutData n = .ok c → validPluginName c.name = true ∧ c.name = n ∧
      c.encoding = encodeIdentity n []) := by
  refine ⟨fun s c h => ?_, fun s c h => ?_, fun n c h => ?_⟩
  · unfold newRecipient at h
    split at h
    · cases h
    · rename_i hp
      cases h
      exact ⟨(parseRecipient_ok hp).2, rfl⟩
  · unfold newIdentity at h
    split at h
    · cases h
    · rename_i hp
      cases h
      obtain ⟨_, _, _, hv⟩ := parseIdentity_ok hp
      exact ⟨hv, rfl⟩
  · simp only [newIdentityWithoutData] at h
    split at h
    · cases h
    · rename_i he
      cases h
      refine ⟨Classical.not_not.mp fun hv => he ?_, rfl, rfl⟩
      simp only [encodeIdentity, hv, Bool.not_false, if_true]

/-- in particular no constructed value has a name containing a path separator -/
theorem constructors_no_separator :
    (∀ s c, newRecipient s = .ok c → (0x2f : UInt8) ∉ c.name ∧ (0x5c : UInt8) ∉ c.name) ∧
    (∀ s c, newIdentity s = .ok c → (0x2f : UInt8) ∉ c.name ∧ (0x5c : UInt8) ∉ c.name) ∧
    (∀ n c, newIdentityWithoutData n = .ok c → (0x2f : UInt8) ∉ c.name ∧ (0x5c : UInt8) ∉ c.name) :=
  ⟨fun s c h => valid_noSep (constructors_validate.1 s c h).1,
   fun s c h => valid_noSep (constructors_validate.2.1 s c h).1,
   fun n c h => valid_noSep (constructors_validate.2.2 n c h).1⟩

/-- conversely the bare-name constructor accepts every valid name (so the
    theorems above are not vacuous), and keeps it unchanged -/
theorem bare_name_accepts (n : Bytes) (hv : validPluginName n = true) :
    ∃ enc, enc ≠ [] ∧ newIdentityWithoutData n = .ok { name := n, encoding := enc } := by
  have hnn := encodeOrEmpty_ne_nil (validHrp_identity hv) []
  have he : encodeIdentity n [] = encodeOrEmpty (pfxPlugin ++ toUpper n ++ dash) [] := by
    simp only [encodeIdentity, hv, Bool.not_true, Bool.false_eq_true, if_false]
  refine ⟨_, hnn, ?_⟩
  rw [newIdentityWithoutData, he, if_neg hnn]

/-- what a client value runs: always `"age-plugin-" ++ name`, a file name with
    no path separator — so the program is found by searching PATH, never by
    path — and `openClientConnection` never refuses a constructed value -/
theorem exec_path (c : Client) (hv : validPluginName c.name = true) :
    openClientCommand c = .ok (execPath c.name) ∧ execPath c.name = pfxExec ++ c.name ∧
      (0x2f : UInt8) ∉ execPath c.name ∧ (0x5c : UInt8) ∉ execPath c.name := by
  obtain ⟨h1, h2⟩ := valid_noSep hv
  refine ⟨?_, rfl, ?_, ?_⟩
  · rw [openClientCommand, if_neg fun hc => h1 (List.contains_iff_mem.mp hc)]
  · simp only [execPath, List.mem_append, not_or]
    exact ⟨by decide, h1⟩
  · simp only [execPath, List.mem_append, not_or]
    exact ⟨by decide, h2⟩

/-- the only error of `openClientCommand` is for a name with a separator; then no command is produced -/
theorem exec_refuses_separator (c : Client) (h : (0x2f : UInt8) ∈ c.name) :
    openClientCommand c = .error .pathSeparator := by
  unfold openClientCommand
  rw [List.contains_iff_mem.mpr h]
  rfl

/-- conversely: whenever `openClientCommand` fails, the error is `pathSeparator` and the name
    contains `/` -/
theorem exec_error_only_separator (c : Client) (e : Keys.Err) (h : openClientCommand c = .error e) :
    e = .pathSeparator ∧ (0x2f : UInt8) ∈ c.name := by
  unfold openClientCommand at h
  by_cases hc : c.name.contains 0x2f = true
  · rw [if_pos hc] at h
    cases h
    exact ⟨rfl, List.contains_iff_mem.mp hc⟩
  · rw [if_neg hc] at h; cases h

/-- which command-line shapes can construct a plugin value at all: a `-r`/`-R`
    argument that starts with `age1` and has a second `1`, a `-i` file line that
    starts with `AGE-PLUGIN-`, or a `-j` name; always through one of the three
    validating constructors -/
theorem cli_routes :
    (∀ arg c, cliParseRecipient arg = .ok (.plugin c) →
      hasPrefix arg pfxAge1 = true ∧ countByte arg 0x31 > 1 ∧ newRecipient arg = .ok c ∧ validPluginName c.name = true) ∧
    (∀ s c, cliParseIdentity s = .ok (.plugin c) →
      hasPrefix s pfxPlugin = true ∧ newIdentity s = .ok c ∧ validPluginName c.name = true) ∧
    (∀ n v, cliPluginFlag n = .ok v → ∃ c, v = .plugin c ∧ newIdentityWithoutData n = .ok c ∧ c.name = n ∧
      validPluginName n = true) := by
  refine ⟨fun arg c h => ?_, fun s c h => ?_, fun n v h => ?_⟩
  · unfold cliParseRecipient at h
    split at h
    · rename_i h1
      simp only [Bool.and_eq_true, decide_eq_true_eq] at h1
      split at h
      · cases h
      · rename_i hn
        cases h
        exact ⟨h1.1, h1.2, hn, (constructors_validate.1 arg _ hn).1⟩
    -- every other branch returns an error or a value that is not a plugin: native, ssh, github, unknown
    · split at h
      · split at h <;> cases h
      · split at h
        · cases h
        · split at h <;> cases h
  · unfold cliParseIdentity at h
    split at h
    · rename_i h1
      split at h
      · cases h
      · rename_i hn
        cases h
        exact ⟨h1, hn, (constructors_validate.2.1 s _ hn).1⟩
    · split at h
      · split at h <;> cases h
      · cases h
  · unfold cliPluginFlag at h
    split at h
    · cases h
    · rename_i c hn
      cases h
      obtain ⟨hv, hname, _⟩ := constructors_validate.2.2 n c hn
      exact ⟨c, rfl, hn, hname, hname ▸ hv⟩

/-- the CLI hands native strings to the native parsers: an accepted native
    recipient or identity never becomes a plugin value -/
theorem cli_native_not_plugin (s k : Bytes) :
    (parseX25519Recipient s = .ok k → cliParseRecipient s = .ok (.x25519Recipient k)) ∧
    (parseX25519Identity s = .ok k → cliParseIdentity s = .ok (.x25519Identity k)) := by
  constructor
  · intro h
    obtain ⟨hd, _⟩ := parseX25519Recipient_ok h
    obtain ⟨D, _, d1, _, _, _, _, d5, _⟩ := decode_ok hd
    have hp : hasPrefix s pfxAge1 = true := hasPrefix_of_decode hd ⟨[], rfl⟩
    have hc : countByte s 0x31 = 1 := by
      rw [d1]
      simp only [countByte, List.count_append, List.count_cons, beq_self_eq_true, if_true, List.count_eq_zero.mpr d5]
      decide
    unfold cliParseRecipient
    rw [hp, hc, h]
    rfl
  · intro h
    obtain ⟨hd, _⟩ := parseX25519Identity_ok h
    obtain ⟨D, _, d1, _⟩ := decode_ok hd
    have hp : hasPrefix s pfxSecret1 = true := hasPrefix_of_decode hd ⟨[], rfl⟩
    have hnp : hasPrefix s pfxPlugin = false := Bool.eq_false_iff.mpr fun hpp => by
      obtain ⟨t, ht⟩ := (hasPrefix_iff _ _).mp hpp
      simp [d1, hrpSecret, pfxPlugin] at ht
    unfold cliParseIdentity
    rw [hnp, hp, h]
    rfl

/-! ## non-vacuity

  Concrete values meeting the hypotheses of every theorem above (those of `valid_name_no_separator` and
  `bare_name_accepts` are instantiated by the `"yubikey"` example above).  The plugin strings are those
  of the name "yubi" with the payload 01 02 03: "age1yubi1qypqxy5utrs" and "AGE-PLUGIN-YUBI-1QYPQXPQSYGH";
  the bare name is "Yubi", which `-j` keeps as it is (it runs "age-plugin-Yubi"). -/

/-- non-vacuity of `constructors_validate` and `constructors_no_separator` (same premises): each of the three
    constructors does return a value for some input -/
theorem constructors_validate_nonvacuous :
    newRecipient [97, 103, 101, 49, 121, 117, 98, 105, 49, 113, 121, 112, 113, 120, 121, 53, 117, 116, 114, 115] =
      .ok { name := [0x79, 0x75, 0x62, 0x69],
            encoding := [97, 103, 101, 49, 121, 117, 98, 105, 49, 113, 121, 112, 113, 120, 121, 53, 117, 116, 114,
              115] } ∧
    newIdentity [65, 71, 69, 45, 80, 76, 85, 71, 73, 78, 45, 89, 85, 66, 73, 45, 49, 81, 89, 80, 81, 88, 80, 81, 83, 89,
        71, 72] =
      .ok { name := [0x79, 0x75, 0x62, 0x69],
            encoding := [65, 71, 69, 45, 80, 76, 85, 71, 73, 78, 45, 89, 85, 66, 73, 45, 49, 81, 89, 80, 81, 88, 80, 81,
              83, 89, 71, 72] } ∧
    newIdentityWithoutData [0x59, 0x75, 0x62, 0x69] =
      .ok { name := [0x59, 0x75, 0x62, 0x69],
            encoding := [65, 71, 69, 45, 80, 76, 85, 71, 73, 78, 45, 89, 85, 66, 73, 45, 49, 67, 55, 67, 68, 57,
              78] } := by decide +kernel

/-- non-vacuity of `constructors_no_separator`: the witness of `constructors_validate_nonvacuous` -/
theorem constructors_no_separator_nonvacuous :
    (∃ s c, newRecipient s = .ok c) ∧ (∃ s c, newIdentity s = .ok c) ∧ (∃ n c, newIdentityWithoutData n = .ok c) :=
  ⟨⟨_, _, constructors_validate_nonvacuous.1⟩, ⟨_, _, constructors_validate_nonvacuous.2.1⟩,
   ⟨_, _, constructors_validate_nonvacuous.2.2⟩⟩

/-- non-vacuity of `exec_path`: the value `-j Yubi` constructs has a valid name; it runs "age-plugin-Yubi" -/
theorem exec_path_nonvacuous :
    validPluginName (Client.mk [0x59, 0x75, 0x62, 0x69]
      [65, 71, 69, 45, 80, 76, 85, 71, 73, 78, 45, 89, 85, 66, 73, 45, 49, 67, 55, 67, 68, 57, 78]).name = true := by
  decide

example : openClientCommand (Client.mk [0x59, 0x75, 0x62, 0x69]
      [65, 71, 69, 45, 80, 76, 85, 71, 73, 78, 45, 89, 85, 66, 73, 45, 49, 67, 55, 67, 68, 57, 78]) =
    .ok [0x61, 0x67, 0x65, 0x2d, 0x70, 0x6c, 0x75, 0x67, 0x69, 0x6e, 0x2d, 0x59, 0x75, 0x62, 0x69] :=
  (exec_path _ exec_path_nonvacuous).1

/-- non-vacuity of `exec_refuses_separator`: a value named "../x" (no constructor returns one — see
    `constructors_no_separator` — so this is the defence in depth of `openClientConnection`) -/
theorem exec_refuses_separator_nonvacuous :
    (0x2f : UInt8) ∈ (Client.mk [0x2e, 0x2e, 0x2f, 0x78] []).name := by decide

/-- non-vacuity of `cli_routes`: each of the three routes does produce a plugin value — `-r age1yubi1qypqxy5utrs`,
    an identity-file line `AGE-PLUGIN-YUBI-1QYPQXPQSYGH`, and `-j Yubi` -/
theorem cli_routes_nonvacuous :
    cliParseRecipient [97, 103, 101, 49, 121, 117, 98, 105, 49, 113, 121, 112, 113, 120, 121, 53, 117, 116, 114,
        115] =
      .ok (.plugin { name := [0x79, 0x75, 0x62, 0x69],
                     encoding := [97, 103, 101, 49, 121, 117, 98, 105, 49, 113, 121, 112, 113, 120, 121, 53, 117, 116,
                       114, 115] }) ∧
    cliParseIdentity [65, 71, 69, 45, 80, 76, 85, 71, 73, 78, 45, 89, 85, 66, 73, 45, 49, 81, 89, 80, 81, 88, 80, 81, 83,
        89, 71, 72] =
      .ok (.plugin { name := [0x79, 0x75, 0x62, 0x69],
                     encoding := [65, 71, 69, 45, 80, 76, 85, 71, 73, 78, 45, 89, 85, 66, 73, 45, 49, 81, 89, 80, 81, 88,
                       80, 81, 83, 89, 71, 72] }) ∧
    cliPluginFlag [0x59, 0x75, 0x62, 0x69] =
      .ok (.plugin { name := [0x59, 0x75, 0x62, 0x69],
                     encoding := [65, 71, 69, 45, 80, 76, 85, 71, 73, 78, 45, 89, 85, 66, 73, 45, 49, 67, 55, 67, 68, 57,
                       78] }) := by
  refine ⟨?_, ?_, ?_⟩
  · rw [cliParseRecipient, if_pos (by decide), constructors_validate_nonvacuous.1]
  · rw [cliParseIdentity, if_pos (by decide), constructors_validate_nonvacuous.2.1]
  · rw [cliPluginFlag, constructors_validate_nonvacuous.2.2]

/-- non-vacuity of `cli_native_not_plugin`: the native strings of the key 0x42…42
    ("age1gfpyysjz…gfpqxkm8f4", "AGE-SECRET-KEY-1GFPYYSJZ…GFPQ4EGAEX") are accepted by the native parsers -/
theorem cli_native_not_plugin_nonvacuous :
    parseX25519Recipient
      [97, 103, 101, 49, 103, 102, 112, 121, 121, 115, 106, 122, 103, 102, 112, 121, 121, 115, 106, 122, 103, 102, 112,
       121, 121, 115, 106, 122, 103, 102, 112, 121, 121, 115, 106, 122, 103, 102, 112, 121, 121, 115, 106, 122, 103,
       102, 112, 121, 121, 115, 106, 122, 103, 102, 112, 113, 120, 107, 109, 56, 102, 52] =
      .ok (List.replicate 32 0x42) ∧
    parseX25519Identity
      [65, 71, 69, 45, 83, 69, 67, 82, 69, 84, 45, 75, 69, 89, 45, 49, 71, 70, 80, 89, 89, 83, 74, 90, 71, 70, 80, 89,
       89, 83, 74, 90, 71, 70, 80, 89, 89, 83, 74, 90, 71, 70, 80, 89, 89, 83, 74, 90, 71, 70, 80, 89, 89, 83, 74, 90,
       71, 70, 80, 89, 89, 83, 74, 90, 71, 70, 80, 81, 52, 69, 71, 65, 69, 88] =
      .ok (List.replicate 32 0x42) := by decide +kernel

end Props.C17
end AgeModel
