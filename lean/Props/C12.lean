/-
  C12 — results do not depend on I/O chunking; processing is streaming.
  The property theorems, with the two notions their statements need (`opsOf`, `Lookahead`); helper lemmas live
  in Proofs/.
-/
import Proofs.StreamWriterTop
import Proofs.IO
import Proofs.StreamReaderTop
namespace AgeModel
namespace Props.C12
open Stream

/-- every write is an op, followed by one close -/
def opsOf (segs : List Bytes) : List WOp := segs.map WOp.write ++ [WOp.close]

/-- Whatever the segmentation of the plaintext into `Write` calls (empty writes,
    writes larger than a chunk, writes ending on chunk boundaries), and whatever
    the destination does: if no call reported an error then every `Write`
    reported the full count and the destination holds exactly
    `Spec.encrypt key (concatenation)` after what it held before. -/
theorem writer_refines_spec {S : DstSpec} (A : AEAD) (C L : Nat) (hC : 0 < C) (k : Bytes)
    (d : Dst S) (segs : List Bytes) :
    let res := (Writer.new d).run A C L k (opsOf segs)
    (∀ r ∈ res.2, r.2 = none) →
      res.1.dst.acc = d.acc ++ encrypt A C k segs.flatten ∧
      res.2 = segs.map (fun p => (p.length, none)) ++ [(0, none)] := by
  intro res hall
  have := run_writes_close A C L hC k d.acc segs (Writer.new d) [] (WInv_new A C k d) (Or.inl hall)
  rwa [List.nil_append] at this

/-- With a destination that never fails and a plaintext shorter than
    (L-1)·C bytes (L = 2^88 in age) no call reports an error at all. -/
theorem writer_never_fails {S : DstSpec} (hS : S.NeverFails) (A : AEAD) (C L : Nat) (hC : 0 < C) (k : Bytes)
    (d : Dst S) (segs : List Bytes) (hlen : segs.flatten.length < (L - 1) * C) :
    ∀ r ∈ ((Writer.new d).run A C L k (opsOf segs)).2, r.2 = none := by
  intro r hr
  have := (run_writes_close A C L hC k d.acc segs (Writer.new d) [] (WInv_new A C k d)
    (Or.inr ⟨hS, by rw [List.length_nil, Nat.zero_add]; exact hlen⟩)).2
  rw [opsOf, this] at hr
  rcases List.mem_append.mp hr with hr | hr
  · obtain ⟨p, -, rfl⟩ := List.mem_map.mp hr
    rfl
  · cases List.mem_singleton.mp hr
    rfl

/-- For every ciphertext (valid or damaged), every source ending (EOF or a
    failure) and every sequence of positive `Read` sizes that is long enough to
    reach the end, the bytes released and the terminal error are those of the
    Spec, independent of the sizes. -/
theorem reader_refines_spec (A : AEAD) (C L : Nat) (hE : 0 < C + A.T) (k c : Bytes) (srcFail : Bool)
    (hL : c.length < L) (sizes : List Nat) (hpos : ∀ s ∈ sizes, 0 < s)
    (hlong : (dec A C k srcFail 0 c).1.length + c.length + 1 < sizes.length) :
    ∃ r', (Reader.new ⟨c, srcFail⟩).drain A C L k sizes
        = (r', (dec A C k srcFail 0 c).1, some (dec A C k srcFail 0 c).2) := by
  have hb : (Reader.new ⟨c, srcFail⟩).Bounded L := by simp [Reader.Bounded, Reader.new]; exact hL
  have hd := drain_spec A C L hE k sizes (Reader.new ⟨c, srcFail⟩) hpos hb
  have hden : (Reader.new ⟨c, srcFail⟩).denote A C k = dec A C k srcFail 0 c := by
    simp [Reader.denote, Reader.new]
  generalize hdr : (Reader.new ⟨c, srcFail⟩).drain A C L k sizes = res at hd
  obtain ⟨r', out, e⟩ := res
  cases e with
  | some e =>
    simp only at hd
    rw [hden] at hd
    exact ⟨r', by rw [hd.1]⟩
  | none =>
    exfalso
    simp only at hd
    have h2 := hd.2
    unfold Reader.nu at h2
    rw [hden] at h2
    simp only [Reader.new, if_true] at h2
    omega

/-- specialisation to a well-behaved source: the `Read` sizes do not matter and
    the result is `Spec.decrypt` -/
theorem reader_chunking_irrelevant (A : AEAD) (C L : Nat) (hE : 0 < C + A.T) (k c : Bytes)
    (hL : c.length < L) (sizes₁ sizes₂ : List Nat)
    (h₁ : ∀ s ∈ sizes₁, 0 < s) (h₂ : ∀ s ∈ sizes₂, 0 < s)
    (l₁ : (decrypt A C k c).1.length + c.length + 1 < sizes₁.length)
    (l₂ : (decrypt A C k c).1.length + c.length + 1 < sizes₂.length) :
    ((Reader.new ⟨c, false⟩).drain A C L k sizes₁).2 = ((decrypt A C k c).1, some (decrypt A C k c).2) ∧
    ((Reader.new ⟨c, false⟩).drain A C L k sizes₂).2 = ((decrypt A C k c).1, some (decrypt A C k c).2) := by
  obtain ⟨r1, e1⟩ := reader_refines_spec A C L hE k c false hL sizes₁ h₁ l₁
  obtain ⟨r2, e2⟩ := reader_refines_spec A C L hE k c false hL sizes₂ h₂ l₂
  rw [e1, e2]
  exact ⟨rfl, rfl⟩

/-- streaming, encryption side: between calls the writer holds back at most one
    chunk: `buf.length ≤ C`, everything else (whole chunks) is already at the
    destination, and closing now would complete the file. -/
theorem writer_holdback {S : DstSpec} (A : AEAD) (C L : Nat) (hC : 0 < C) (k : Bytes)
    (d : Dst S) (segs : List Bytes) :
    let res := (Writer.new d).run A C L k (segs.map WOp.write)
    (∀ r ∈ res.2, r.2 = none) →
      res.1.buf.length ≤ C ∧ res.1.ctr * C + res.1.buf.length = segs.flatten.length ∧
      res.1.dst.acc ++ A.sealF k (nonce res.1.ctr true) res.1.buf = d.acc ++ encrypt A C k segs.flatten := by
  intro res hall
  obtain ⟨-, h2, h3, h4⟩ := (run_writes A C L hC k d.acc segs (Writer.new d) [] (WInv_new A C k d) (Or.inl hall)).1
  refine ⟨h2, h3, ?_⟩
  have := h4 []
  rw [List.append_nil, List.append_nil, List.nil_append] at this
  rw [← enc_short A C k _ _ h2, this, encrypt_eq_enc]

/-- streaming, decryption side: a reader state reached by any reads has asked
    its source for at most one chunk (plus the one-byte EOF probe) beyond the
    chunks whose plaintext it has produced. -/
def Lookahead (A : AEAD) (C : Nat) (r : Reader) : Prop :=
  (r.err = none → r.taken = r.ctr * (C + A.T)) ∧ r.taken ≤ r.ctr * (C + A.T) + (C + A.T) + 1

theorem reader_lookahead (A : AEAD) (C L : Nat) (k : Bytes) (r : Reader) (n : Nat)
    (h : Lookahead A C r) : Lookahead A C (r.read A C L k n).1 := by
  obtain ⟨h1, h2⟩ := h
  unfold Reader.read
  let P (res : Reader × Bytes × Option Outcome) : Prop := Lookahead A C res.1
  refine iteInduction (motive := P) (fun _ => ⟨h1, h2⟩) fun hu => ?_
  cases he : r.err with
  | some e => exact ⟨h1, h2⟩
  | none =>
    refine iteInduction (motive := P) (fun _ => ⟨h1, h2⟩) fun _ => ?_
    -- a chunk is read: `taken` grows by one chunk's worth, and so does `ctr * (C + A.T)` unless the chunk is refused
    have ht : r.taken + (C + A.T) = r.ctr * (C + A.T) + (C + A.T) := by rw [h1 he]
    generalize hres : r.readChunk A C L k = res
    apply readChunk_cases A C L k r (List.eq_nil_of_length_eq_zero (by omega)) ?_ ?_ hres
    · intro e _
      refine ⟨nofun, ?_⟩
      show r.taken + (C + A.T) ≤ r.ctr * _ + _ + 1
      omega
    · intro out last _
      have hc : (r.ctr + 1) * (C + A.T) = r.ctr * (C + A.T) + (C + A.T) := Nat.succ_mul ..
      cases last with
      | false =>
        refine ⟨fun _ => ht.trans hc.symm, ?_⟩
        show r.taken + (C + A.T) ≤ (r.ctr + 1) * _ + _ + 1
        omega
      | true =>
        refine ⟨fun h => ?_, ?_⟩
        · have h : (Reader.probe _).err = none := h
          rw [(probe_spec _).1] at h
          cases h
        show (Reader.probe _).taken ≤ (Reader.probe _).ctr * _ + _ + 1
        rw [(probe_spec _).2.2.2.2, (probe_spec _).2.2.1]
        show r.taken + (C + A.T) + 1 ≤ (r.ctr + 1) * _ + _ + 1
        omega

theorem lookahead_new (A : AEAD) (C : Nat) (s : Src) : Lookahead A C (Reader.new s) := by
  simp [Lookahead, Reader.new]

/-- the arithmetic side conditions of the writer theorems at chunk size 4 and nine bytes -/
example : (0 : Nat) < 4 ∧ ([1,2,3,4,5,6,7,8,9] : Bytes).length < (2^88 - 1) * 4 := by decide

/-- **The delivery schedule of the source is irrelevant.** `io.ReadFull` (transcribed in
    `AgeModel.IO`) over ANY schedule — pieces of any sizes, empty reads, data delivered
    together with the end condition — returns what depends only on the concatenation of the
    pieces and the kind of end, and leaves a source with the same property. This is what
    justifies describing a source as `Src` (bytes + end condition) everywhere else. -/
theorem readfull_schedule_irrelevant (n : Nat) (s t : IO.Sched) (hd : s.flat = t.flat) (hf : s.fail = t.fail) :
    let r := IO.readFull n s.fail [] s.pieces s.last
    let q := IO.readFull n t.fail [] t.pieces t.last
    r.1 = q.1 ∧ r.2.1 = q.2.1 ∧ r.2.2.flat = q.2.2.flat ∧ r.2.2.fail = q.2.2.fail :=
  IO.readFull_schedule_irrelevant n s t hd hf

/-- … and that common value is the obvious one -/
theorem readfull_is_spec (n : Nat) (s : IO.Sched) :
    let r := IO.readFull n s.fail [] s.pieces s.last
    (r.1, r.2.1) = IO.readFullSpec n s.flat s.fail ∧ r.2.2.flat = s.flat.drop n ∧ r.2.2.fail = s.fail :=
  IO.readFull_spec n s

/-- five bytes delivered one at a time with an empty read in between, and the same five delivered in one piece
    together with EOF, are the same source to a 3-byte and then a 4-byte ReadFull -/
example :
    let s : IO.Sched := ⟨[[1], [], [2], [3], [4]], [5], false⟩
    let t : IO.Sched := ⟨[], [1, 2, 3, 4, 5], false⟩
    s.flat = t.flat ∧ (IO.readFull 3 false [] s.pieces s.last).1 = [1, 2, 3] ∧ (IO.readFull 3 false [] t.pieces t.last).1 = [1, 2, 3] ∧
    (IO.readFull 4 false [] (IO.readFull 3 false [] t.pieces t.last).2.2.pieces (IO.readFull 3 false [] t.pieces t.last).2.2.last).2.1 = .unexpectedEOF :=
  ⟨rfl, rfl, rfl, rfl⟩

/-! ## Non-vacuity witnesses (toy AEAD with a 12-byte tag, chunk size 4, counter limit 2^88) -/

/-- non-vacuity of `writer_refines_spec`: nine bytes written as `[1,2,3]`, an empty write and `[4..9]` (crossing two
    chunk boundaries) to a destination that WOULD fail at byte offset 100 and already holds one byte; no call reports
    an error -/
theorem writer_refines_spec_nonvacuous :
    let d : Dst (DstSpec.atOffset 100 true false) := { acc := [0xAA], st := false }
    let segs : List Bytes := [[1, 2, 3], [], [4, 5, 6, 7, 8, 9]]
    let res := (Writer.new d).run AEAD.toy 4 (2^88) [7, 7] (opsOf segs)
    0 < 4 ∧ (∀ r ∈ res.2, r.2 = none) := by
  decide +kernel

/-- the conclusion of `writer_refines_spec` at that witness: 1 + 45 bytes at the destination -/
example :
    let d : Dst (DstSpec.atOffset 100 true false) := { acc := [0xAA], st := false }
    let res := (Writer.new d).run AEAD.toy 4 (2^88) [7, 7] (opsOf [[1, 2, 3], [], [4, 5, 6, 7, 8, 9]])
    res.1.dst.acc = [0xAA] ++ encrypt AEAD.toy 4 [7, 7] [1, 2, 3, 4, 5, 6, 7, 8, 9] ∧
    res.2 = [(3, none), (0, none), (6, none), (0, none)] ∧ res.1.dst.acc.length = 46 :=
  have h := writer_refines_spec AEAD.toy 4 (2^88) (by decide) [7, 7]
    ({ acc := [0xAA], st := false } : Dst (DstSpec.atOffset 100 true false)) [[1, 2, 3], [], [4, 5, 6, 7, 8, 9]]
    writer_refines_spec_nonvacuous.2
  ⟨h.1, h.2, by decide⟩

/-- non-vacuity of `writer_never_fails`: the perfect destination never fails, and nine bytes are fewer than
    (2^88 - 1)·4 -/
theorem writer_never_fails_nonvacuous :
    DstSpec.perfect.NeverFails ∧ 0 < 4 ∧
    ([[1, 2, 3], [], [4, 5, 6, 7, 8, 9]] : List Bytes).flatten.length < (2^88 - 1) * 4 :=
  ⟨DstSpec.perfect_neverFails, by decide, by decide⟩

/-- non-vacuity of `reader_refines_spec`: the 45-byte payload of a 9-byte plaintext (three chunks), a source ending in
    EOF, 60 reads of sizes 1, 5 and 2 -/
theorem reader_refines_spec_nonvacuous :
    let c := encrypt AEAD.toy 4 [7, 7] [1, 2, 3, 4, 5, 6, 7, 8, 9]
    let sizes := List.replicate 20 1 ++ List.replicate 20 5 ++ List.replicate 20 2
    0 < 4 + AEAD.toy.T ∧ c.length < 2^88 ∧ (∀ s ∈ sizes, 0 < s) ∧
    (dec AEAD.toy 4 [7, 7] false 0 c).1.length + c.length + 1 < sizes.length := by
  decide +kernel

/-- … and with a DAMAGED payload (a byte of the second chunk's tag flipped) on a source that ends in an error -/
theorem reader_refines_spec_nonvacuous_damaged :
    let c := (encrypt AEAD.toy 4 [7, 7] [1, 2, 3, 4, 5, 6, 7, 8, 9]).set 30 0xFF
    let sizes := List.replicate 60 3
    0 < 4 + AEAD.toy.T ∧ c.length < 2^88 ∧ (∀ s ∈ sizes, 0 < s) ∧
    (dec AEAD.toy 4 [7, 7] true 0 c).1.length + c.length + 1 < sizes.length ∧
    dec AEAD.toy 4 [7, 7] true 0 c = ([1, 2, 3, 4], .authFail) := by
  decide +kernel

/-- non-vacuity of `reader_chunking_irrelevant`: the same payload read one byte at a time and in reads of 7 -/
theorem reader_chunking_irrelevant_nonvacuous :
    let c := encrypt AEAD.toy 4 [7, 7] [1, 2, 3, 4, 5, 6, 7, 8, 9]
    let sizes₁ := List.replicate 60 1
    let sizes₂ := List.replicate 56 7
    0 < 4 + AEAD.toy.T ∧ c.length < 2^88 ∧ (∀ s ∈ sizes₁, 0 < s) ∧ (∀ s ∈ sizes₂, 0 < s) ∧
    (decrypt AEAD.toy 4 [7, 7] c).1.length + c.length + 1 < sizes₁.length ∧
    (decrypt AEAD.toy 4 [7, 7] c).1.length + c.length + 1 < sizes₂.length ∧
    decrypt AEAD.toy 4 [7, 7] c = ([1, 2, 3, 4, 5, 6, 7, 8, 9], .eof) := by
  decide +kernel

/-- non-vacuity of `writer_holdback`: after the writes `[1,2,3]`, `[]`, `[4..9]` (no close) no call has reported an
    error; (the writer then holds back one byte: `ctr = 2`, `buf = [9]`) -/
theorem writer_holdback_nonvacuous :
    let d : Dst (DstSpec.atOffset 100 true false) := { acc := [0xAA], st := false }
    let segs : List Bytes := [[1, 2, 3], [], [4, 5, 6, 7, 8, 9]]
    let res := (Writer.new d).run AEAD.toy 4 (2^88) [7, 7] (segs.map WOp.write)
    0 < 4 ∧ (∀ r ∈ res.2, r.2 = none) ∧ res.1.ctr = 2 ∧ res.1.buf = [9] := by
  decide +kernel

/-- non-vacuity of `reader_lookahead`: the reader that has read 2 bytes of the first chunk of a three-chunk payload
    (two bytes still unread, one chunk consumed) satisfies `Lookahead`; so does the reader that has hit a damaged
    second chunk and recorded the error -/
theorem reader_lookahead_nonvacuous :
    let c := encrypt AEAD.toy 4 [7, 7] [1, 2, 3, 4, 5, 6, 7, 8, 9]
    let r := ((Reader.new ⟨c, false⟩).read AEAD.toy 4 (2^88) [7, 7] 2).1
    let r' := ((Reader.new ⟨c.set 30 0xFF, false⟩).drain AEAD.toy 4 (2^88) [7, 7] [4, 4]).1
    Lookahead AEAD.toy 4 r ∧ r.unread = [3, 4] ∧ r.ctr = 1 ∧ r.taken = 16 ∧
    Lookahead AEAD.toy 4 r' ∧ r'.err = some .authFail ∧ r'.taken = 32 := by
  unfold Lookahead
  decide +kernel

/-- non-vacuity of `readfull_schedule_irrelevant`: five bytes delivered one at a time with an empty read in between and
    the last one together with EOF, and the same five in one piece together with EOF -/
theorem readfull_schedule_irrelevant_nonvacuous :
    let s : IO.Sched := ⟨[[1], [], [2], [3], [4]], [5], false⟩
    let t : IO.Sched := ⟨[], [1, 2, 3, 4, 5], false⟩
    s.flat = t.flat ∧ s.fail = t.fail ∧ s.pieces ≠ t.pieces := by
  decide

end Props.C12
end AgeModel
