/-
  C08 — armor decodes what it encodes and accepts only canonical armor.
  (Model of armor/armor.go as repaired by the fix: commits F1–F3 and F10.)
-/
import Proofs.ArmorWriteTop
import Proofs.ArmorReaderTop
namespace AgeModel
namespace Props.C08
open Armor Stream

/-- **dearmor ∘ armor = id** for every byte string (any whitespace budget W > 0). -/
theorem dearmor_armor (W : Nat) (hW : 0 < W) (b : Bytes) : read W false (armor b) = (b, .eof) :=
  read_armor W hW b

/-- **The writer machine produces the canonical armor** under every sequence of
    writes — including none at all, empty writes, and whatever way each call's
    output is split into destination writes — for every destination behaviour:
    if every call reported success the destination holds exactly `armor` of the
    concatenation (hence it de-armors to exactly those bytes, by `dearmor_armor`). -/
theorem armor_writer_refines_spec {S : DstSpec} (d : Dst S) (segs : List (Bytes × List Nat))
    (hall : ∀ r ∈ ((AWriter.new d).run (aopsOf segs)).2, r = none) :
    ((AWriter.new d).run (aopsOf segs)).1.dst.acc = d.acc ++ armor (segs.map (·.1)).flatten := by
  have := arun_ok d.acc segs (AWriter.new d) [] (AInv_new d) hall
  simpa using this

/-- with a destination that never fails no call reports an error -/
theorem armor_writer_never_fails {S : DstSpec} (hS : S.NeverFails) (d : Dst S) (segs : List (Bytes × List Nat)) :
    ∀ r ∈ ((AWriter.new d).run (aopsOf segs)).2, r = none :=
  arun_neverFails hS d.acc segs (AWriter.new d) [] (AInv_new d)

/-- the empty write sequence: `NewWriter` + `Close` gives the armor of the empty string, which de-armors -/
example : ((AWriter.new ({ acc := [], st := () } : Dst DstSpec.perfect)).run (aopsOf [])).1.dst.acc = armor [] ∧
    read 1024 false (armor []) = ([], .eof) := by
  refine ⟨?_, dearmor_armor 1024 (by decide) []⟩
  have := armor_writer_refines_spec ({ acc := [], st := () } : Dst DstSpec.perfect) []
    (armor_writer_never_fails DstSpec.perfect_neverFails _ [])
  simpa using this

/-- **Only canonical armor is accepted.** If the reader accepts a text through to a
    clean end, yielding `b`, then line by line (a line = up to LF, minus ONE
    trailing CR; a final line without LF counts) the text is: whitespace-only lines,
    then exactly the lines of `armor b` — the BEGIN line, the canonical 64-column
    base64 lines of `b`, the END line — then fewer than `W` bytes of white space.
    These are precisely the documented tolerances (CRLF line ends, whitespace
    before the header and after the footer). Short, long or empty body lines,
    non-canonical base64, PEM headers, foreign leading or trailing data are
    therefore rejected. -/
theorem armor_canonical (W : Nat) (t b : Bytes) (h : read W false t = (b, .eof)) :
    ∃ pre rest, (∀ l ∈ pre, allSpace l = true) ∧ rest.length < W ∧ allSpace rest = true ∧
      lines t = pre ++ (lines (armor b)).dropLast ++ footer :: lines rest := by
  obtain ⟨pre, rest, hpre, htr, hl⟩ := read_canon W t b h
  refine ⟨pre, rest, hpre, htr.1, htr.2, ?_⟩
  rw [hl, lines_armor]
  have : (header :: (bodyLines b ++ [footer])).dropLast = header :: bodyLines b := by
    rw [show header :: (bodyLines b ++ [footer]) = (header :: bodyLines b) ++ [footer] by simp, List.dropLast_concat]
  rw [this]; simp

/-- every failure of the reader is the armor error class: by the type of the
    outcome (`eof` or `err`; Go: every non-EOF error is wrapped in `*armor.Error`). -/
theorem armor_errors_typed (W : Nat) (fail : Bool) (t : Bytes) :
    (read W fail t).2 = .eof ∨ (read W fail t).2 = .err := by
  cases (read W fail t).2 <;> simp

/-- **The per-call reader machine equals `read`** for every sequence of positive
    `Read` sizes long enough to reach the end (valid or damaged text, failing source or not). -/
theorem armor_reader_refines_spec (W : Nat) (fail : Bool) (t : Bytes) (sizes : List Nat) (hpos : ∀ s ∈ sizes, 0 < s)
    (hlong : (read W fail t).1.length + t.length + 2 < sizes.length) :
    ∃ r', (AReader.new t).drain W fail sizes = (r', (read W fail t).1, some (read W fail t).2) := by
  have hd := adrain_spec W fail sizes (AReader.new t) hpos
  rw [denote_new] at hd
  generalize hdr : (AReader.new t).drain W fail sizes = res at hd
  obtain ⟨r', out, e⟩ := res
  cases e with
  | some e => simp only at hd; exact ⟨r', by rw [hd.1]⟩
  | none =>
    exfalso
    simp only at hd
    have h2 := hd.2
    unfold AReader.nu at h2
    rw [denote_new] at h2
    simp only [AReader.new, if_true, Bool.false_eq_true, if_false] at h2
    omega

/-- a failed reader keeps failing and releases nothing more (after fix F10) -/
theorem armor_reader_sticky (W : Nat) (fail : Bool) (r : AReader) (e : AOut) (he : r.err = some e) (hu : r.unread = []) (n : Nat) :
    r.read1 W fail n = (r, [], some e) := read1_sticky W fail r e he hu n

/-- and whenever `Read` reports an error its buffer is empty, so the premise of
    `armor_reader_sticky` holds from then on -/
theorem armor_error_leaves_no_data (W : Nat) (fail : Bool) (r : AReader) (n : Nat) (hn : 0 < n) (r' : AReader) (out : Bytes) (e : AOut)
    (h : r.read1 W fail n = (r', out, some e)) : out = [] ∧ r'.err = some e ∧ r'.unread = [] := by
  have := read1_spec W fail r n hn
  rw [h] at this
  exact ⟨this.1, this.2.2.1, this.2.2.2⟩

/-- a failing source never yields a clean end of the armored stream, wherever it fails -/
theorem armor_src_fault_no_eof (W : Nat) (t : Bytes) : (read W true t).2 = .err := by
  -- with a failing source `drainOK` is false: either `io.ReadAll` fails, or the limit was hit, which is itself a rejection
  have hdrain : ∀ rest, drainOK W true rest = false := by
    intro rest
    unfold drainOK
    by_cases h : rest.length < W
    · simp [h]
    · have : (rest.take W).length = W := by rw [List.length_take]; omega
      simp [h, this]
  have hbody : ∀ (fuel : Nat) (t : Bytes), (readBody W true fuel t).2 = .err := by
    intro fuel
    induction fuel with
    | zero => intro t; rfl
    | succ fuel ih =>
      intro t
      unfold readBody
      cases getLine true t with
      | none => rfl
      | some p =>
        obtain ⟨line, rest⟩ := p
        dsimp only
        cases classifyLine line with
        | bad => rfl
        | footer => simp [hdrain]
        | data b =>
          dsimp only
          split
          · cases getLine true rest with
            | none => rfl
            | some p2 =>
              obtain ⟨l2, rest2⟩ := p2
              dsimp only
              split
              · simp [hdrain]
              · rfl
          · exact ih rest
  unfold Armor.read
  cases readLeading W true (t.length + 1) t 0 with
  | none => rfl
  | some rest => exact hbody _ rest

/-! ## non-vacuity witnesses -/

/-- non-vacuity of `dearmor_armor`: the whitespace budget of the code -/
theorem dearmor_armor_nonvacuous : 0 < 1024 := by decide

/-- non-vacuity of `armor_writer_never_fails`: the destination that accepts everything -/
theorem armor_writer_never_fails_nonvacuous : DstSpec.perfect.NeverFails := DstSpec.perfect_neverFails

/-- non-vacuity of `armor_writer_refines_spec`: a never-failing destination already holding one byte; writes of 2, 0 and 3
    bytes (each with its own split into destination writes) and Close: no call reports an error -/
theorem armor_writer_refines_spec_nonvacuous :
    ∀ r ∈ ((AWriter.new ({ acc := [9], st := () } : Dst DstSpec.perfect)).run
      (aopsOf [([1, 2], [3]), ([], []), ([3, 4, 5], [1, 1])])).2, r = none :=
  armor_writer_never_fails DstSpec.perfect_neverFails _ _

/-- its conclusion there: the destination holds the old byte and the armor of the five bytes -/
example : ((AWriter.new ({ acc := [9], st := () } : Dst DstSpec.perfect)).run
      (aopsOf [([1, 2], [3]), ([], []), ([3, 4, 5], [1, 1])])).1.dst.acc = [9] ++ armor [1, 2, 3, 4, 5] :=
  armor_writer_refines_spec _ _ armor_writer_refines_spec_nonvacuous

/-- non-vacuity of `armor_canonical`: a text that is NOT `armor b` but within the tolerances is accepted: a whitespace-only
    first line, CRLF line ends, the body line `AQIDBAU=`, and white space after the END line; it yields the bytes 1..5 -/
theorem armor_canonical_nonvacuous :
    read 1024 false ([32, 9, 13, 10] ++ header ++ [13, 10] ++ [65, 81, 73, 68, 66, 65, 85, 61] ++ [13, 10] ++
      footer ++ [13, 10, 32, 10]) = ([1, 2, 3, 4, 5], .eof) := by decide +kernel

/-- non-vacuity of `armor_reader_refines_spec`: that same 86-byte text read in 100 calls of 3 bytes -/
theorem armor_reader_refines_spec_nonvacuous :
    (∀ s ∈ List.replicate 100 3, 0 < s) ∧
    (read 1024 false ([32, 9, 13, 10] ++ header ++ [13, 10] ++ [65, 81, 73, 68, 66, 65, 85, 61] ++ [13, 10] ++
      footer ++ [13, 10, 32, 10])).1.length +
      ([32, 9, 13, 10] ++ header ++ [13, 10] ++ [65, 81, 73, 68, 66, 65, 85, 61] ++ [13, 10] ++
        footer ++ [13, 10, 32, 10]).length + 2 < (List.replicate 100 3).length := by
  refine ⟨fun s hs => by rw [List.eq_of_mem_replicate hs]; decide, ?_⟩
  rw [armor_canonical_nonvacuous]
  decide

/-- non-vacuity of `armor_error_leaves_no_data`: a first `Read` of 5 bytes on the text `x\n` (no BEGIN line) reports an error -/
theorem armor_error_leaves_no_data_nonvacuous :
    0 < 5 ∧ (AReader.new [120, 10]).read1 1024 false 5 =
      ({ started := false, unread := [], err := some .err, rest := [120, 10], removed := 0 }, [], some .err) :=
  ⟨by decide, by rfl⟩

/-- non-vacuity of `armor_reader_sticky`: the state that failed `Read` left behind (previous witness) has the error set and
    nothing buffered. (So has the state after a clean end: see the `example` below.) -/
theorem armor_reader_sticky_nonvacuous :
    ({ started := false, unread := [], err := some .err, rest := [120, 10], removed := 0 } : AReader).err = some .err ∧
    ({ started := false, unread := [], err := some .err, rest := [120, 10], removed := 0 } : AReader).unread = [] := ⟨rfl, rfl⟩

/-- the tolerant text read in calls of 3: bytes `1,2,3`, then `4,5`, then the clean end, which is sticky -/
example : ∃ r1 r2 r3,
    (AReader.new ([32, 9, 13, 10] ++ header ++ [13, 10] ++ [65, 81, 73, 68, 66, 65, 85, 61] ++ [13, 10] ++
      footer ++ [13, 10, 32, 10])).read1 1024 false 3 = (r1, [1, 2, 3], none) ∧
    r1.read1 1024 false 3 = (r2, [4, 5], none) ∧ r2.read1 1024 false 3 = (r3, [], some .eof) ∧
    r3.read1 1024 false 3 = (r3, [], some .eof) := ⟨_, _, _, by rfl, by rfl, by rfl, by rfl⟩

end Props.C08
end AgeModel
