/-
  C11 — recipients with different label sets cannot share a file.
-/
import Proofs.TapeLayout
import Proofs.Labels
import Proofs.ToyPrims
import Props.C10
namespace AgeModel
namespace Props.C11
open Format Stream

/-- When Encrypt refuses a recipient list — no recipients, a failing random
    source, a recipient that fails to wrap (at any position), incompatible
    labels — not a single byte has been written to the destination: it is
    returned exactly as it was (same accepted bytes, same internal state). -/
theorem refusal_writes_nothing {S : DstSpec} (P : Prims) (tape : Bytes) (rs : List Recipient) (segs : List Nat)
    (d : Dst S) (e : EncErr) (h : encryptHeader P tape rs = .error e) :
    encryptInit P tape rs segs d = (.error e, d) := by
  unfold encryptInit; rw [h]

/-- the label check precedes the first write: if Encrypt wrote anything at all,
    every recipient had wrapped successfully and all label lists (sorted) were equal -/
theorem write_implies_compatible {S : DstSpec} (P : Prims) (tape : Bytes) (rs : List Recipient) (segs : List Nat) (d : Dst S)
    (h : (encryptInit P tape rs segs d).2.acc ≠ d.acc) :
    ∃ fk st t, encryptHeader P tape rs = .ok (fk, st, t) := by
  cases hh : encryptHeader P tape rs with
  | error e => rw [refusal_writes_nothing P tape rs segs d e hh] at h; exact absurd rfl h
  | ok v => exact ⟨v.1, v.2.1, v.2.2, rfl⟩

/-- Encrypt succeeds ⇒ every recipient — taken at its own place `rs = pre ++ r :: post` of the list — wrapped
    successfully when run at its own place of the REAL tape (after the 16 bytes of the file key and after the
    `drawSize` bytes of each recipient standing before it), and all the label lists, sorted, are one and the same
    list `l0` (a recipient that declares none counting as the empty list). The tapes are not chosen: a passphrase
    recipient's label IS a draw from the tape, and it is the draw at that recipient's own offset that is compared. -/
theorem encrypt_ok_labels_equal (P : Prims) (tape : Bytes) (rs : List Recipient) (fk : Bytes) (st : List Stanza) (t : Bytes)
    (h : encryptHeader P tape rs = .ok (fk, st, t)) :
    ∃ l0 : List Bytes, ∀ (pre : List Recipient) (r : Recipient) (post : List Recipient), rs = pre ++ r :: post →
      ∃ ss l t1, wrapOne P r fk (tape.drop (16 + (pre.map drawSize).sum)) = .ok (some (ss, l), t1) ∧ sortLabels l = l0 :=
  encryptHeader_located P tape rs fk st t h

/-- custom recipients, full characterisation: the loop succeeds iff every wrap
    succeeds and all sorted label lists are equal -/
def customOK (fk : Bytes) (l0 : List Bytes) : List Recipient → Prop
  | [] => True
  | .custom w lbl :: rs => (w fk).isSome ∧ sortLabels (lbl.getD []) = l0 ∧ customOK fk l0 rs
  | _ :: _ => False

theorem custom_loop_iff (P : Prims) (fk : Bytes) (l0 : List Bytes) :
    ∀ (rs : List Recipient), (∀ r ∈ rs, ∃ w lbl, r = .custom w lbl) → ∀ (i : Nat) (tape : Bytes) (acc : List Stanza),
      (∃ st t, wrapAll P fk rs i tape acc (some l0) = .ok (st, t)) ↔ customOK fk l0 rs := by
  intro rs
  induction rs with
  | nil => intro _ i tape acc; simp [wrapAll, customOK]
  | cons r rs ih =>
    intro hc i tape acc
    obtain ⟨w, lbl, rfl⟩ := hc r (by simp)
    have hc' : ∀ r ∈ rs, ∃ w lbl, r = Recipient.custom w lbl := fun r hr => hc r (by simp [hr])
    unfold wrapAll wrapOne
    simp only [customOK]
    cases hw : w fk with
    | none => simp
    | some ss =>
      simp only [Option.map_some, Option.isSome_some, true_and]
      by_cases hl : l0 = sortLabels (lbl.getD [])
      · simp only [hl, if_true, true_and]
        rw [← hl]
        exact ih hc' (i+1) tape (acc ++ ss)
      · simp only [hl, if_false]
        constructor
        · intro ⟨_, _, h⟩; simp at h
        · intro ⟨h, _⟩; exact absurd h.symm hl

/-- **Encryption succeeds exactly when every recipient declares the same labels.**
    For every list of custom recipients (any count ≥ 1), every tape holding at
    least the 16 bytes of the file key: Encrypt produces a header iff every
    recipient wraps successfully and every recipient's sorted label list equals
    the first one's. -/
theorem encrypt_ok_iff_labels_equal (P : Prims) (tape : Bytes) (w0 : Bytes → Option (List Stanza)) (lbl0 : Option (List Bytes))
    (rs : List Recipient) (hc : ∀ r ∈ rs, ∃ w lbl, r = .custom w lbl) (htape : 16 ≤ tape.length) :
    (∃ fk st t, encryptHeader P tape (.custom w0 lbl0 :: rs) = .ok (fk, st, t)) ↔
      ((w0 (tape.take 16)).isSome ∧ customOK (tape.take 16) (sortLabels (lbl0.getD [])) rs) := by
  unfold encryptHeader
  have hd : draw fileKeySize tape = some (tape.take 16, tape.drop 16) := by
    unfold draw; simp [fileKeySize, htape]
  simp only [List.isEmpty_cons, Bool.false_eq_true, if_false, hd]
  unfold wrapAll wrapOne
  simp only
  cases hw : w0 (tape.take 16) with
  | none => simp
  | some ss =>
    simp only [Option.map_some, Option.isSome_some, true_and]
    have := custom_loop_iff P (tape.take 16) (sortLabels (lbl0.getD [])) rs hc 1 (tape.drop 16) ([] ++ ss)
    rw [← this]
    constructor
    · intro ⟨fk, st, t, h⟩
      split at h
      · cases h
      · rename_i st' t' hh
        exact ⟨st', t', hh⟩
    · intro ⟨st, t, h⟩
      exact ⟨tape.take 16, st, t, by rw [h]⟩

/-- **The order of labels is irrelevant.** `sort.Strings` gives the same list for
    every ordering of the same labels, so two recipients are compatible exactly
    when their label lists are permutations of each other — for duplicate-free
    lists: equal as sets. -/
theorem label_order_irrelevant (l₁ l₂ : List Bytes) : sortLabels l₁ = sortLabels l₂ ↔ l₁.Perm l₂ :=
  sortLabels_eq_iff_perm l₁ l₂

/-- the order of the RECIPIENTS is irrelevant to compatibility: `customOK` for a
    permuted recipient list against the same reference labels -/
theorem recipient_order_irrelevant (fk : Bytes) (l0 : List Bytes) (rs₁ rs₂ : List Recipient) (hp : rs₁.Perm rs₂) :
    customOK fk l0 rs₁ ↔ customOK fk l0 rs₂ := by
  -- `customOK` of a list is a condition on its head and `customOK` of its tail
  have hcons : ∀ r rs, customOK fk l0 (r :: rs) ↔
      (∃ w lbl, r = Recipient.custom w lbl ∧ (w fk).isSome ∧ sortLabels (lbl.getD []) = l0) ∧ customOK fk l0 rs := by
    intro r rs
    cases r <;> simp [customOK, and_assoc]
  induction hp with
  | nil => exact Iff.rfl
  | cons x _ ih =>
    rw [hcons, hcons]
    exact and_congr_right fun _ => ih
  | swap x y l =>
    rw [hcons, hcons, hcons, hcons]
    exact and_left_comm
  | trans _ _ ih₁ ih₂ => exact ih₁.trans ih₂

/-- "absent" and "empty" are the same label set -/
example : sortLabels ((none : Option (List Bytes)).getD []) = sortLabels ((some []).getD []) := rfl

/-! ## non-vacuity witnesses (toy primitives of Proofs/ToyPrims; custom recipient A has labels `a, b`, B has `b, a`) -/

/-- non-vacuity of `refusal_writes_nothing`: a passphrase recipient followed by an X25519 one, on a tape long enough for
    every draw: refused as incompatible -/
theorem refusal_writes_nothing_nonvacuous :
    encryptHeader Prims.toy (List.replicate 100 7)
      [Recipient.scrypt [112] 10, Recipient.x25519 (List.replicate 32 0)] = .error .incompatible := eq_error_of (by decide +kernel)

/-- non-vacuity of `write_implies_compatible`: a destination that fails at byte offset 10 (after a partial write), the header
    written in pieces of 3, 1 and 50 bytes: Encrypt wrote ten bytes before failing -/
theorem write_implies_compatible_nonvacuous :
    (encryptInit Prims.toy (List.replicate 100 7) [Recipient.x25519 (List.replicate 32 0)] [3, 1, 50]
      ({ acc := [], st := false } : Dst (DstSpec.atOffset 10 true true))).2.acc ≠
    ({ acc := [], st := false } : Dst (DstSpec.atOffset 10 true true)).acc := by
  decide +kernel

/-- non-vacuity of `encrypt_ok_labels_equal`: recipients A and B (the same labels in a different order) are accepted together -/
theorem encrypt_ok_labels_equal_nonvacuous :
    ∃ st, encryptHeader Prims.toy (List.replicate 100 7)
      [Recipient.custom (fun fk => some [{ type := [88], args := [], body := fk }]) (some [[97], [98]]),
       Recipient.custom (fun fk => some [{ type := [89], args := [[90]], body := fk ++ fk }]) (some [[98], [97]])] =
      .ok (List.replicate 16 7, st, List.replicate 84 7) := ⟨_, rfl⟩

/-- … and with recipients that DO draw from the tape: two passphrase recipients on the constant tape 7,7,7,… are accepted
    (the first runs on the tape from byte 16, the second from byte 16 + 32; both label draws are sixteen 7s) … -/
example : ∃ st, encryptHeader Prims.toy (List.replicate 100 7) [Recipient.scrypt [112] 10, Recipient.scrypt [113] 12] =
    .ok (List.replicate 16 7, st, List.replicate 20 7) := Props.C10.two_scrypt_need_equal_labels_nonvacuous

/-- … the conclusion there, for the second recipient (`pre` = the first one, 32 bytes): it wrapped on the tape from byte 48 -/
example : ∃ l0 ss l t1, wrapOne Prims.toy (Recipient.scrypt [113] 12) (List.replicate 16 7)
    ((List.replicate 100 7 : Bytes).drop (16 + 32)) = .ok (some (ss, l), t1) ∧ sortLabels l = l0 := by
  obtain ⟨st, hh⟩ := Props.C10.two_scrypt_need_equal_labels_nonvacuous
  obtain ⟨l0, h⟩ := encrypt_ok_labels_equal Prims.toy (List.replicate 100 7)
    [Recipient.scrypt [112] 10, Recipient.scrypt [113] 12] _ st _ hh
  obtain ⟨ss, l, t1, hw, hl⟩ := h [Recipient.scrypt [112] 10] (Recipient.scrypt [113] 12) [] rfl
  exact ⟨l0, ss, l, t1, hw, hl⟩

/-- non-vacuity of `custom_loop_iff`: the list B, A consists of custom recipients (and both sides of the equivalence hold
    for it against the sorted labels `a, b`: second conjunct) -/
theorem custom_loop_iff_nonvacuous :
    (∀ r ∈ [Recipient.custom (fun fk => some [{ type := [89], args := [[90]], body := fk ++ fk }]) (some [[98], [97]]),
            Recipient.custom (fun fk => some [{ type := [88], args := [], body := fk }]) (some [[97], [98]])],
        ∃ w lbl, r = Recipient.custom w lbl) ∧
    customOK (List.replicate 16 7) [[97], [98]]
      [Recipient.custom (fun fk => some [{ type := [89], args := [[90]], body := fk ++ fk }]) (some [[98], [97]]),
       Recipient.custom (fun fk => some [{ type := [88], args := [], body := fk }]) (some [[97], [98]])] := by
  refine ⟨?_, ⟨rfl, rfl, rfl, rfl, trivial⟩⟩
  intro r hr
  simp only [List.mem_cons, List.not_mem_nil, or_false] at hr
  rcases hr with rfl | rfl <;> exact ⟨_, _, rfl⟩

/-- non-vacuity of `encrypt_ok_iff_labels_equal`: first recipient A, then the list B, A; a 100-byte tape -/
theorem encrypt_ok_iff_labels_equal_nonvacuous :
    (∀ r ∈ [Recipient.custom (fun fk => some [{ type := [89], args := [[90]], body := fk ++ fk }]) (some [[98], [97]]),
            Recipient.custom (fun fk => some [{ type := [88], args := [], body := fk }]) (some [[97], [98]])],
        ∃ w lbl, r = Recipient.custom w lbl) ∧
    16 ≤ (List.replicate 100 7 : Bytes).length :=
  ⟨custom_loop_iff_nonvacuous.1, by decide⟩

/-- … where both sides of the equivalence hold; with a label-less recipient in the list instead, both fail -/
example : ∃ fk st t, encryptHeader Prims.toy (List.replicate 100 7)
    (Recipient.custom (fun fk => some [{ type := [88], args := [], body := fk }]) (some [[97], [98]]) ::
      [Recipient.custom (fun fk => some [{ type := [89], args := [[90]], body := fk ++ fk }]) (some [[98], [97]]),
       Recipient.custom (fun fk => some [{ type := [88], args := [], body := fk }]) (some [[97], [98]])]) = .ok (fk, st, t) :=
  (encrypt_ok_iff_labels_equal Prims.toy _ _ _ _ encrypt_ok_iff_labels_equal_nonvacuous.1 encrypt_ok_iff_labels_equal_nonvacuous.2).mpr
    ⟨rfl, custom_loop_iff_nonvacuous.2⟩
example : encryptHeader Prims.toy (List.replicate 100 7)
    [Recipient.custom (fun fk => some [{ type := [88], args := [], body := fk }]) (some [[97], [98]]),
     Recipient.custom (fun _ => some []) none] = .error .incompatible := eq_error_of (by decide +kernel)

/-- non-vacuity of `recipient_order_irrelevant`: A, B and B, A -/
theorem recipient_order_irrelevant_nonvacuous :
    [Recipient.custom (fun fk => some [{ type := [88], args := [], body := fk }]) (some [[97], [98]]),
     Recipient.custom (fun fk => some [{ type := [89], args := [[90]], body := fk ++ fk }]) (some [[98], [97]])].Perm
    [Recipient.custom (fun fk => some [{ type := [89], args := [[90]], body := fk ++ fk }]) (some [[98], [97]]),
     Recipient.custom (fun fk => some [{ type := [88], args := [], body := fk }]) (some [[97], [98]])] := List.Perm.swap _ _ _

end Props.C11
end AgeModel
