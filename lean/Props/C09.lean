/-
  C09 — key strings round-trip, are canonical, and typos are rejected.
  Property theorems only (helper lemmas live in Proofs/Bech32*.lean).

  Strings are byte lists; AgeModel/Bech32.lean explains why that is exact for
  the code as it is now (the rune loop at the top of `bech32.Decode`).
-/
import Proofs.Bech32Keys
import Proofs.Bech32Distance
import Proofs.Bech32Typo
namespace AgeModel
namespace Props.C09
open Bech32 Keys

/-! ## round trips: what the library prints parses back to the same key -/

theorem x25519_recipient_roundtrip (k : Bytes) (hk : k.length = 32) :
    parseX25519Recipient (recipientString k) = .ok k :=
  parseNative_roundtrip validHrp_age k hk

example : parseX25519Recipient (recipientString (List.replicate 32 0x42)) = .ok (List.replicate 32 0x42) :=
  x25519_recipient_roundtrip _ (by decide)

theorem x25519_identity_roundtrip (k : Bytes) (hk : k.length = 32) :
    parseX25519Identity (identityString k) = .ok k := by
  rw [identityString_eq]
  exact parseNative_roundtrip validHrp_secret k hk

/-- every valid name, every payload; the name comes back lower-cased -/
theorem plugin_recipient_roundtrip (name data : Bytes) (hv : validPluginName name = true) :
    parseRecipient (encodeRecipient name data) = .ok (toLower name, data) := by
  simp only [encodeRecipient, parseRecipient, hv, decode_encodeOrEmpty (validHrp_recipient hv), hasPrefix_append,
    trimPrefix_append, valid_toLower hv, Bool.not_true, Bool.false_eq_true, if_false]

theorem plugin_identity_roundtrip (name data : Bytes) (hv : validPluginName name = true) :
    parseIdentity (encodeIdentity name data) = .ok (toLower name, data) := by
  simp only [encodeIdentity, parseIdentity, hv, decode_encodeOrEmpty (validHrp_identity hv), hasPrefix_identityHrp,
    hasSuffix_append, trim_identityHrp, toLower_toUpper, valid_toLower hv, Bool.not_true, Bool.or_self,
    Bool.false_eq_true, if_false]

/-! ## canonicity: whatever parses re-encodes to itself -/

theorem parse_canonical (s : Bytes) :
    (∀ k, parseX25519Recipient s = .ok k → recipientString k = s) ∧
    (∀ k, parseX25519Identity s = .ok k → identityString k = s) ∧
    (∀ name data, parseRecipient s = .ok (name, data) → encodeRecipient name data = s) ∧
    (∀ name data, parseIdentity s = .ok (name, data) → encodeIdentity name data = s) := by
  refine ⟨?_, ?_, ?_, ?_⟩
  · intro k h
    exact printed_of_lower (parseX25519Recipient_ok h).1 (c := 0x61) (by decide) (by decide)
  · intro k h
    obtain ⟨hd, _⟩ := parseX25519Identity_ok h
    rw [identityString_eq]
    exact printed_of_upper hd hrpSecret_upper
  · intro name data h
    obtain ⟨hd, hv⟩ := parseRecipient_ok h
    have hn : toLower name = name := by
      obtain ⟨D, _, d1, _⟩ := decode_ok hd
      have hl := decoded_lower hd (c := 0x61) (by simp [pfxAge1]) (by decide)
      rw [d1] at hl
      exact lower_right (lower_left hl)
    simp only [encodeRecipient, hv, Bool.not_true, Bool.false_eq_true, if_false, hn]
    exact printed_of_lower hd (c := 0x61) (by simp [pfxAge1]) (by decide)
  · intro name data h
    obtain ⟨X, hd, hn, hv⟩ := parseIdentity_ok h
    have hX : toUpper X = X := by
      obtain ⟨D, _, d1, _⟩ := decode_ok hd
      have hu := decoded_upper hd (c := 0x41) (by simp [pfxPlugin]) (by decide)
      rw [d1] at hu
      exact upper_right (upper_left (upper_left hu))
    subst hn
    simp only [encodeIdentity, hv, Bool.not_true, Bool.false_eq_true, if_false, toUpper_toLower, hX]
    exact printed_of_upper hd (identityHrp_upper X)

/-- so every key (and every plugin name/payload pair) has exactly one accepted spelling -/
theorem unique_spelling (s s' : Bytes) :
    (∀ k, parseX25519Recipient s = .ok k → parseX25519Recipient s' = .ok k → s = s') ∧
    (∀ k, parseX25519Identity s = .ok k → parseX25519Identity s' = .ok k → s = s') ∧
    (∀ r, parseRecipient s = .ok r → parseRecipient s' = .ok r → s = s') ∧
    (∀ r, parseIdentity s = .ok r → parseIdentity s' = .ok r → s = s') := by
  obtain ⟨a1, a2, a3, a4⟩ := parse_canonical s
  obtain ⟨b1, b2, b3, b4⟩ := parse_canonical s'
  refine ⟨fun k h h' => ?_, fun k h h' => ?_, fun r h h' => ?_, fun r h h' => ?_⟩
  · rw [← a1 k h, ← b1 k h']
  · rw [← a2 k h, ← b2 k h']
  · rw [← a3 r.1 r.2 h, ← b3 r.1 r.2 h']
  · rw [← a4 r.1 r.2 h, ← b4 r.1 r.2 h']

/-- Remark (not a violation): canonicity is a property of the *key formats*, whose prefixes contain
    letters and so fix the case of the whole string.  `bech32.Decode`/`Encode` alone are not canonical for
    an HRP without letters: "2142KK52" and "2142kk52" both decode to ("2", "") — `Decode` cannot tell
    from the HRP which case the string had, `Encode` always answers in lower case.
    (`encode_decode` in Proofs/Bech32Codec.lean carries exactly this side condition.) -/
example : decode [50, 49, 52, 50, 75, 75, 53, 50] = .ok ([50], []) ∧ decode [50, 49, 52, 50, 107, 107, 53, 50] = .ok ([50], []) ∧
    encode [50] [] = .ok [50, 49, 52, 50, 107, 107, 53, 50] := by decide +kernel

/-! ## rejections

  `RejectedWith s P` (Proofs/Bech32Keys.lean): all four parsers and the two string
  constructors of plugin/client.go reject `s` with one Bech32 error class `e` satisfying `P e`.
  `Assembled H d5 cs`: `cs` is the data part (characters) for the symbols `d5` followed by
  their valid checksum under the lower-case, well-formed HRP `H`. -/

/-- any byte outside printable ASCII (hence any non-ASCII rune, any invalid
    UTF-8, any control character or space) anywhere in the string -/
theorem reject_non_ascii (s : Bytes) (h : ∃ c ∈ s, c < 33 ∨ c > 126) : RejectedWith s (· = .badChar) := by
  refine rejected_of_decode ?_ rfl
  obtain ⟨c, hc, hr⟩ := h
  have : hasBadByte s = true := by
    simp only [hasBadByte, List.any_eq_true]
    exact ⟨c, hc, by simp only [badByte, Bool.or_eq_true, decide_eq_true_eq]; exact hr⟩
  simp only [decode, this, if_true]

example : RejectedWith [0x61, 0x67, 0x65, 0x31, 0xe2, 0x84, 0xaa] (· = .badChar) :=
  reject_non_ascii _ ⟨0xe2, by decide, by decide⟩

/-- an upper-case and a lower-case letter in the same string -/
theorem reject_mixed_case (s : Bytes) (hU : ∃ c ∈ s, 0x41 ≤ c ∧ c ≤ 0x5a) (hL : ∃ c ∈ s, 0x61 ≤ c ∧ c ≤ 0x7a) :
    RejectedWith s (fun e => e = .badChar ∨ e = .mixedCase) := by
  obtain ⟨cu, hcu, hu⟩ := hU
  obtain ⟨cl, hcl, hl⟩ := hL
  have h1 : toLower s ≠ s := fun h => by
    have := map_eq_self h cu hcu
    rcases lowerByte_cases cu with ⟨_, _, e⟩ | ⟨hn, _⟩
    · rw [this] at e; omega
    · exact hn ⟨UInt8.le_iff_toNat_le.mp hu.1, UInt8.le_iff_toNat_le.mp hu.2⟩
  have h2 : toUpper s ≠ s := fun h => by
    have := map_eq_self h cl hcl
    rcases upperByte_cases cl with ⟨_, _, e⟩ | ⟨hn, _⟩
    · rw [this] at e; omega
    · exact hn ⟨UInt8.le_iff_toNat_le.mp hl.1, UInt8.le_iff_toNat_le.mp hl.2⟩
  by_cases hb : hasBadByte s = true
  · exact rejected_of_decode (by simp only [decode, hb, if_true]) (Or.inl rfl)
  · refine rejected_of_decode ?_ (Or.inr rfl)
    simp only [decode, hb, Bool.false_eq_true, if_false]
    rw [if_pos ⟨h1, h2⟩]

example : RejectedWith [0x61, 0x67, 0x65, 0x31, 0x51] (fun e => e = .badChar ∨ e = .mixedCase) :=
  reject_mixed_case _ ⟨0x51, by decide, by decide⟩ ⟨0x61, by decide, by decide⟩

/-- a string that does not start with the exact prefix of its kind is rejected -/
theorem reject_wrong_prefix (s : Bytes) :
    (hasPrefix s pfxAge1 = false → ∃ e, parseX25519Recipient s = .error e) ∧
    (hasPrefix s pfxSecret1 = false → ∃ e, parseX25519Identity s = .error e) ∧
    (hasPrefix s pfxAge1 = false → ∃ e, parseRecipient s = .error e) ∧
    (hasPrefix s pfxPlugin = false → ∃ e, parseIdentity s = .error e) := by
  refine ⟨fun hp => ?_, fun hp => ?_, fun hp => ?_, fun hp => ?_⟩
  · exact error_of_not_ok _ fun k h =>
      Bool.false_ne_true (hp.symm.trans (hasPrefix_of_decode (parseX25519Recipient_ok h).1 ⟨[], rfl⟩))
  · exact error_of_not_ok _ fun k h =>
      Bool.false_ne_true (hp.symm.trans (hasPrefix_of_decode (parseX25519Identity_ok h).1 ⟨[], rfl⟩))
  · exact error_of_not_ok _ fun r h =>
      Bool.false_ne_true (hp.symm.trans (hasPrefix_of_decode (parseRecipient_ok (name := r.1) (data := r.2) h).1
        ⟨_, List.append_assoc _ _ _⟩))
  · refine error_of_not_ok _ fun r h => ?_
    obtain ⟨X, hd, _⟩ := parseIdentity_ok (name := r.1) (data := r.2) h
    exact Bool.false_ne_true
      (hp.symm.trans (hasPrefix_of_decode hd ⟨X ++ dash ++ [0x31], by simp only [List.append_assoc]⟩))

/-- a native string is accepted only at its one length (62 / 74 characters), and only
    if the payload is 32 bytes -/
theorem reject_wrong_length (s : Bytes) :
    (s.length ≠ 62 → ∃ e, parseX25519Recipient s = .error e) ∧
    (s.length ≠ 74 → ∃ e, parseX25519Identity s = .error e) ∧
    (∀ data, decode s = .ok (hrpAge, data) → data.length ≠ 32 → parseX25519Recipient s = .error .badLength) ∧
    (∀ data, decode s = .ok (hrpSecret, data) → data.length ≠ 32 → parseX25519Identity s = .error .badLength) := by
  refine ⟨fun hl => ?_, fun hl => ?_, fun data hd hl => ?_, fun data hd hl => ?_⟩
  · exact error_of_not_ok _ fun k h => hl (parseNative_length (H := hrpAge) h)
  · exact error_of_not_ok _ fun k h => hl (parseNative_length (H := hrpSecret) h)
  · exact parseNative_badLength hd hl
  · exact parseNative_badLength hd hl

/-- whenever a string is accepted, the bits of its data symbols are the payload
    bytes followed by fewer than five bits, all zero -/
theorem accepted_padding (s hrp data : Bytes) (h : decode s = .ok (hrp, data)) :
    ∃ D d5 k, s = hrp ++ 0x31 :: D ∧ mapOpt charsetIdx (toLower D) = some (d5 ++ createChecksum hrp d5) ∧
      k < 5 ∧ flatBits 5 d5 = flatBits 8 data ++ List.replicate k false := by
  obtain ⟨D, d5, d1, _, _, d7, d8, _⟩ := decode_ok h
  obtain ⟨_, k, hk, hb⟩ := (convertBits_5_8_iff d5 data).mp d8
  exact ⟨D, d5, k, d1, d7, hk, hb⟩

/-- non-zero padding: a data part whose symbol count leaves `r < 5` surplus
    bits, not all zero, is rejected even though its checksum is valid -/
theorem reject_nonzero_padding (H d5 cs : Bytes) (h : Assembled H d5 cs) (hr : 5 * d5.length % 8 < 5)
    (hnz : (flatBits 5 d5).drop (5 * d5.length - 5 * d5.length % 8) ≠ List.replicate (5 * d5.length % 8) false) :
    RejectedWith (H ++ 0x31 :: cs) (· = .badPaddingNonZero) := by
  refine rejected_of_decode ?_ rfl
  rw [decode_of_assembled h, (convertBits_5_8_cases d5 h.2.2.2.1).2 hr hnz]

/-- the hypotheses of `reject_nonzero_padding` are satisfiable: HRP "age", 51 zero symbols and a final
    symbol 1 (52 symbols = 32 bytes + 4 padding bits `0001`) -/
example : ∃ cs, Assembled hrpAge (List.replicate 51 0 ++ [1]) cs ∧ 5 * (List.replicate 51 (0 : UInt8) ++ [1]).length % 8 < 5 ∧
    (flatBits 5 (List.replicate 51 0 ++ [1])).drop (5 * (List.replicate 51 (0 : UInt8) ++ [1]).length -
      5 * (List.replicate 51 (0 : UInt8) ++ [1]).length % 8) ≠
      List.replicate (5 * (List.replicate 51 (0 : UInt8) ++ [1]).length % 8) false := by
  have hlt : ∀ x ∈ List.replicate 51 (0 : UInt8) ++ [1], x.toNat < 32 := by decide +kernel
  obtain ⟨cs, c1, _⟩ := chars_of_syms _ (syms_checksum_lt hlt hrpAge)
  exact ⟨cs, ⟨validHrp_age.1, validHrp_age.2.1, by decide, hlt, c1⟩, by decide, by decide +kernel⟩

/-- surplus padding: five or more left-over bits (a whole unnecessary symbol) -/
theorem reject_surplus_padding (H d5 cs : Bytes) (h : Assembled H d5 cs) (hr : 5 * d5.length % 8 ≥ 5) :
    RejectedWith (H ++ 0x31 :: cs) (· = .badPaddingIllegal) := by
  refine rejected_of_decode ?_ rfl
  rw [decode_of_assembled h, (convertBits_5_8_cases d5 h.2.2.2.1).1 hr]

/-! ## convertBits -/

theorem convertBits_inverse :
    (∀ data out, convertBits data 8 5 true = .ok out → convertBits out 5 8 false = .ok data) ∧
    (∀ d5 bytes, convertBits d5 5 8 false = .ok bytes → convertBits bytes 8 5 true = .ok d5) ∧
    (∀ data, ∃ out, convertBits data 8 5 true = .ok out) := by
  refine ⟨convertBits_8_5_8, convertBits_5_8_5, fun data => ?_⟩
  obtain ⟨out, _, h, _⟩ := convertBits_8_5 data
  exact ⟨out, h⟩

/-! ## the checksum -/

/-- `polymod` is XOR-linear: running the update loop from state `a ^^^ b` over the
    symbol-wise XOR of two equally long strings gives the XOR of the two runs -/
theorem polymod_xor_linear (x y : Bytes) (a b : Nat) (hl : x.length = y.length) (ha : a < 2 ^ 30) (hb : b < 2 ^ 30) :
    (xorBytes x y).foldl polymodStep (a ^^^ b) = x.foldl polymodStep a ^^^ y.foldl polymodStep b :=
  foldl_polymodStep_xor x y a b hl

/-! ## typos

  `hamming a b` counts the positions at which two strings differ; a string with
  "up to W characters replaced" is one of the same length with `1 ≤ hamming ≤ W`
  (for equal lengths `hamming = 0` iff the strings are equal).
  `NoLowWeight W` (Proofs/Bech32Typo.lean): no non-zero error pattern of weight
  ≤ W over 5-bit symbols within the 58 data characters of a native string has
  zero syndrome.  Substitutions that touch the prefix or the separator are
  rejected by the exact-HRP test and need no coding theory: the proof of
  `decode_distance` only ever compares two strings that both decoded with the
  same HRP. -/

/-- the Bech32 code fact for the length of native age strings: no non-zero error pattern of
    weight ≤ 4 within 58 symbols has zero syndrome.  Entirely by kernel computation
    (`decide +kernel`, no `native_decide`): Proofs/Bech32Sweep.lean with the GF(32)-linearity of
    Proofs/Bech32Scalar.lean, assembled in Proofs/Bech32Distance.lean. -/
theorem no_low_weight_codeword : NoLowWeight 4 := noLowWeight4

/-- a native recipient or identity string in which up to four characters have been
    replaced is never accepted (for every 32-byte key, every such string) -/
theorem typo_rejected (k s' : Bytes) (hk : k.length = 32) :
    (s'.length = (recipientString k).length → s' ≠ recipientString k → hamming (recipientString k) s' ≤ 4 →
      ∃ e, parseX25519Recipient s' = .error e) ∧
    (s'.length = (identityString k).length → s' ≠ identityString k → hamming (identityString k) s' ≤ 4 →
      ∃ e, parseX25519Identity s' = .error e) :=
  ⟨fun hl hne hd => recipient_typo 4 no_low_weight_codeword k s' hk hl hne hd,
   fun hl hne hd => identity_typo 4 no_low_weight_codeword k s' hk hl hne hd⟩

/-- the hypotheses are satisfiable: "age1gfpyysjz…pqxkm8f4" (the key 0x42…42) with characters 10, 20, 30
    and 40 replaced by `q` -/
example : ∃ s', s'.length = (recipientString (List.replicate 32 0x42)).length ∧
    s' ≠ recipientString (List.replicate 32 0x42) ∧ hamming (recipientString (List.replicate 32 0x42)) s' = 4 :=
  ⟨[97, 103, 101, 49, 103, 102, 112, 121, 121, 115, 113, 122, 103, 102, 112, 121, 121, 115, 106, 122, 113, 102, 112,
    121, 121, 115, 106, 122, 103, 102, 113, 121, 121, 115, 106, 122, 103, 102, 112, 121, 113, 115, 106, 122, 103, 102,
    112, 121, 121, 115, 106, 122, 103, 102, 112, 113, 120, 107, 109, 56, 102, 52], by decide +kernel⟩

/-! ## non-vacuity

  For every theorem above that has hypotheses — or whose conjuncts are implications — concrete values
  that meet all of them at once (the two whose hypotheses an `example` above already instantiates
  completely, `reject_non_ascii` and `reject_mixed_case`, and `reject_nonzero_padding`, are not
  repeated).  The key is 0x42…42 (32 bytes), whose strings are
  "age1gfpyysjz…gfpqxkm8f4" (62 characters) and "AGE-SECRET-KEY-1GFPYYSJZ…GFPQ4EGAEX" (74 characters);
  the plugin name is "Yubi" (mixed case, so that the lower-casing of the round trip is visible). -/

/-- non-vacuity of `x25519_identity_roundtrip` (and once more of `x25519_recipient_roundtrip`): the key
    0x42…42 has 32 bytes; its identity string is the 74 characters spelled out here -/
theorem x25519_identity_roundtrip_nonvacuous :
    (List.replicate 32 (0x42 : UInt8)).length = 32 ∧
    identityString (List.replicate 32 0x42) =
      [65, 71, 69, 45, 83, 69, 67, 82, 69, 84, 45, 75, 69, 89, 45, 49, 71, 70, 80, 89, 89, 83, 74, 90, 71, 70, 80, 89,
       89, 83, 74, 90, 71, 70, 80, 89, 89, 83, 74, 90, 71, 70, 80, 89, 89, 83, 74, 90, 71, 70, 80, 89, 89, 83, 74, 90,
       71, 70, 80, 89, 89, 83, 74, 90, 71, 70, 80, 81, 52, 69, 71, 65, 69, 88] := by decide +kernel

example : parseX25519Identity (identityString (List.replicate 32 0x42)) = .ok (List.replicate 32 0x42) :=
  x25519_identity_roundtrip _ x25519_identity_roundtrip_nonvacuous.1

/-- non-vacuity of `plugin_recipient_roundtrip` and `plugin_identity_roundtrip` (same hypothesis): the name
    "Yubi" is valid, and with the payload 01 02 03 neither encoder falls back to the empty string:
    "age1yubi1qypqxy5utrs" and "AGE-PLUGIN-YUBI-1QYPQXPQSYGH" -/
theorem plugin_recipient_roundtrip_nonvacuous :
    validPluginName [0x59, 0x75, 0x62, 0x69] = true ∧
    encodeRecipient [0x59, 0x75, 0x62, 0x69] [1, 2, 3] =
      [97, 103, 101, 49, 121, 117, 98, 105, 49, 113, 121, 112, 113, 120, 121, 53, 117, 116, 114, 115] ∧
    encodeIdentity [0x59, 0x75, 0x62, 0x69] [1, 2, 3] =
      [65, 71, 69, 45, 80, 76, 85, 71, 73, 78, 45, 89, 85, 66, 73, 45, 49, 81, 89, 80, 81, 88, 80, 81, 83, 89, 71,
       72] := by decide +kernel

/-- non-vacuity of `plugin_identity_roundtrip`: the witness of `plugin_recipient_roundtrip_nonvacuous` -/
theorem plugin_identity_roundtrip_nonvacuous : validPluginName [0x59, 0x75, 0x62, 0x69] = true :=
  plugin_recipient_roundtrip_nonvacuous.1

/-- non-vacuity of `parse_canonical`: each of its four premises holds for some string (necessarily four
    different strings: the prefixes exclude one another) — the two native strings of 0x42…42 and the two
    plugin strings of "yubi" / 01 02 03 -/
theorem parse_canonical_nonvacuous :
    parseX25519Recipient (recipientString (List.replicate 32 0x42)) = .ok (List.replicate 32 0x42) ∧
    parseX25519Identity (identityString (List.replicate 32 0x42)) = .ok (List.replicate 32 0x42) ∧
    parseRecipient [97, 103, 101, 49, 121, 117, 98, 105, 49, 113, 121, 112, 113, 120, 121, 53, 117, 116, 114, 115] =
      .ok ([0x79, 0x75, 0x62, 0x69], [1, 2, 3]) ∧
    parseIdentity [65, 71, 69, 45, 80, 76, 85, 71, 73, 78, 45, 89, 85, 66, 73, 45, 49, 81, 89, 80, 81, 88, 80, 81, 83,
      89, 71, 72] = .ok ([0x79, 0x75, 0x62, 0x69], [1, 2, 3]) :=
  ⟨x25519_recipient_roundtrip _ (by decide), x25519_identity_roundtrip _ (by decide),
   plugin_recipient_roundtrip_nonvacuous.2.1 ▸ plugin_recipient_roundtrip _ [1, 2, 3] plugin_recipient_roundtrip_nonvacuous.1,
   plugin_recipient_roundtrip_nonvacuous.2.2 ▸ plugin_identity_roundtrip _ [1, 2, 3] plugin_identity_roundtrip_nonvacuous⟩

/-- both round trips at the witness: the name comes back as "yubi" -/
example :
    parseRecipient [97, 103, 101, 49, 121, 117, 98, 105, 49, 113, 121, 112, 113, 120, 121, 53, 117, 116, 114, 115] =
      .ok ([0x79, 0x75, 0x62, 0x69], [1, 2, 3]) ∧
    parseIdentity [65, 71, 69, 45, 80, 76, 85, 71, 73, 78, 45, 89, 85, 66, 73, 45, 49, 81, 89, 80, 81, 88, 80, 81, 83,
      89, 71, 72] = .ok ([0x79, 0x75, 0x62, 0x69], [1, 2, 3]) :=
  ⟨parse_canonical_nonvacuous.2.2.1, parse_canonical_nonvacuous.2.2.2⟩

/-- and its conclusion there: re-encoding the parsed name and payload gives the string back -/
example : encodeIdentity [0x79, 0x75, 0x62, 0x69] [1, 2, 3] =
    [65, 71, 69, 45, 80, 76, 85, 71, 73, 78, 45, 89, 85, 66, 73, 45, 49, 81, 89, 80, 81, 88, 80, 81, 83, 89, 71, 72] :=
  (parse_canonical _).2.2.2 _ _ parse_canonical_nonvacuous.2.2.2

/-- non-vacuity of `unique_spelling`: the premises of each conjunct hold with `s' = s` at the strings of
    `parse_canonical_nonvacuous` — and, by the theorem itself, only with `s' = s` -/
theorem unique_spelling_nonvacuous :
    (∃ s s' k, parseX25519Recipient s = .ok k ∧ parseX25519Recipient s' = .ok k) ∧
    (∃ s s' k, parseX25519Identity s = .ok k ∧ parseX25519Identity s' = .ok k) ∧
    (∃ s s' r, parseRecipient s = .ok r ∧ parseRecipient s' = .ok r) ∧
    (∃ s s' r, parseIdentity s = .ok r ∧ parseIdentity s' = .ok r) :=
  ⟨⟨_, _, _, parse_canonical_nonvacuous.1, parse_canonical_nonvacuous.1⟩,
   ⟨_, _, _, parse_canonical_nonvacuous.2.1, parse_canonical_nonvacuous.2.1⟩,
   ⟨_, _, _, parse_canonical_nonvacuous.2.2.1, parse_canonical_nonvacuous.2.2.1⟩,
   ⟨_, _, _, parse_canonical_nonvacuous.2.2.2, parse_canonical_nonvacuous.2.2.2⟩⟩

/-- non-vacuity of `reject_wrong_prefix`: "bge1gfpyysjz…pq9wvy62", a *valid* Bech32 string (HRP "bge", payload
    0x42…42) that starts with none of the three prefixes — so all four parsers refuse it for its prefix alone -/
theorem reject_wrong_prefix_nonvacuous :
    ∃ s, hasPrefix s pfxAge1 = false ∧ hasPrefix s pfxSecret1 = false ∧ hasPrefix s pfxPlugin = false ∧
      decode s = .ok ([0x62, 0x67, 0x65], List.replicate 32 0x42) :=
  ⟨[98, 103, 101, 49, 103, 102, 112, 121, 121, 115, 106, 122, 103, 102, 112, 121, 121, 115, 106, 122, 103, 102, 112,
    121, 121, 115, 106, 122, 103, 102, 112, 121, 121, 115, 106, 122, 103, 102, 112, 121, 121, 115, 106, 122, 103, 102,
    112, 121, 121, 115, 106, 122, 103, 102, 112, 113, 57, 119, 118, 121, 54, 50], by decide +kernel⟩

/-- non-vacuity of `reject_wrong_length`: the strings of the 31-byte payload 0x42…42 under the two native HRPs
    ("age1gfpyysjz…gg7enat4", 60 characters, and "AGE-SECRET-KEY-1GFPYYSJZ…GGEGVYQK", 72) decode, with the
    right HRP, to 31 bytes — all four premises, the rejection being for the length alone -/
theorem reject_wrong_length_nonvacuous :
    ∃ s t, s.length ≠ 62 ∧ t.length ≠ 74 ∧
      decode s = .ok (hrpAge, List.replicate 31 0x42) ∧ decode t = .ok (hrpSecret, List.replicate 31 0x42) ∧
      (List.replicate 31 (0x42 : UInt8)).length ≠ 32 :=
  ⟨[97, 103, 101, 49, 103, 102, 112, 121, 121, 115, 106, 122, 103, 102, 112, 121, 121, 115, 106, 122, 103, 102, 112,
    121, 121, 115, 106, 122, 103, 102, 112, 121, 121, 115, 106, 122, 103, 102, 112, 121, 121, 115, 106, 122, 103, 102,
    112, 121, 121, 115, 106, 122, 103, 103, 55, 101, 110, 97, 116, 52],
   [65, 71, 69, 45, 83, 69, 67, 82, 69, 84, 45, 75, 69, 89, 45, 49, 71, 70, 80, 89, 89, 83, 74, 90, 71, 70, 80, 89, 89,
    83, 74, 90, 71, 70, 80, 89, 89, 83, 74, 90, 71, 70, 80, 89, 89, 83, 74, 90, 71, 70, 80, 89, 89, 83, 74, 90, 71, 70,
    80, 89, 89, 83, 74, 90, 71, 71, 69, 71, 86, 89, 81, 75], by decide +kernel⟩

/-- non-vacuity of `accepted_padding`: the recipient string of 0x42…42 decodes (52 data symbols = 32 bytes and
    four zero bits) -/
theorem accepted_padding_nonvacuous :
    decode (recipientString (List.replicate 32 0x42)) = .ok (hrpAge, List.replicate 32 0x42) := by
  obtain ⟨s, _, h2, h3⟩ := decode_recipientString (List.replicate 32 0x42)
  rw [h2]; exact h3

/-- non-vacuity of `reject_surplus_padding`: HRP "age" and 54 zero symbols (270 bits = 33 bytes and six
    surplus bits) with their checksum "y6p66v" -/
theorem reject_surplus_padding_nonvacuous :
    Assembled hrpAge (List.replicate 54 0) (List.replicate 54 0x71 ++ [121, 54, 112, 54, 54, 118]) ∧
    5 * (List.replicate 54 (0 : UInt8)).length % 8 ≥ 5 := by
  unfold Assembled
  decide +kernel

example : RejectedWith (hrpAge ++ 0x31 :: (List.replicate 54 0x71 ++ [121, 54, 112, 54, 54, 118]))
    (· = .badPaddingIllegal) :=
  reject_surplus_padding _ _ _ reject_surplus_padding_nonvacuous.1 reject_surplus_padding_nonvacuous.2

/-- non-vacuity of `convertBits_inverse`: the premises of its first two conjuncts, at the bytes ff 01 80 and the
    symbols 31 28 0 24 0 (three bytes = four symbols and four bits of a fifth) -/
theorem convertBits_inverse_nonvacuous :
    convertBits [0xff, 0x01, 0x80] 8 5 true = .ok [31, 28, 0, 24, 0] ∧
    convertBits [31, 28, 0, 24, 0] 5 8 false = .ok [0xff, 0x01, 0x80] := by decide +kernel

/-- non-vacuity of `polymod_xor_linear`: two three-symbol strings, the states 1 (the initial one) and
    0x3b6a57b2 (the first generator constant) -/
theorem polymod_xor_linear_nonvacuous :
    ([1, 2, 3] : Bytes).length = ([4, 5, 6] : Bytes).length ∧ 1 < 2 ^ 30 ∧ 0x3b6a57b2 < 2 ^ 30 := by decide

example : (xorBytes [1, 2, 3] [4, 5, 6]).foldl polymodStep (1 ^^^ 0x3b6a57b2) =
    ([1, 2, 3] : Bytes).foldl polymodStep 1 ^^^ ([4, 5, 6] : Bytes).foldl polymodStep 0x3b6a57b2 :=
  polymod_xor_linear _ _ _ _ polymod_xor_linear_nonvacuous.1 polymod_xor_linear_nonvacuous.2.1
    polymod_xor_linear_nonvacuous.2.2

/-- non-vacuity of `no_low_weight_codeword` (`NoLowWeight 4` is a chain of implications): an error pattern of
    full length 58 and weight exactly 4 meets every premise; its syndrome is 266911701 -/
theorem no_low_weight_codeword_nonvacuous :
    ([1, 0, 2] ++ List.replicate 50 0 ++ [3, 0, 0, 0, 4] : Bytes).length ≤ 58 ∧
    (∀ v ∈ ([1, 0, 2] ++ List.replicate 50 0 ++ [3, 0, 0, 0, 4] : Bytes), v.toNat < 32) ∧
    weight ([1, 0, 2] ++ List.replicate 50 0 ++ [3, 0, 0, 0, 4]) ≤ 4 ∧
    (∃ v ∈ ([1, 0, 2] ++ List.replicate 50 0 ++ [3, 0, 0, 0, 4] : Bytes), v ≠ 0) ∧
    weight ([1, 0, 2] ++ List.replicate 50 0 ++ [3, 0, 0, 0, 4]) = 4 ∧
    synSum ([1, 0, 2] ++ List.replicate 50 0 ++ [3, 0, 0, 0, 4]) = 266911701 := by decide +kernel

/-- non-vacuity of `typo_rejected`, identity half (the recipient half is the `example` above): the identity
    string of 0x42…42 with characters 20, 30, 40 and 50 replaced by `Q` -/
theorem typo_rejected_nonvacuous :
    (List.replicate 32 (0x42 : UInt8)).length = 32 ∧
    ∃ s', s'.length = (identityString (List.replicate 32 0x42)).length ∧
      s' ≠ identityString (List.replicate 32 0x42) ∧ hamming (identityString (List.replicate 32 0x42)) s' ≤ 4 ∧
      hamming (identityString (List.replicate 32 0x42)) s' = 4 :=
  ⟨by decide,
   [65, 71, 69, 45, 83, 69, 67, 82, 69, 84, 45, 75, 69, 89, 45, 49, 71, 70, 80, 89, 81, 83, 74, 90, 71, 70, 80, 89, 89,
    83, 81, 90, 71, 70, 80, 89, 89, 83, 74, 90, 81, 70, 80, 89, 89, 83, 74, 90, 71, 70, 81, 89, 89, 83, 74, 90, 71, 70,
    80, 89, 89, 83, 74, 90, 71, 70, 80, 81, 52, 69, 71, 65, 69, 88], by decide +kernel⟩

end Props.C09
end AgeModel
