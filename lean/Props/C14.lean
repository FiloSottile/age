/-
  C14 — hostile input produces errors, never panics or hangs.

  PARTIAL, by the nature of the technique. What a Lean model can carry, and what
  is proved here for ALL inputs:
    * every modelled parser / machine is a TOTAL function (Lean accepts no other),
      its fuel is provably sufficient (`fuel` is never an outcome), so the modelled
      logic returns on every input after a number of steps linear in its length;
    * every explicit `panic(...)` of the library (the list is regenerated from the
      source and pinned in Tie/C14) that lies in modelled code is an explicit
      `panic` outcome of the Impl machines and is unreachable;
    * a passphrase identity derives keys only within its configured maximum (C10);
    * armor failures carry the armor error class (C08); a rejected header leaves
      neither a header nor a payload (C07).
  What it cannot: a Go RUNTIME panic (index out of range, nil dereference) or a
  hang in code the model abstracts — encoding/base64, bufio, x/crypto's SSH key
  parsers, bcrypt-pbkdf. For that part the correspondence run is a mutation-based
  differential fuzz of every entry point under recover() and a watchdog: support
  for the tie, not a proof.
-/
import Proofs.Totality
import Props.C10
import Props.C08
import Props.C07
import Props.C12
import Proofs.ToyPrims
namespace AgeModel
namespace Props.C14
open Stream

/-- header parser: total, never out of fuel; failure leaves nothing behind (an
    `Except.error` carries neither header nor payload) -/
theorem header_parser_total (b : Bytes) :
    (∃ h rest, Format.parse b = .ok (h, rest)) ∨ (∃ e, Format.parse b = .error e ∧ e ≠ .fuel) := by
  cases hp : Format.parse b with
  | ok v => exact Or.inl ⟨v.1, v.2, rfl⟩
  | error e => exact Or.inr ⟨e, rfl, fun he => Format.parse_no_fuel b (by rw [hp, he])⟩

/-- STREAM reader (`stream.Reader.Read`): on every ciphertext shorter than 2^88 bytes,
    every source ending and every sequence of read sizes, the machine terminates
    with a proper outcome: never one of the explicit panics ("dirty buffer",
    "chunk counter wrapped around") and never out of fuel. -/
theorem stream_reader_never_panics (A : AEAD) (C L : Nat) (hE : 0 < C + A.T) (k c : Bytes) (srcFail : Bool)
    (hL : c.length < L) (sizes : List Nat) (hpos : ∀ s ∈ sizes, 0 < s)
    (hlong : (dec A C k srcFail 0 c).1.length + c.length + 1 < sizes.length) :
    ∃ r' out o, (Reader.new ⟨c, srcFail⟩).drain A C L k sizes = (r', out, some o) ∧ o ≠ .fuel ∧ ∀ n, o ≠ .panic n := by
  obtain ⟨r', hr⟩ := Props.C12.reader_refines_spec A C L hE k c srcFail hL sizes hpos hlong
  have := decFrom_outcome A C hE k srcFail (c.length + 1) 0 c (by omega)
  exact ⟨r', _, _, hr, this.1, this.2⟩

/-- STREAM writer: the only errors `Write`/`Close` can report are the destination's
    failure and — after at least (L-1)·C bytes, L = 2^88 — the counter limit; the
    "flush called with partial chunk" panic and fuel exhaustion are unreachable. -/
theorem stream_writer_never_panics {S : DstSpec} (A : AEAD) (C L : Nat) (hC : 0 < C) (k acc0 : Bytes)
    (w w' : Writer S) (pt p : Bytes) (n : Nat) (e : Outcome)
    (hinv : WInv A C k acc0 w pt) (h : w.write A C L k p = (w', n, some e)) :
    e = .dstErr ∨ (e = .panic 3 ∧ (L - 1) * C ≤ pt.length + p.length) :=
  (write_err A C L hC k acc0 w w' pt p n e hinv h).2.2

theorem stream_close_never_panics {S : DstSpec} (A : AEAD) (C L : Nat) (k acc0 : Bytes)
    (w w' : Writer S) (pt : Bytes) (e : Outcome)
    (hinv : WInv A C k acc0 w pt) (h : w.close A C L k = (w', some e)) :
    e = .dstErr ∨ (e = .panic 3 ∧ (L - 1) * C ≤ pt.length) :=
  (close_err A C L k acc0 w w' pt e hinv h).2

/-- a passphrase identity never performs more key-derivation work than its maximum allows -/
theorem kdf_work_bounded (P : Prims) (pw : Bytes) (maxWF : Nat) (ss : List Format.Stanza) :
    ∀ n ∈ ((Identity.scrypt pw maxWF).unwrapLog P ss).2, n ≤ maxWF :=
  Props.C10.kdf_cost_bounded P pw maxWF ss

/-- armor failures carry the armor error class -/
theorem armor_errors_typed (W : Nat) (fail : Bool) (t : Bytes) :
    (Armor.read W fail t).2 = .eof ∨ (Armor.read W fail t).2 = .err :=
  Props.C08.armor_errors_typed W fail t

/-- Decrypt as a whole: a total function of (identities, file bytes); every error
    result carries no reader -/
theorem decrypt_total (P : Prims) (ids : List Identity) (file : Bytes) :
    (∃ k payload c, decryptInit P ids file = (.ok (k, payload), c)) ∨ (∃ e c, decryptInit P ids file = (.error e, c)) := by
  cases h : decryptInit P ids file with
  | mk r c =>
    cases r with
    | ok v => exact Or.inl ⟨v.1, v.2, c, rfl⟩
    | error e => exact Or.inr ⟨e, c, rfl⟩

/-! ## Non-vacuity witnesses (toy AEAD with a 12-byte tag, chunk size 4) -/

/-- evaluation helpers: a pair / triple is its first component and the (decidable) rest -/
theorem nv_pair {α β : Type} (x : α × β) (b : β) (h : x.2 = b) : x = (x.1, b) := by
  cases x; cases h; rfl
theorem nv_triple {α β γ : Type} (x : α × β × γ) (b : β) (c : γ) (h1 : x.2.1 = b) (h2 : x.2.2 = c) : x = (x.1, b, c) := by
  obtain ⟨a, b', c'⟩ := x; cases h1; cases h2; rfl

/-- non-vacuity of `stream_reader_never_panics`, on hostile input: 40 bytes of garbage on a source ending in an
    error, and a genuine three-chunk payload with a byte of the second tag flipped and two bytes appended; 60 reads of
    3 bytes each -/
theorem stream_reader_never_panics_nonvacuous :
    let c₁ : Bytes := List.replicate 40 0x41
    let c₂ : Bytes := (encrypt AEAD.toy 4 [7, 7] [1, 2, 3, 4, 5, 6, 7, 8, 9]).set 30 0xFF ++ [0, 0]
    let sizes := List.replicate 60 3
    0 < 4 + AEAD.toy.T ∧ (∀ s ∈ sizes, 0 < s) ∧
    c₁.length < 2^88 ∧ (dec AEAD.toy 4 [7, 7] true 0 c₁).1.length + c₁.length + 1 < sizes.length ∧
    c₂.length < 2^88 ∧ (dec AEAD.toy 4 [7, 7] false 0 c₂).1.length + c₂.length + 1 < sizes.length ∧
    dec AEAD.toy 4 [7, 7] true 0 c₁ = ([], .authFail) ∧ dec AEAD.toy 4 [7, 7] false 0 c₂ = ([1, 2, 3, 4], .authFail) := by
  decide +kernel

/-- non-vacuity of `stream_writer_never_panics`, both disjuncts: (1) over a destination failing at byte offset 20, a
    writer that has accepted `[1,2,3]` reports `dstErr` on the next Write; (2) with the counter limit set to 2, a fresh
    writer over the perfect destination reports the counter-limit panic on a 9-byte Write -/
theorem stream_writer_never_panics_nonvacuous :
    let d : Dst (DstSpec.atOffset 20 true false) := { acc := [0xAA], st := false }
    let w := ((Writer.new d).write AEAD.toy 4 (2^88) [7, 7] [1, 2, 3]).1
    let d₂ : Dst DstSpec.perfect := { acc := [], st := () }
    (∃ w', 0 < 4 ∧ WInv AEAD.toy 4 [7, 7] d.acc w [1, 2, 3] ∧
      w.write AEAD.toy 4 (2^88) [7, 7] [4, 5, 6, 7, 8, 9] = (w', 0, some .dstErr)) ∧
    (∃ w', 0 < 4 ∧ WInv AEAD.toy 4 [7, 7] d₂.acc (Writer.new d₂) [] ∧
      (Writer.new d₂).write AEAD.toy 4 2 [7, 7] [1, 2, 3, 4, 5, 6, 7, 8, 9] = (w', 0, some (.panic 3))) := by
  intro d w d₂
  refine ⟨⟨(w.write AEAD.toy 4 (2^88) [7, 7] [4, 5, 6, 7, 8, 9]).1, by decide +kernel, ?_, nv_triple _ _ _ (by decide +kernel) (by decide +kernel)⟩,
    ⟨((Writer.new d₂).write AEAD.toy 4 2 [7, 7] [1, 2, 3, 4, 5, 6, 7, 8, 9]).1, by decide +kernel, WInv_new AEAD.toy 4 [7, 7] d₂,
      nv_triple _ _ _ (by decide +kernel) (by decide +kernel)⟩⟩
  exact (write_ok AEAD.toy 4 (2^88) (by decide +kernel) [7, 7] d.acc (Writer.new d) w [] [1, 2, 3] 3
    (WInv_new AEAD.toy 4 [7, 7] d) (nv_triple _ _ _ (by decide +kernel) (by decide +kernel))).1

/-- non-vacuity of `stream_close_never_panics`, both disjuncts: (1) over a destination failing at byte offset 10, a
    writer holding `[1,2,3]` reports `dstErr` on Close (the final chunk is 15 bytes); (2) with the counter limit set to
    1, Close of a fresh writer reports the counter-limit panic -/
theorem stream_close_never_panics_nonvacuous :
    let d : Dst (DstSpec.atOffset 10 true false) := { acc := [0xAA], st := false }
    let w := ((Writer.new d).write AEAD.toy 4 (2^88) [7, 7] [1, 2, 3]).1
    let d₂ : Dst DstSpec.perfect := { acc := [], st := () }
    (∃ w', WInv AEAD.toy 4 [7, 7] d.acc w [1, 2, 3] ∧ w.close AEAD.toy 4 (2^88) [7, 7] = (w', some .dstErr)) ∧
    (∃ w', WInv AEAD.toy 4 [7, 7] d₂.acc (Writer.new d₂) [] ∧
      (Writer.new d₂).close AEAD.toy 4 1 [7, 7] = (w', some (.panic 3))) := by
  intro d w d₂
  refine ⟨⟨(w.close AEAD.toy 4 (2^88) [7, 7]).1, ?_, nv_pair _ _ (by decide +kernel)⟩,
    ⟨((Writer.new d₂).close AEAD.toy 4 1 [7, 7]).1, WInv_new AEAD.toy 4 [7, 7] d₂, nv_pair _ _ (by decide +kernel)⟩⟩
  exact (write_ok AEAD.toy 4 (2^88) (by decide +kernel) [7, 7] d.acc (Writer.new d) w [] [1, 2, 3] 3
    (WInv_new AEAD.toy 4 [7, 7] d) (nv_triple _ _ _ (by decide +kernel) (by decide +kernel))).1

/-- `kdf_work_bounded` has no hypotheses; its conclusion ranges over a log that is not always empty: an scrypt
    identity with maximum 20 facing a well-formed scrypt stanza of work factor 18 derives exactly one key -/
theorem kdf_work_bounded_nonvacuous :
    ((Identity.scrypt [112, 119] 20).unwrapLog Prims.toy
      [wrapScrypt Prims.toy [112, 119] 18 (List.replicate 16 3) (List.replicate 16 9)]).2 = [18] := by
  decide +kernel

end Props.C14
end AgeModel
