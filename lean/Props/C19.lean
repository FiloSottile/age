/-
  C19 — an encrypted SSH identity prompts only on a match and keeps no history.
  Property theorems only (helper lemmas live in Proofs/SshEnc.lean).

  Vocabulary (AgeModel/SshEnc.lean): `step cfg st stanzas ans` is one
  `Unwrap(stanzas)` call in state `st` with `ans` the answer the passphrase
  callback would give (`none` = it fails); `run` a history of calls on one
  identity value; `fresh` the state of a new identity; `isMatch cfg s`: stanza
  `s` carries the declared key type and the declared public key's tag;
  `passedOver cfg s`: `s` has another type, or the declared type, at least one
  argument, and another tag.
-/
import Proofs.SshEnc
namespace AgeModel
namespace Props.C19
open SshEnc

variable {R : Type}

/-- Locked identity: the callback is invoked iff some stanza carries the declared
    type and tag and every stanza before the first such one is passed over — in
    particular no EARLIER stanza of the declared type has zero arguments (the
    code returns "invalid recipient block" at such a stanza without prompting;
    a zero-argument stanza AFTER the first match is never looked at). -/
theorem prompt_iff_match (cfg : Config R) (st : State) (ss : List Stanza) (a : Option Passphrase)
    (hlocked : st.cached = none) :
    (step cfg st ss a).2.prompted = true ↔
      ∃ pre s post, ss = pre ++ s :: post ∧ (∀ s' ∈ pre, passedOver cfg s') ∧ isMatch cfg s := by
  rw [← scan_matched_iff]
  cases hs : scanStanzas cfg ss with
  | malformed => rw [step_locked_malformed hlocked hs]; exact iff_of_false nofun nofun
  | noMatch => rw [step_locked_noMatch hlocked hs]; exact iff_of_false nofun nofun
  | matched => exact iff_of_true (step_locked_matched hlocked hs a).1 rfl

/-- … and without a prompt the locked identity answers "incorrect identity", or
    "invalid recipient block" exactly when the first stanza that is not passed
    over has the declared type and no argument; the state is untouched. -/
theorem no_prompt_outcomes (cfg : Config R) (st : State) (ss : List Stanza) (a : Option Passphrase)
    (hlocked : st.cached = none) (hnp : (step cfg st ss a).2.prompted = false) :
    (step cfg st ss a).1 = st ∧
    (((step cfg st ss a).2.result = .errMalformed ∧
        ∃ pre s post, ss = pre ++ s :: post ∧ (∀ s' ∈ pre, passedOver cfg s') ∧
          s.type = cfg.keyType ∧ s.args = []) ∨
     ((step cfg st ss a).2.result = .incorrectIdentity ∧ scanStanzas cfg ss = .noMatch)) := by
  cases hs : scanStanzas cfg ss with
  | malformed =>
    rw [step_locked_malformed hlocked hs]
    exact ⟨rfl, .inl ⟨rfl, (scan_malformed_iff cfg ss).mp hs⟩⟩
  | noMatch =>
    rw [step_locked_noMatch hlocked hs]
    exact ⟨rfl, .inr ⟨rfl, rfl⟩⟩
  | matched =>
    rw [(step_locked_matched hlocked hs a).1] at hnp
    cases hnp

/-- A file addressed to the declared key — it has a stanza with the declared type
    and tag — whose stanzas of that type all have at least one argument (as every
    stanza written by an ssh-rsa / ssh-ed25519 recipient has) always makes a
    locked identity ask for the passphrase. -/
theorem prompt_for_own_file (cfg : Config R) (st : State) (ss : List Stanza) (a : Option Passphrase)
    (hlocked : st.cached = none)
    (hown : ∃ s ∈ ss, isMatch cfg s)
    (hwf : ∀ s ∈ ss, s.type = cfg.keyType → s.args ≠ []) :
    (step cfg st ss a).2.prompted = true := by
  rw [prompt_iff_match cfg st ss a hlocked]
  obtain ⟨s, hs, hm⟩ := hown
  rcases scan_split cfg ss with ⟨hall, _⟩ | ⟨pre, s', post, rfl, hpre, hm' | ⟨ht, ha⟩⟩
  · exact absurd (hall s hs) (not_passedOver_of_isMatch hm)
  · exact ⟨pre, s', post, rfl, hpre, hm'⟩
  · exact absurd ha (hwf s' (List.mem_append_right _ List.mem_cons_self) ht)

/-- A call changes the state only by unlocking: it was locked, the callback was
    asked, the passphrase it gave opens the key file to the DECLARED key pair, and
    the call returns what the plain identity returns. Hence a failing callback, a
    wrong passphrase, a key of another type and a private key that does not belong
    to the declared public key all leave the state exactly as it was. -/
theorem no_trace_after_failure (cfg : Config R) (st : State) (ss : List Stanza) (a : Option Passphrase) :
    ((step cfg st ss a).1 ≠ st →
      st.cached = none ∧ (step cfg st ss a).1 = ⟨some cfg.declared⟩ ∧
      (step cfg st ss a).2.prompted = true ∧
      (∃ p, a = some p ∧ cfg.openFile p = some (.key cfg.declared)) ∧
      (step cfg st ss a).2.result = .delegated (cfg.innerUnwrap cfg.declared ss)) ∧
    (∀ r, (step cfg st ss a).2.result = r →
      (r = .errCallback ∨ r = .errDecryptKey ∨ r = .errMismatch ∨ r = .errUnexpectedType ∨
       r = .errInvalidKey ∨ r = .errMalformed ∨ r = .incorrectIdentity) →
      (step cfg st ss a).1 = st) := by
  constructor
  · intro hne
    rcases step_state cfg st ss a with h | ⟨h1, _, h3, h4, h5, h6⟩
    · exact absurd h hne
    · exact ⟨h1, h4, h5, h3, h6⟩
  · intro r hr hcls
    rcases step_state cfg st ss a with h | ⟨_, _, _, _, _, h6⟩
    · exact h
    · rw [h6] at hr
      subst hr
      rcases hcls with h | h | h | h | h | h | h <;> cases h

/-- Whatever the history, the state is locked or holds the declared key pair; and
    it holds it only if some call of the history was prompted for, and given, a
    passphrase that opens the key file to the declared key pair: the history
    splits at a call `c` (the first that unlocks) such that the identity was still
    LOCKED when `c` arrived, `c`'s stanzas end the scan in a match — so, by
    `prompt_iff_match`, the callback was invoked in that very call, and the
    output of `c` in the trace says so —, the answer the callback gave opens the
    key file to the declared key pair, and the state right after `c` holds it. -/
theorem only_validated_cached (cfg : Config R) (h : List Call) (k : KeyId)
    (hk : (run cfg fresh h).1.cached = some k) :
    k = cfg.declared ∧
    ∃ h1 c h2, h = h1 ++ c :: h2 ∧ (run cfg fresh h1).1 = fresh ∧
      scanStanzas cfg c.1 = .matched ∧
      (∃ p, c.2 = some p ∧ cfg.openFile p = some (.key cfg.declared)) ∧
      (∃ o, (run cfg fresh h).2[h1.length]? = some o ∧ o.prompted = true ∧
        o.result = .delegated (cfg.innerUnwrap cfg.declared c.1)) ∧
      (run cfg fresh (h1 ++ [c])).1 = ⟨some cfg.declared⟩ := by
  rcases run_cached_source cfg k h fresh hk with h0 | ⟨hkd, _, hrest⟩
  · cases h0
  · exact ⟨hkd, hrest⟩

/-- History independence. After ANY history `h` on a fresh identity, a call `c`
    * either runs in the locked state and does exactly — prompt, result, new
      state — what it does on a fresh identity with the same callback answer,
    * or the identity was unlocked by a validated passphrase, and the call
      returns what the plain identity of the declared key returns, without
      prompting.
    Nothing else of the history (mismatches, wrong passphrases, failed
    callbacks, files for other keys) has any influence. -/
theorem history_independent (cfg : Config R) (h : List Call) (c : Call) :
    ((run cfg fresh h).1 = fresh ∧
      step cfg (run cfg fresh h).1 c.1 c.2 = step cfg fresh c.1 c.2) ∨
    ((run cfg fresh h).1 = ⟨some cfg.declared⟩ ∧
      step cfg (run cfg fresh h).1 c.1 c.2 =
        (⟨some cfg.declared⟩, ⟨false, .delegated (cfg.innerUnwrap cfg.declared c.1)⟩)) := by
  cases hc : (run cfg fresh h).1.cached with
  | none =>
    have hst : (run cfg fresh h).1 = fresh := congrArg State.mk hc
    exact .inl ⟨hst, by rw [hst]⟩
  | some k =>
    obtain rfl := (only_validated_cached cfg h k hc).1
    have hst : (run cfg fresh h).1 = ⟨some cfg.declared⟩ := congrArg State.mk hc
    exact .inr ⟨hst, by rw [step_cached hc, hst]⟩

/-- … and the unlocked identity agrees with a fresh one that is given the right
    passphrase on every file that makes the fresh one prompt. -/
theorem unlocked_agrees_with_fresh (cfg : Config R) (ss : List Stanza) (a : Option Passphrase) (p : Passphrase)
    (hp : cfg.openFile p = some (.key cfg.declared)) (hm : scanStanzas cfg ss = .matched) :
    (step cfg fresh ss (some p)).2.result = (step cfg ⟨some cfg.declared⟩ ss a).2.result ∧
    (step cfg fresh ss (some p)).1 = ⟨some cfg.declared⟩ := by
  simp [step, fresh, hm, hp]

/-- a history run after another one is a run from the state the first one left: the
    second differs from a fresh run only through `cached` -/
theorem run_append (cfg : Config R) (st : State) (h₁ h₂ : List Call) :
    run cfg st (h₁ ++ h₂) =
      ((run cfg (run cfg st h₁).1 h₂).1, (run cfg st h₁).2 ++ (run cfg (run cfg st h₁).1 h₂).2) := by
  induction h₁ generalizing st with
  | nil => simp [run]
  | cons c cs ih => simp [run, ih]

/-! ## non-vacuity -/

section examples
/-- toy plain identity: "ok" iff some stanza carries the key's number as its tag -/
def toyInner (k : KeyId) (ss : List Stanza) : Bool := ss.any fun s => s.args.head? = some [k.toUInt8]

/-- declared key 1 of type [7]; the key file holds key `stored` under passphrase [1] -/
def toyCfg (stored : KeyId) : Config Bool :=
  { keyType := [7], tag := [1], declared := 1,
    openFile := fun p => if p = [1] then some (.key stored) else none,
    innerUnwrap := toyInner }

def toDeclared : List Stanza := [⟨[9], [], []⟩, ⟨[7], [[2]], []⟩, ⟨[7], [[1]], []⟩]
def toOther : List Stanza := [⟨[7], [[2]], []⟩]
def zeroArgFirst : List Stanza := [⟨[7], [], []⟩, ⟨[7], [[1]], []⟩]

def outs (r : State × List (Out Bool)) : Option KeyId × List (Bool × Result Bool) :=
  (r.1.cached, r.2.map fun o => (o.prompted, o.result))

-- matching key file: wrong passphrase, callback failure, then the right passphrase; afterwards no prompt
example : outs (run (toyCfg 1) fresh
    [(toDeclared, some [2]), (toDeclared, none), (toOther, some [1]), (toDeclared, some [1]), (toDeclared, none),
     (toOther, none)]) =
  (some 1, [(true, .errDecryptKey), (true, .errCallback), (false, .incorrectIdentity),
            (true, .delegated true), (false, .delegated true), (false, .delegated false)]) := rfl
-- key file holding another key than declared: a mismatch every time, never cached
example : outs (run (toyCfg 2) fresh [(toDeclared, some [1]), (toDeclared, some [1]), (toOther, some [1])]) =
  (none, [(true, .errMismatch), (true, .errMismatch), (false, .incorrectIdentity)]) := rfl
-- a zero-argument stanza of the declared type before the match: error, no prompt
example : outs (run (toyCfg 1) fresh [(zeroArgFirst, some [1])]) = (none, [(false, .errMalformed)]) := rfl
example : ∃ s ∈ toDeclared, isMatch (toyCfg 1) s := ⟨⟨[7], [[1]], []⟩, by decide, by decide, by decide⟩
end examples

/-! ## non-vacuity, theorem by theorem: the hypotheses of each theorem at concrete values

  `history_independent` and `run_append` have no hypotheses. -/

/-- non-vacuity of `prompt_iff_match`: a fresh identity is locked (the `example`s
    below show both sides of the equivalence true on `toDeclared`, false on `toOther`) -/
theorem prompt_iff_match_nonvacuous : (fresh : State).cached = none := rfl

example : ∃ pre s post, toDeclared = pre ++ s :: post ∧ (∀ s' ∈ pre, passedOver (toyCfg 1) s') ∧
    isMatch (toyCfg 1) s :=
  (prompt_iff_match (toyCfg 1) fresh toDeclared (some [1]) prompt_iff_match_nonvacuous).mp (by decide +kernel)
example : ¬ ∃ pre s post, toOther = pre ++ s :: post ∧ (∀ s' ∈ pre, passedOver (toyCfg 1) s') ∧
    isMatch (toyCfg 1) s :=
  fun h => absurd ((prompt_iff_match (toyCfg 1) fresh toOther (some [1]) prompt_iff_match_nonvacuous).mpr h)
    (by decide +kernel)

/-- non-vacuity of `no_prompt_outcomes`: a fresh identity and a file for another
    key (→ "incorrect identity"); the `example` below: a zero-argument stanza of
    the declared type before the match (→ "invalid recipient block") -/
theorem no_prompt_outcomes_nonvacuous :
    (fresh : State).cached = none ∧
    (step (toyCfg 1) fresh toOther (some [1])).2.prompted = false := by decide +kernel

example : (fresh : State).cached = none ∧
    (step (toyCfg 1) fresh zeroArgFirst (some [1])).2.prompted = false := by decide +kernel
example : (step (toyCfg 1) fresh toOther (some [1])).2.result = .incorrectIdentity ∧
    (step (toyCfg 1) fresh zeroArgFirst (some [1])).2.result = .errMalformed := by decide +kernel

example : (step (toyCfg 1) fresh toOther (some [1])).1 = fresh :=
  (no_prompt_outcomes (toyCfg 1) fresh toOther (some [1]) no_prompt_outcomes_nonvacuous.1
    no_prompt_outcomes_nonvacuous.2).1

/-- non-vacuity of `prompt_for_own_file`: a fresh identity and a three-stanza
    header (another type, the declared type with another tag, the match) -/
theorem prompt_for_own_file_nonvacuous :
    (fresh : State).cached = none ∧
    (∃ s ∈ toDeclared, isMatch (toyCfg 1) s) ∧
    (∀ s ∈ toDeclared, s.type = (toyCfg 1).keyType → s.args ≠ []) :=
  ⟨rfl, ⟨⟨[7], [[1]], []⟩, by decide, by decide, by decide⟩, by decide⟩

example : (step (toyCfg 1) fresh toDeclared none).2.prompted = true :=
  prompt_for_own_file (toyCfg 1) fresh toDeclared none prompt_for_own_file_nonvacuous.1
    prompt_for_own_file_nonvacuous.2.1 prompt_for_own_file_nonvacuous.2.2

/-- non-vacuity of `no_trace_after_failure` (no outer hypotheses; the premises of
    its two parts): the right passphrase changes the state of a fresh identity; a
    key file holding another key ends in the failure class "mismatch" -/
theorem no_trace_after_failure_nonvacuous :
    (step (toyCfg 1) fresh toDeclared (some [1])).1 ≠ fresh ∧
    ((step (toyCfg 2) fresh toDeclared (some [1])).2.result = .errMismatch ∧
     ((Result.errMismatch : Result Bool) = .errCallback ∨ (Result.errMismatch : Result Bool) = .errDecryptKey ∨
      (Result.errMismatch : Result Bool) = .errMismatch ∨ (Result.errMismatch : Result Bool) = .errUnexpectedType ∨
      (Result.errMismatch : Result Bool) = .errInvalidKey ∨ (Result.errMismatch : Result Bool) = .errMalformed ∨
      (Result.errMismatch : Result Bool) = .incorrectIdentity)) := by decide +kernel

example : (step (toyCfg 1) fresh toDeclared (some [1])).1 = ⟨some (toyCfg 1).declared⟩ :=
  ((no_trace_after_failure (toyCfg 1) fresh toDeclared (some [1])).1 no_trace_after_failure_nonvacuous.1).2.1
example : (step (toyCfg 2) fresh toDeclared (some [1])).1 = fresh :=
  (no_trace_after_failure (toyCfg 2) fresh toDeclared (some [1])).2 .errMismatch
    no_trace_after_failure_nonvacuous.2.1 no_trace_after_failure_nonvacuous.2.2

/-- non-vacuity of `only_validated_cached`: a wrong passphrase, then the right one -/
theorem only_validated_cached_nonvacuous :
    (run (toyCfg 1) fresh [(toDeclared, some [2]), (toDeclared, some [1])]).1.cached = some 1 := rfl

example : ∃ h1 c h2, [(toDeclared, some [2]), (toDeclared, some ([1] : Passphrase))] = h1 ++ c :: h2 ∧
    (run (toyCfg 1) fresh h1).1 = fresh ∧ scanStanzas (toyCfg 1) c.1 = .matched ∧
    (∃ p, c.2 = some p ∧ (toyCfg 1).openFile p = some (.key (toyCfg 1).declared)) ∧
    (∃ o, (run (toyCfg 1) fresh [(toDeclared, some [2]), (toDeclared, some [1])]).2[h1.length]? = some o ∧
      o.prompted = true ∧ o.result = .delegated ((toyCfg 1).innerUnwrap (toyCfg 1).declared c.1)) ∧
    (run (toyCfg 1) fresh (h1 ++ [c])).1 = ⟨some (toyCfg 1).declared⟩ :=
  (only_validated_cached (toyCfg 1) _ 1 only_validated_cached_nonvacuous).2
/-- the split the theorem speaks of, at these values: still locked after the wrong
    passphrase, unlocked by the second call, whose output says "prompted" -/
example : (run (toyCfg 1) fresh [(toDeclared, some [2])]).1 = fresh ∧
    outs (run (toyCfg 1) fresh [(toDeclared, some [2]), (toDeclared, some [1])]) =
      (some 1, [(true, .errDecryptKey), (true, .delegated true)]) := by decide +kernel

/-- both alternatives of `history_independent` (which has no hypotheses) occur -/
example : (run (toyCfg 1) fresh [(toDeclared, some [2]), (toOther, none)]).1 = fresh ∧
    (run (toyCfg 1) fresh [(toDeclared, some [2]), (toDeclared, some [1])]).1 = ⟨some (toyCfg 1).declared⟩ := by
  decide +kernel

/-- non-vacuity of `unlocked_agrees_with_fresh`: passphrase `[1]` opens the toy key
    file to the declared key and `toDeclared` makes the scan end in a match -/
theorem unlocked_agrees_with_fresh_nonvacuous :
    (toyCfg 1).openFile [1] = some (.key (toyCfg 1).declared) ∧
    scanStanzas (toyCfg 1) toDeclared = .matched := by decide +kernel

example : (step (toyCfg 1) fresh toDeclared (some [1])).2.result = .delegated true :=
  ((unlocked_agrees_with_fresh (toyCfg 1) toDeclared none [1] unlocked_agrees_with_fresh_nonvacuous.1
    unlocked_agrees_with_fresh_nonvacuous.2).1).trans (by decide +kernel)

end Props.C19
end AgeModel
