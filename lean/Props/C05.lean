/-
  C05 — files are byte-exact age v1.
  What is proved here: the Impl layer (order of draws, header marshalling in
  arbitrary write pieces, nonce, Writer machine under any write segmentation)
  produces exactly the Spec-layer byte string `specFile`; `specFile` decrypts
  (C01). That `specFile` is the age v1 standard, and that the Go code is the Impl
  layer, is decided by the byte-for-byte correspondence run (translation
  validation) and the constant ties in Tie/C05.
-/
import Proofs.FileWrite
import Props.C12
import Props.C01
namespace AgeModel
namespace Props.C05
open Format Stream

/-- **Impl ≡ Spec.** For every tape, recipient list, split of the header into
    write calls, write segmentation of the plaintext and destination that does not
    fail: after Encrypt, the Writes and Close, the destination holds exactly what
    it held before followed by `encryptFile` = `specFile` of the drawn values. -/
theorem impl_encrypt_eq_spec {S : DstSpec} (hS : S.NeverFails) (P : Prims) (C L : Nat) (hC : 0 < C)
    (tape : Bytes) (rs : List Recipient) (hdrSegs : List Nat) (d : Dst S) (segs : List Bytes) (file : Bytes)
    (hlen : segs.flatten.length < (L - 1) * C)
    (henc : encryptFile P C tape rs segs.flatten = .ok file) :
    ∃ w k t' d2, encryptInit P tape rs hdrSegs d = (.ok (w, k, t'), d2) ∧
      (w.run P.aead C L k (Props.C12.opsOf segs)).1.dst.acc = d.acc ++ file ∧
      (∀ r ∈ (w.run P.aead C L k (Props.C12.opsOf segs)).2, r.2 = none) := by
  obtain ⟨fk, stanzas, t, nonce, t', hh, hd, rfl⟩ := encryptFile_ok henc
  obtain ⟨w, d2, hinit⟩ := encryptInit_neverFails hS P tape rs hdrSegs d fk stanzas t nonce t' hh hd
  obtain ⟨fk', st', t0, nonce', hh', hd', hacc, _, rfl⟩ := encryptInit_ok P tape rs hdrSegs d d2 w _ t' hinit
  cases hh.symm.trans hh'
  cases hd.symm.trans hd'
  have hall := Props.C12.writer_never_fails hS P.aead C L hC (streamKey P fk nonce) d2 segs hlen
  have href := Props.C12.writer_refines_spec P.aead C L hC (streamKey P fk nonce) d2 segs hall
  refine ⟨_, _, _, _, hinit, ?_, hall⟩
  rw [href.1, hacc, specFile, List.append_assoc, List.append_assoc, List.append_assoc]

/-- the four stanza constructions, spelled out (each is the definition unfolded;
    listed here so that a reader can compare them with the age specification) -/
theorem x25519_stanza_spec (P : Prims) (recipientPub eph fk ourPub shared : Bytes)
    (h1 : P.x25519 eph P.basepoint = some ourPub) (h2 : P.x25519 eph recipientPub = some shared) :
    wrapX25519 P recipientPub eph fk = some
      { type := tX25519, args := [B64.encRaw ourPub],
        body := P.aead.sealF (P.hkdf shared (ourPub ++ recipientPub) x25519Label 32) zeroNonce fk } := by
  simp [wrapX25519, h1, h2, Prims.wrapSeal]

theorem scrypt_stanza_spec (P : Prims) (pw salt fk : Bytes) (logN : Nat) :
    wrapScrypt P pw logN salt fk =
      { type := tScrypt, args := [B64.encRaw salt, natToDec logN],
        body := P.aead.sealF (P.scrypt pw (scryptLabel ++ salt) logN) zeroNonce fk } := rfl

theorem sshrsa_stanza_spec (P : Prims) (wire pub seed fk c : Bytes) (h : P.oaepEnc pub seed fk oaepLabel = some c) :
    wrapSshRsa P wire pub seed fk = some
      { type := tSshRsa, args := [B64.encRaw ((P.sha256 wire).take 4)], body := c } := by
  simp [wrapSshRsa, h, sshTag]

theorem sshed_stanza_spec (P : Prims) (wire recipientMont eph fk ourPub shared : Bytes)
    (h1 : P.x25519 eph P.basepoint = some ourPub) (h2 : P.x25519 eph recipientMont = some shared) :
    wrapSshEd P wire recipientMont eph fk = some
      { type := tSshEd, args := [B64.encRaw ((P.sha256 wire).take 4), B64.encRaw ourPub],
        body := P.aead.sealF
          (P.hkdf ((P.x25519 (P.hkdf [] wire ed25519Label 32) shared).getD []) (ourPub ++ recipientMont) ed25519Label 32)
          zeroNonce fk } := by
  simp [wrapSshEd, h1, h2, Prims.wrapSeal, sshTag]

/-- the file layout: header (intro, stanzas, `--- ` MAC line) ++ 16-byte nonce ++ STREAM payload
    under HKDF(file key, nonce, "payload"), MAC = HMAC(HKDF(file key, "", "header"), header up to `---`) -/
theorem file_layout (P : Prims) (C : Nat) (fk : Bytes) (stanzas : List Stanza) (nonce pt : Bytes) :
    specFile P C fk stanzas nonce pt =
      Format.intro ++ marshalStanzas stanzas ++ footerPrefix ++ [sp] ++
        B64.encRaw (P.hmac (P.hkdf fk [] headerInfo 32) (Format.intro ++ marshalStanzas stanzas ++ footerPrefix)) ++ [nl] ++
        nonce ++ Stream.encrypt P.aead C (P.hkdf fk nonce payloadInfo 32) pt := by
  simp [specFile, marshal, marshalNoMAC, headerMAC, streamKey]

/-- non-vacuity of `impl_encrypt_eq_spec`: Encrypt accepts a concrete input (toy primitives, chunk size 4) -/
example : ∃ file, encryptFile Prims.toy 4 (List.replicate 100 7) [Recipient.x25519 (List.replicate 32 0)] [[1, 2], [3, 4, 5]].flatten = .ok file :=
  let ⟨f, _, _, h, _, _⟩ := Props.C01.nonvacuous_roundtrip
  ⟨f, h⟩

/-! ## non-vacuity witnesses (toy primitives of Proofs/ToyPrims) -/

/-- non-vacuity of `impl_encrypt_eq_spec`: the never-failing destination, chunk size 4, counter limit 2^88, a 100-byte tape,
    one X25519 recipient and the 5-byte plaintext `[1,2] ++ [3,4,5]` written in two calls (two chunks) -/
theorem impl_encrypt_eq_spec_nonvacuous :
    DstSpec.perfect.NeverFails ∧ 0 < 4 ∧
    ([[1, 2], [3, 4, 5]] : List Bytes).flatten.length < (2 ^ 88 - 1) * 4 ∧
    ∃ file, encryptFile Prims.toy 4 (List.replicate 100 7) [Recipient.x25519 (List.replicate 32 0)]
      ([[1, 2], [3, 4, 5]] : List Bytes).flatten = .ok file :=
  ⟨DstSpec.perfect_neverFails, by decide, by decide,
   let ⟨f, _, _, h, _, _⟩ := Props.C01.nonvacuous_roundtrip; ⟨f, h⟩⟩

/-- `impl_encrypt_eq_spec` applied to that witness (header written in pieces of 3, 1 and 50 bytes): its conclusion specialises -/
example : ∃ file w k t' d2,
    encryptInit Prims.toy (List.replicate 100 7) [Recipient.x25519 (List.replicate 32 0)] [3, 1, 50]
      ({ acc := [9], st := () } : Dst DstSpec.perfect) = (.ok (w, k, t'), d2) ∧
    (w.run Prims.toy.aead 4 (2 ^ 88) k (Props.C12.opsOf [[1, 2], [3, 4, 5]])).1.dst.acc = [9] ++ file := by
  obtain ⟨hS, hC, hlen, file, henc⟩ := impl_encrypt_eq_spec_nonvacuous
  obtain ⟨w, k, t', d2, h1, h2, _⟩ := impl_encrypt_eq_spec hS Prims.toy 4 (2 ^ 88) hC (List.replicate 100 7)
    [Recipient.x25519 (List.replicate 32 0)] [3, 1, 50] ({ acc := [9], st := () } : Dst DstSpec.perfect) [[1, 2], [3, 4, 5]] file hlen henc
  exact ⟨file, w, k, t', d2, h1, h2⟩

/-- non-vacuity of `x25519_stanza_spec`: ephemeral secret 7…7, recipient key 5…5; both scalar multiplications succeed -/
theorem x25519_stanza_spec_nonvacuous :
    Prims.toy.x25519 (List.replicate 32 7) Prims.toy.basepoint = some (List.replicate 32 0) ∧
    Prims.toy.x25519 (List.replicate 32 7) (List.replicate 32 5) = some (List.replicate 32 0) := ⟨rfl, rfl⟩

/-- non-vacuity of `sshrsa_stanza_spec`: the toy OAEP encrypts a 16-byte file key -/
theorem sshrsa_stanza_spec_nonvacuous :
    Prims.toy.oaepEnc [1, 2, 3] (List.replicate 32 7) (List.replicate 16 4) oaepLabel = some (List.replicate 16 4) := rfl

/-- non-vacuity of `sshed_stanza_spec`: same values as `x25519_stanza_spec_nonvacuous` (the hypotheses are the same two equations) -/
theorem sshed_stanza_spec_nonvacuous :
    Prims.toy.x25519 (List.replicate 32 7) Prims.toy.basepoint = some (List.replicate 32 0) ∧
    Prims.toy.x25519 (List.replicate 32 7) (List.replicate 32 5) = some (List.replicate 32 0) := ⟨rfl, rfl⟩


end Props.C05
end AgeModel
