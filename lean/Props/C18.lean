/-
  C18 — key files: every line counts or the whole file is rejected.
  Property theorems only (helper lemmas live in Proofs/KeyFile*.lean).

  Vocabulary (AgeModel/KeyFile.lean): `linesOf maxTok limit b` are the lines
  `bufio.Scanner` delivers for file contents `b` (read through
  `io.LimitReader(limit)`), `scanFailed …` says `scanner.Err() != nil`
  afterwards, `content l` = the line is neither empty nor a `#` comment,
  `p : Bytes → Option Key` is the single-line parser (a parameter: another
  model area), `parseLib p` the loop shared by `age.ParseIdentities`,
  `age.ParseRecipients` and the CLI's `parseIdentities`.
-/
import Proofs.KeyFileLib
namespace AgeModel
namespace Props.C18
open KeyFile

variable {Key : Type}

/-- the three entry points without a skip branch are one loop with different line parsers -/
theorem entry_points (p pp px : Bytes → Option Key) :
    parseIdentities p = parseLib p ∧ parseRecipients p = parseLib p ∧
    cliParseIdentities pp px = parseLib (cliIdentityLine pp px) :=
  ⟨rfl, rfl, rfl⟩

/-! ## the library parsers and the CLI identities parser -/

/-- The parse succeeds with `ks` iff the scanner did not fail, the parse results
    of the lines that are neither empty nor comments are exactly `some k` for
    the keys `k` of `ks` — one per line, in file order, none failing — and
    there is at least one. -/
theorem keyfile_exact (p : Bytes → Option Key) (maxTok limit : Nat) (b : Bytes) (ks : List Key) :
    parseLib p maxTok limit b = .ok ks ↔
      scanFailed maxTok limit b = false ∧
      ((linesOf maxTok limit b).filter content).map p = ks.map some ∧
      ks ≠ [] := by
  unfold parseLib parseFile
  rw [loop_ok_iff, lib_keys, lib_allfine_iff, map_eq_map_some_iff, List.forall_mem_filter, and_assoc]

/-- … in particular exactly one key per such line, and every such line parses -/
theorem keyfile_exact_count (p : Bytes → Option Key) (maxTok limit : Nat) (b : Bytes) (ks : List Key)
    (h : parseLib p maxTok limit b = .ok ks) :
    ks.length = ((linesOf maxTok limit b).filter content).length ∧
    ∀ l ∈ linesOf maxTok limit b, content l = true → (p l).isSome = true := by
  obtain ⟨_, hm, _⟩ := (keyfile_exact p maxTok limit b ks).mp h
  refine ⟨?_, List.forall_mem_filter.mp ((map_eq_map_some_iff p _ ks).mp hm).1⟩
  have := congrArg List.length hm
  simpa using this.symm

/-- Every failure is one of: "at line n" where n is the 1-based number of the
    FIRST line that is neither empty nor a comment and does not parse (all
    earlier ones parse); the scanner's error, when all delivered lines were
    fine; "no keys", when the file has only empty lines and comments. The
    CLI-only "line too long" error never occurs here. -/
theorem keyfile_first_error (p : Bytes → Option Key) (maxTok limit : Nat) (b : Bytes) (e : KeyFileErr) :
    parseLib p maxTok limit b = .error e ↔
      (∃ pre l post, linesOf maxTok limit b = pre ++ l :: post ∧
        (∀ l' ∈ pre, content l' = true → (p l').isSome = true) ∧
        content l = true ∧ p l = none ∧ e = .atLine (pre.length + 1)) ∨
      ((∀ l ∈ linesOf maxTok limit b, content l = true → (p l).isSome = true) ∧
        scanFailed maxTok limit b = true ∧ e = .scanErr) ∨
      ((∀ l ∈ linesOf maxTok limit b, content l = false) ∧
        scanFailed maxTok limit b = false ∧ e = .noKeys) := by
  unfold parseLib parseFile
  rw [loop_err_iff, finish_err_iff, lib_keys, and_or_left]
  simp only [lib_allfine_iff, libLine_bad_iff, libLine_ne_tooLong, false_and, or_false, and_assoc]
  refine or_congr_right (or_congr_right ⟨?_, ?_⟩)
  · rintro ⟨hfine, hse, hnil, he⟩
    exact ⟨(lib_nokeys_iff p _ hfine).mp hnil, hse, he⟩
  · rintro ⟨hall, hse, he⟩
    have hfine : ∀ l ∈ linesOf maxTok limit b, content l = true → (p l).isSome = true :=
      fun l hl hc => by rw [hall l hl] at hc; cases hc
    exact ⟨hfine, hse, (lib_nokeys_iff p _ hfine).mpr hall, he⟩

/-- No line is skipped: a delivered line (number `i + 1`) that is neither empty
    nor a comment either makes the whole parse fail or contributes exactly its
    own key, at the position given by the number of such lines before it. -/
theorem keyfile_no_skip (p : Bytes → Option Key) (maxTok limit : Nat) (b : Bytes) (i : Nat) (l : Bytes)
    (hl : (linesOf maxTok limit b)[i]? = some l) (hc : content l = true) :
    (∃ e, parseLib p maxTok limit b = .error e) ∨
    (∃ ks k, parseLib p maxTok limit b = .ok ks ∧ p l = some k ∧
      ks[(((linesOf maxTok limit b).take i).filter content).length]? = some k) := by
  cases hres : parseLib p maxTok limit b with
  | error e => exact Or.inl ⟨e, rfl⟩
  | ok ks =>
    refine Or.inr ⟨ks, ?_⟩
    obtain ⟨_, hm, _⟩ := (keyfile_exact p maxTok limit b ks).mp hres
    obtain ⟨hsplit, _⟩ := getElem?_split _ i l hl
    generalize (linesOf maxTok limit b).take i = pre at hsplit ⊢
    rw [hsplit, List.filter_append, List.filter_cons_of_pos hc, List.map_append, List.map_cons] at hm
    -- the entry of `ks.map some` at the position of `l` is `p l`
    have hidx := hm ▸ getElem?_append_cons_length ((pre.filter content).map p) _ (p l)
    rw [List.length_map, List.getElem?_map] at hidx
    cases hk : ks[(pre.filter content).length]? with
    | none => rw [hk] at hidx; cases hidx
    | some k => rw [hk] at hidx; exact ⟨k, rfl, (Option.some.inj hidx).symm, rfl⟩

/-! ## the CLI recipients file (`-R`), with its logged skip branch -/

section cli
variable (p : Bytes → Option Key) (sn : Bytes → Option Bytes) (sv : Bytes → Bool) (lim maxTok limit : Nat)

/-- Success iff the scanner did not fail, every line that is neither empty nor a
    comment is within the 8 KiB limit and either parses or satisfies the coded
    skip condition, the result is the keys of the parsing lines in order, and
    there is at least one. -/
theorem cli_keyfile_exact (b : Bytes) (ks : List Key) :
    (cliParseRecipientsFile p sn sv lim maxTok limit b).res = .ok ks ↔
      scanFailed maxTok limit b = false ∧
      (∀ l ∈ linesOf maxTok limit b, content l = true →
        l.length ≤ lim ∧ (p l = none → skipCond sn sv l = true)) ∧
      ks = ((linesOf maxTok limit b).filter content).filterMap p ∧
      ks ≠ [] := by
  unfold cliParseRecipientsFile parseFile
  rw [loop_ok_iff, cli_allfine_iff]
  refine and_congr_right fun _ => and_congr_right fun hfine => ?_
  rw [cli_keys p sn sv lim _ ((cli_allfine_iff p sn sv lim _).mpr hfine)]

/-- Failures: the FIRST line that is too long ("line n is too long") or neither
    parses nor satisfies the skip condition ("malformed recipient at line n"),
    whichever comes first; else the scanner's error; else "no recipients". -/
theorem cli_keyfile_first_error (b : Bytes) (e : KeyFileErr) :
    (cliParseRecipientsFile p sn sv lim maxTok limit b).res = .error e ↔
      (∃ pre l post, linesOf maxTok limit b = pre ++ l :: post ∧
        (∀ l' ∈ pre, content l' = true → l'.length ≤ lim ∧ (p l' = none → skipCond sn sv l' = true)) ∧
        content l = true ∧
        ((l.length ≤ lim ∧ p l = none ∧ skipCond sn sv l = false ∧ e = .atLine (pre.length + 1)) ∨
         (lim < l.length ∧ e = .lineTooLong (pre.length + 1)))) ∨
      ((∀ l ∈ linesOf maxTok limit b, content l = true →
          l.length ≤ lim ∧ (p l = none → skipCond sn sv l = true)) ∧
        ((scanFailed maxTok limit b = true ∧ e = .scanErr) ∨
         (scanFailed maxTok limit b = false ∧
           ((linesOf maxTok limit b).filter content).filterMap p = [] ∧ e = .noKeys))) := by
  unfold cliParseRecipientsFile parseFile
  rw [loop_err_iff, finish_err_iff]
  simp only [cli_allfine_iff, cli_bad_iff, cli_tooLong_iff, and_assoc, ← and_or_left]
  refine or_congr_right (and_congr_right fun hfine => ?_)
  rw [cli_keys p sn sv lim _ ((cli_allfine_iff p sn sv lim _).mpr hfine)]

/-- Whatever the result: a line number is in the warning log only if that line
    is neither empty nor a comment, failed to parse, and satisfies the skip
    condition exactly as coded (`sshKeyType` recognises it, and its type is not
    `ssh-rsa`/`ssh-ed25519`, or it is `ssh-rsa` and `ssh.ParseAuthorizedKey`
    accepts it). -/
theorem cli_skipped_sound (b : Bytes) (m : Nat)
    (hm : m ∈ (cliParseRecipientsFile p sn sv lim maxTok limit b).skipped) :
    ∃ i l, m = i + 1 ∧ (linesOf maxTok limit b)[i]? = some l ∧ content l = true ∧ l.length ≤ lim ∧
      p l = none ∧
      ∃ t, sn l = some t ∧ ((t ≠ sshRsa ∧ t ≠ sshEd25519) ∨ (t = sshRsa ∧ sv l = true)) := by
  obtain ⟨i, l, hget, hcls, rfl⟩ := mem_skipped (cliRecipientLine p sn sv lim) (scanFailed maxTok limit b)
    (linesOf maxTok limit b) m hm
  obtain ⟨hc, hlen, hp, hs⟩ := (cli_ignored_iff p sn sv lim l).mp hcls
  exact ⟨i, l, rfl, hget, hc, hlen, hp, (skipCond_iff sn sv l).mp hs⟩

/-- A failing line that `sshKeyType` recognises as `ssh-ed25519` is never skipped:
    if it is delivered (as line `i + 1`), is neither empty nor a comment and does
    not parse, the parse fails at that line or earlier. Precisely: the result is
    the error of the FIRST line `l'` (number `pre.length + 1 ≤ i + 1`; all lines
    before it are fine) that is neither empty nor a comment and is too long
    ("line n is too long") or neither parses nor satisfies the skip condition
    ("malformed recipient at line n") — so never the scanner's error and never
    "no recipients"; and when every line before line `i + 1` is fine, it is the
    error of line `i + 1` itself. -/
theorem cli_ed25519_never_skipped (b : Bytes) (i : Nat) (l : Bytes)
    (hl : (linesOf maxTok limit b)[i]? = some l) (hc : content l = true)
    (hp : p l = none) (hsn : sn l = some sshEd25519) :
    (∃ pre l' post, linesOf maxTok limit b = pre ++ l' :: post ∧ pre.length ≤ i ∧
      (∀ l'' ∈ pre, content l'' = true → l''.length ≤ lim ∧ (p l'' = none → skipCond sn sv l'' = true)) ∧
      content l' = true ∧
      ((l'.length ≤ lim ∧ p l' = none ∧ skipCond sn sv l' = false ∧
          (cliParseRecipientsFile p sn sv lim maxTok limit b).res = .error (.atLine (pre.length + 1))) ∨
       (lim < l'.length ∧
          (cliParseRecipientsFile p sn sv lim maxTok limit b).res = .error (.lineTooLong (pre.length + 1))))) ∧
    ((∀ l' ∈ (linesOf maxTok limit b).take i, content l' = true →
        l'.length ≤ lim ∧ (p l' = none → skipCond sn sv l' = true)) →
      (cliParseRecipientsFile p sn sv lim maxTok limit b).res =
        .error (if l.length ≤ lim then .atLine (i + 1) else .lineTooLong (i + 1))) := by
  have hsk : skipCond sn sv l = false := by
    rw [skipCond, hsn]
    rfl
  -- so line `i + 1` is fatal, and the first fatal line decides
  have hfatal : fatal (cliRecipientLine p sn sv lim l) = true := by
    cases hf : fatal (cliRecipientLine p sn sv lim l) with
    | true => rfl
    | false => rw [((cli_fine_iff p sn sv lim l).mp hf hc).2 hp] at hsk; cases hsk
  unfold cliParseRecipientsFile parseFile
  constructor
  · rcases first_true_split (fun l => fatal (cliRecipientLine p sn sv lim l)) (linesOf maxTok limit b) with
      hfine | ⟨pre, l', post, hls, hpre, hl'⟩
    · rw [hfine l (List.mem_of_getElem? hl)] at hfatal; cases hfatal
    · refine ⟨pre, l', post, hls, prefix_length_le _ pre _ i l hpre (hls ▸ hl) hfatal,
        (cli_allfine_iff p sn sv lim pre).mp hpre, ?_⟩
      rw [hls]
      rcases (fatal_iff _).mp hl' with hb | ht
      · obtain ⟨hc', h1, h2, h3⟩ := (cli_bad_iff p sn sv lim l').mp hb
        exact ⟨hc', .inl ⟨h1, h2, h3, by rw [loop_bad _ _ pre post l' hpre hb]⟩⟩
      · obtain ⟨hc', h1⟩ := (cli_tooLong_iff p sn sv lim l').mp ht
        exact ⟨hc', .inr ⟨h1, by rw [loop_tooLong _ _ pre post l' hpre ht]⟩⟩
  · intro hbefore
    have hpre := (cli_allfine_iff p sn sv lim _).mpr hbefore
    obtain ⟨hsplit, hlen⟩ := getElem?_split _ i l hl
    rw [hsplit]
    by_cases hle : l.length ≤ lim
    · rw [loop_bad _ _ _ _ l hpre ((cli_bad_iff p sn sv lim l).mpr ⟨hc, hle, hp, hsk⟩), hlen, if_pos hle]
    · rw [loop_tooLong _ _ _ _ l hpre ((cli_tooLong_iff p sn sv lim l).mpr ⟨hc, Nat.lt_of_not_le hle⟩),
        hlen, if_neg hle]

/-- No line is skipped silently: a delivered line that is neither empty nor a
    comment makes the parse fail, or contributes exactly its own key (at the
    position given by the parsing lines before it), or is in the warning log. -/
theorem cli_keyfile_no_skip (b : Bytes) (i : Nat) (l : Bytes)
    (hl : (linesOf maxTok limit b)[i]? = some l) (hc : content l = true) :
    (∃ e, (cliParseRecipientsFile p sn sv lim maxTok limit b).res = .error e) ∨
    (∃ ks k, (cliParseRecipientsFile p sn sv lim maxTok limit b).res = .ok ks ∧ p l = some k ∧
      ks[((((linesOf maxTok limit b).take i).filter content).filterMap p).length]? = some k) ∨
    (p l = none ∧ (i + 1) ∈ (cliParseRecipientsFile p sn sv lim maxTok limit b).skipped) := by
  cases hres : (cliParseRecipientsFile p sn sv lim maxTok limit b).res with
  | error e => exact Or.inl ⟨e, rfl⟩
  | ok ks =>
    refine Or.inr ?_
    obtain ⟨_, hfine, hks, _⟩ := (cli_keyfile_exact p sn sv lim maxTok limit b ks).mp hres
    cases hp : p l with
    | some k =>
      refine Or.inl ⟨ks, k, rfl, rfl, ?_⟩
      obtain ⟨hsplit, _⟩ := getElem?_split _ i l hl
      generalize (linesOf maxTok limit b).take i = pre at hsplit ⊢
      rw [hks, hsplit, List.filter_append, List.filter_cons_of_pos hc, List.filterMap_append,
        List.filterMap_cons_some hp]
      exact getElem?_append_cons_length _ _ k
    | none =>
      refine Or.inr ⟨rfl, ?_⟩
      unfold cliParseRecipientsFile parseFile
      rw [loop_fine _ _ _ ((cli_allfine_iff p sn sv lim _).mpr hfine)]
      obtain ⟨hlen, hsk⟩ := hfine l (List.mem_of_getElem? hl) hc
      exact (mem_ignoredNums _ _ 0 _).mpr
        ⟨i, l, hl, (cli_ignored_iff p sn sv lim l).mpr ⟨hc, hlen, hp, hsk hp⟩, by rw [Nat.zero_add]⟩

/-- the three entry points without the skip branch never log a skip -/
theorem lib_never_skips (b : Bytes) : (parseFile (libLine p) maxTok limit b).skipped = [] := by
  refine List.eq_nil_iff_forall_not_mem.mpr fun m hm => ?_
  obtain ⟨_, l, _, hcls, _⟩ := mem_skipped _ _ _ m hm
  exact libLine_ne_ignored p l hcls

end cli

/-! ## the scanner model -/

/-- lines without `\n`, not ending in `\r`, shorter than the token limit, each
    terminated by `\n`: the scanner gives them back (empty lines included) -/
theorem lines_roundtrip_lf (maxTok : Nat) (ls : List Bytes)
    (h : ∀ l ∈ ls, 10 ∉ l ∧ l.getLast? ≠ some 13 ∧ l.length < maxTok) :
    scan maxTok (joinLF ls) = ⟨ls, false⟩ := by
  rw [scan, rawLines_joinLF_self ls fun l hl => (h l hl).1, scanFrom_short maxTok ls fun l hl => (h l hl).2.2,
    map_dropCR_id ls fun l hl => (h l hl).2.1]

/-- a missing final newline: the last, non-empty, line is still a line -/
theorem lines_roundtrip_nofinal (maxTok : Nat) (ls : List Bytes) (last : Bytes)
    (h : ∀ l ∈ ls ++ [last], 10 ∉ l ∧ l.getLast? ≠ some 13 ∧ l.length < maxTok) (hne : last ≠ []) :
    scan maxTok (joinLF ls ++ last) = ⟨ls ++ [last], false⟩ := by
  unfold scan
  rw [rawLines_joinLF ls last (fun l hl => (h l (by simp [hl])).1),
    rawLines_noNL last (h last (by simp)).1]
  simp only [hne, if_false]
  rw [scanFrom_short maxTok _ (fun l hl => (h l hl).2.2), map_dropCR_id _ (fun l hl => (h l hl).2.1)]

/-- CR LF endings: the lines come back without the `\r` (even lines that
    themselves end in `\r`: only one is dropped) -/
theorem lines_roundtrip_crlf (maxTok : Nat) (ls : List Bytes)
    (h : ∀ l ∈ ls, 10 ∉ l ∧ l.length + 1 < maxTok) :
    scan maxTok (joinCRLF ls) = ⟨ls, false⟩ := by
  have h13 : ∀ r ∈ ls.map (· ++ [13]), 10 ∉ r ∧ r.length < maxTok := by
    intro r hr
    obtain ⟨l, hl, rfl⟩ := List.mem_map.mp hr
    refine ⟨fun hm => ?_, by rw [List.length_append]; exact (h l hl).2⟩
    rcases List.mem_append.mp hm with hm | hm
    · exact (h l hl).1 hm
    · exact absurd (List.mem_singleton.mp hm) (by decide)
  rw [scan, joinCRLF_eq, rawLines_joinLF_self _ fun r hr => (h13 r hr).1,
    scanFrom_short maxTok _ fun r hr => (h13 r hr).2, map_dropCR_snoc]

/-- a line of `maxTok` bytes or more (terminated or not) stops the scanner with
    an error after the lines before it; nothing after it is delivered -/
theorem scan_token_too_long (maxTok : Nat) (ls : List Bytes) (long rest : Bytes)
    (h : ∀ l ∈ ls, 10 ∉ l ∧ l.getLast? ≠ some 13 ∧ l.length < maxTok)
    (hl : 10 ∉ long) (hlong : maxTok ≤ long.length) (hpos : 0 < maxTok) :
    scan maxTok (joinLF ls ++ long) = ⟨ls, true⟩ ∧
    scan maxTok (joinLF ls ++ (long ++ 10 :: rest)) = ⟨ls, true⟩ := by
  unfold scan
  have hne : long ≠ [] := by
    intro h0; rw [h0] at hlong; simp at hlong; omega
  constructor
  · rw [rawLines_joinLF ls long (fun l hl => (h l hl).1), rawLines_noNL long hl]
    simp only [hne, if_false]
    rw [scanFrom_long maxTok ls long [] (fun l hl => (h l hl).2.2) hlong,
      map_dropCR_id ls (fun l hl => (h l hl).2.1)]
  · rw [rawLines_joinLF ls _ (fun l hl => (h l hl).1), rawLines_line long rest hl]
    rw [scanFrom_long maxTok ls long _ (fun l hl => (h l hl).2.2) hlong,
      map_dropCR_id ls (fun l hl => (h l hl).2.1)]

/-- the `io.LimitReader`: nothing beyond `limit` bytes is seen; files within the
    limit are seen whole -/
theorem limit_reader (maxTok limit : Nat) (b : Bytes) :
    linesOf maxTok limit b = linesOf maxTok limit (b.take limit) ∧
    (b.length ≤ limit → linesOf maxTok limit b = (scan maxTok b).lines ∧
      scanFailed maxTok limit b = (scan maxTok b).err) := by
  refine ⟨by simp [linesOf, List.take_take], fun h => ?_⟩
  simp [linesOf, scanFailed, List.take_of_length_le h]

/-! ## what an error can say

  ### Model level
  `KeyFileErr` carries a line number and nothing else, so the error VALUE is a
  function of the position of the first offending line; the two theorems below
  say so without reference to the type: changing the offending line's content
  (and anything after it) leaves the whole outcome unchanged.

  ### The Go error TEXTS (analysis of /repo)
  * `age.ParseRecipients`: `"malformed recipient at line %d"` — the parser's own
    error is dropped. CLI `parseRecipientsFile`: `"%q: malformed recipient at line
    %d"`, `"%q: line %d is too long"`, warning `"recipients file %q: ignoring
    unsupported SSH key of type %q at line %d"`: file name, line number, and — in
    the warning — the key-type word (first field, equal to the type string inside
    the blob; not a supported type, or `ssh-rsa` on a well-formed public key
    line). No other part of a line is formatted.
  * `age.ParseIdentities` / CLI `parseIdentities`: `"error at line %d: %v"` with
    the error of `ParseX25519Identity`, `"malformed secret key: " +` one of
      - `invalid character: s[%d]=%d`            position, ONE code point (first rune outside 33..126)
      - `mixed case`
      - `separator '1' at invalid position: pos=%d, len=%d`   a position and the length
      - `invalid character data part: s[%d]=%v`  position, ONE code point (a rune printed as a number)
      - `invalid checksum`, `illegal zero padding`, `non-zero padding`
      - `invalid X25519 secret key`              (decoded length ≠ 32)
      - `unknown type %q`                        the HRP = everything before the LAST `1`
    (`invalid character human-readable part` and `invalid data range` are
    unreachable: the whole string was range-checked first and data values are
    charset indices < 32.) The CLI adds `unknown identity type` (no data) and, for
    `AGE-PLUGIN-` lines, the same bech32 messages under `invalid identity
    encoding:` plus `invalid plugin name: %q` (a part of the HRP).
    So the text embeds positions, lengths, one code point — and the HRP, only in
    `unknown type %q`/`invalid plugin name %q`, which are reached only AFTER the
    bech32 checksum verified for that HRP. In a genuine `AGE-SECRET-KEY-1…` line the
    last `1` is the separator (the bech32 charset has no `1`), so the HRP is the
    public prefix. Secret characters can only become part of an HRP if an edit puts
    a `1` into the data part AND the remainder is a valid bech32 string for the
    longer HRP (chance 2⁻³⁰ per edit for random edits). That residual case is not
    a statement about the loop and is not provable in this model (the line
    parser is a parameter); the harness oracle "no 8-character window of any secret
    key's data part occurs in the error text" covers it on the real strings.
-/

/-- Recipients file: two files whose delivered lines agree up to an offending
    line — whatever the content of that line in either file, and whatever
    follows — give the same result; it is an error naming that line or an
    earlier one. -/
theorem recipient_error_content_free (p : Bytes → Option Key) (maxTok limit : Nat) (b b' : Bytes)
    (pre post post' : List Bytes) (l l' : Bytes)
    (hb : linesOf maxTok limit b = pre ++ l :: post) (hb' : linesOf maxTok limit b' = pre ++ l' :: post')
    (hc : content l = true) (hp : p l = none) (hc' : content l' = true) (hp' : p l' = none) :
    parseRecipients p maxTok limit b = parseRecipients p maxTok limit b' ∧
    ∃ n, n ≤ pre.length + 1 ∧ parseRecipients p maxTok limit b = .error (.atLine n) := by
  have hbad : libLine p l = .bad := (libLine_bad_iff p l).mpr ⟨hc, hp⟩
  have hbad' : libLine p l' = .bad := (libLine_bad_iff p l').mpr ⟨hc', hp'⟩
  unfold parseRecipients parseLib parseFile
  rw [hb, hb']
  refine ⟨congrArg Outcome.res
    (loop_swap_fatal (libLine p) _ _ l l' post post' (by rw [hbad, hbad']) (by rw [hbad]; rfl) pre 0 [] []), ?_⟩
  -- the first fatal line of `pre ++ [l]` decides
  rcases first_true_split (fun l => fatal (libLine p l)) pre with hfine | ⟨pre2, x, post2, rfl, hpre2, hx⟩
  · exact ⟨pre.length + 1, Nat.le_refl _, by rw [loop_bad _ _ pre post l hfine hbad]⟩
  · have hxb : libLine p x = .bad := ((fatal_iff _).mp hx).resolve_right (libLine_ne_tooLong p x)
    refine ⟨pre2.length + 1, ?_, by rw [List.append_assoc, List.cons_append, loop_bad _ _ pre2 _ x hpre2 hxb]⟩
    rw [List.length_append]
    omega

/-- Identities file (library and CLI loop). FULL STATEMENT (DESIGN.md §8 C18, not
    provable in this model, whose errors are classes and whose line parser is a
    parameter): "the error TEXT for an identity line embeds at most positions,
    lengths, one code point and — only when a bech32 string with a valid checksum
    has a `1` after the prefix — the part before the last `1`; so no substring of
    the secret data part longer than one character appears". PROVED HERE: the
    part the model carries — the error VALUE depends on the position of the
    offending line only, never on its (secret) content. The text-level part is the
    code-reading analysis above plus the harness oracle on the real messages. -/
theorem identity_error_no_secret_partial (p : Bytes → Option Key) (maxTok limit : Nat) (b b' : Bytes)
    (pre post post' : List Bytes) (l l' : Bytes)
    (hb : linesOf maxTok limit b = pre ++ l :: post) (hb' : linesOf maxTok limit b' = pre ++ l' :: post')
    (hc : content l = true) (hp : p l = none) (hc' : content l' = true) (hp' : p l' = none) :
    parseIdentities p maxTok limit b = parseIdentities p maxTok limit b' ∧
    ∃ n, n ≤ pre.length + 1 ∧ parseIdentities p maxTok limit b = .error (.atLine n) :=
  recipient_error_content_free p maxTok limit b b' pre post post' l l' hb hb' hc hp hc' hp'

/-- byte-level instance: `pre` good lines, then an offending line `l` resp. `l'`
    (same position, different content), then the same rest -/
theorem error_content_free_bytes (p : Bytes → Option Key) (maxTok limit : Nat)
    (pre : List Bytes) (l l' rest : Bytes)
    (hpre : ∀ x ∈ pre, 10 ∉ x ∧ x.length < maxTok)
    (hl : 10 ∉ l ∧ l.length < maxTok) (hl' : 10 ∉ l' ∧ l'.length < maxTok)
    (hc : content (dropCR l) = true) (hp : p (dropCR l) = none)
    (hc' : content (dropCR l') = true) (hp' : p (dropCR l') = none)
    (hlen : (joinLF pre ++ (l ++ 10 :: rest)).length ≤ limit)
    (hlen' : (joinLF pre ++ (l' ++ 10 :: rest)).length ≤ limit) :
    parseLib p maxTok limit (joinLF pre ++ (l ++ 10 :: rest)) =
      parseLib p maxTok limit (joinLF pre ++ (l' ++ 10 :: rest)) := by
  have key : ∀ x : Bytes, 10 ∉ x → x.length < maxTok → (joinLF pre ++ (x ++ 10 :: rest)).length ≤ limit →
      linesOf maxTok limit (joinLF pre ++ (x ++ 10 :: rest)) =
        pre.map dropCR ++ dropCR x :: (scanFrom maxTok (rawLines rest)).lines := by
    intro x hx1 hx2 hx3
    unfold linesOf scan
    rw [List.take_of_length_le hx3, rawLines_joinLF pre _ (fun y hy => (hpre y hy).1),
      rawLines_line x rest hx1, scanFrom_append maxTok pre _ (fun y hy => (hpre y hy).2)]
    have : ¬ maxTok ≤ x.length := by omega
    simp [scanFrom, this]
  exact (recipient_error_content_free p maxTok limit _ _ (pre.map dropCR) _ _ (dropCR l) (dropCR l')
    (key l hl.1 hl.2 hlen) (key l' hl'.1 hl'.2 hlen') hc hp hc' hp').1

/-! ## non-vacuity -/

section examples
/-- toy line parser: a line `k<byte>` is the key `<byte>` -/
def toyParse : Bytes → Option Nat
  | [107, x] => some x.toNat
  | _ => none

/-- "# c\r\nk1\n\nk2\r\nk3" -/
def toyFile : Bytes := [35, 32, 99, 13, 10, 107, 49, 10, 10, 107, 50, 13, 10, 107, 51]

example : linesOf 65536 (2^24) toyFile = [[35, 32, 99], [107, 49], [], [107, 50], [107, 51]] := by decide +kernel
example : parseIdentities toyParse 65536 (2^24) toyFile = .ok [49, 50, 51] := by rfl
-- "k1\n k2\nzz\n": the line with a leading blank is not skipped
example : parseRecipients toyParse 65536 (2^24) [107, 49, 10, 32, 107, 50, 10, 122, 122, 10] = .error (.atLine 2) := by rfl
-- "#k1\n\n\r\n"
example : parseRecipients toyParse 65536 (2^24) [35, 107, 49, 10, 10, 13, 10] = .error .noKeys := by rfl
-- "k1\nk234\nk5\n" with a token limit of 4
example : parseRecipients toyParse 4 (2^24) [107, 49, 10, 107, 50, 51, 52, 10, 107, 53, 10] = .error .scanErr := by rfl
-- "zz\nk234\nk5\n": the bad line before the over-long one wins
example : parseRecipients toyParse 4 (2^24) [122, 122, 10, 107, 50, 51, 52, 10, 107, 53, 10] = .error (.atLine 1) := by rfl
-- "k1\nk2\nk3\n" through a LimitReader of 5 bytes: "k1\nk2"
example : parseRecipients toyParse 65536 5 [107, 49, 10, 107, 50, 10, 107, 51, 10] = .ok [49, 50] := by rfl

/-- toy sniffers: a line starting with `s` sniffs as type `ssh-rsa`, with `e` as
    an unsupported type; it is a valid authorized key iff it ends in `v` -/
def toySniff : Bytes → Option Bytes
  | 115 :: _ => some sshRsa
  | 101 :: _ => some [101, 99]
  | _ => none
def toyValid (l : Bytes) : Bool := l.getLast? = some 118

/-- "k1\nsv\ne\nk2\n" -/
def toyR1 : Bytes := [107, 49, 10, 115, 118, 10, 101, 10, 107, 50, 10]
/-- "k1\nsv\ns\nk2\n" -/
def toyR2 : Bytes := [107, 49, 10, 115, 118, 10, 115, 10, 107, 50, 10]

example : (cliParseRecipientsFile toyParse toySniff toyValid 8 65536 (2^24) toyR1).res = .ok [49, 50] := by rfl
example : (cliParseRecipientsFile toyParse toySniff toyValid 8 65536 (2^24) toyR1).skipped = [2, 3] := by decide +kernel
example : (cliParseRecipientsFile toyParse toySniff toyValid 8 65536 (2^24) toyR2).res = .error (.atLine 3) := by rfl
example : (cliParseRecipientsFile toyParse toySniff toyValid 8 65536 (2^24) toyR2).skipped = [2] := by decide +kernel
-- "k1\n#23456789\ne23456789\n": a long comment is fine, a long skippable line is not
example : (cliParseRecipientsFile toyParse toySniff toyValid 8 65536 (2^24)
    [107, 49, 10, 35, 50, 51, 52, 53, 54, 55, 56, 57, 10, 101, 50, 51, 52, 53, 54, 55, 56, 57, 10]).res
    = .error (.lineTooLong 3) := by rfl
-- "sv\ne\n": only skipped lines
example : (cliParseRecipientsFile toyParse toySniff toyValid 8 65536 (2^24) [115, 118, 10, 101, 10]).res
    = .error .noKeys := by rfl
end examples

/-! ## non-vacuity, theorem by theorem: the hypotheses of each theorem at concrete values

  No hypotheses (equations / equivalences, both sides of which are reached by
  the `example`s above): `entry_points`, `keyfile_exact`, `keyfile_first_error`,
  `cli_keyfile_exact`, `cli_keyfile_first_error`, `lib_never_skips`. -/

section nonvacuous

/-- non-vacuity of `keyfile_exact_count`: the five-line `toyFile` (comment, CR LF
    and LF endings, an empty line, no final newline) parses to three keys -/
theorem keyfile_exact_count_nonvacuous :
    parseLib toyParse 65536 (2^24) toyFile = .ok [49, 50, 51] := by rfl

example : ([49, 50, 51] : List Nat).length = ((linesOf 65536 (2^24) toyFile).filter content).length :=
  (keyfile_exact_count toyParse 65536 (2^24) toyFile _ keyfile_exact_count_nonvacuous).1

/-- non-vacuity of `keyfile_no_skip`: line 4 of `toyFile` (`k2`, after a comment,
    a key and an empty line) is delivered and is neither empty nor a comment -/
theorem keyfile_no_skip_nonvacuous :
    (linesOf 65536 (2^24) toyFile)[3]? = some [107, 50] ∧ content [107, 50] = true := by decide +kernel

/-- non-vacuity of `cli_skipped_sound`: line 2 (`sv`) of `toyR1` is in the warning log -/
theorem cli_skipped_sound_nonvacuous :
    2 ∈ (cliParseRecipientsFile toyParse toySniff toyValid 8 65536 (2^24) toyR1).skipped := by decide +kernel

/-- a sniffer that recognises lines starting with `d` as `ssh-ed25519` -/
def toySniffEd : Bytes → Option Bytes
  | 100 :: _ => some sshEd25519
  | l => toySniff l

/-- non-vacuity of `cli_ed25519_never_skipped`: "k1\nd9\nk2\n", whose second line does
    not parse and sniffs as `ssh-ed25519` -/
theorem cli_ed25519_never_skipped_nonvacuous :
    (linesOf 65536 (2^24) [107, 49, 10, 100, 57, 10, 107, 50, 10])[1]? = some [100, 57] ∧
    content [100, 57] = true ∧ toyParse [100, 57] = none ∧ toySniffEd [100, 57] = some sshEd25519 := by
  decide +kernel

/-- … and the theorem's second part at these values: line 1 (`k1`) parses, so the
    result is the error of line 2 itself -/
example : (cliParseRecipientsFile toyParse toySniffEd toyValid 8 65536 (2^24)
    [107, 49, 10, 100, 57, 10, 107, 50, 10]).res = .error (.atLine 2) :=
  have h := cli_ed25519_never_skipped_nonvacuous
  (cli_ed25519_never_skipped toyParse toySniffEd toyValid 8 65536 (2^24) _ 1 _ h.1 h.2.1 h.2.2.1 h.2.2.2).2
    (by decide +kernel)

/-- non-vacuity of `cli_keyfile_no_skip`: line 2 (`sv`, logged) of `toyR1`; the
    `example` below: line 4 (`k2`, the second key) -/
theorem cli_keyfile_no_skip_nonvacuous :
    (linesOf 65536 (2^24) toyR1)[1]? = some [115, 118] ∧ content [115, 118] = true := by decide +kernel

example : (linesOf 65536 (2^24) toyR1)[3]? = some [107, 50] ∧ content [107, 50] = true := by decide +kernel

/-- non-vacuity of `lines_roundtrip_lf`: a key line, an empty line, a line with an
    inner `\r` -/
theorem lines_roundtrip_lf_nonvacuous :
    ∀ l ∈ ([[107, 49], [], [35, 13, 32]] : List Bytes), 10 ∉ l ∧ l.getLast? ≠ some 13 ∧ l.length < 65536 := by decide +kernel

example : scan 65536 [107, 49, 10, 10, 35, 13, 32, 10] = ⟨[[107, 49], [], [35, 13, 32]], false⟩ :=
  lines_roundtrip_lf 65536 _ lines_roundtrip_lf_nonvacuous

/-- non-vacuity of `lines_roundtrip_nofinal`: "k1\n\nk2" -/
theorem lines_roundtrip_nofinal_nonvacuous :
    (∀ l ∈ ([[107, 49], []] : List Bytes) ++ [([107, 50] : Bytes)], 10 ∉ l ∧ l.getLast? ≠ some 13 ∧ l.length < 65536) ∧
    ([107, 50] : Bytes) ≠ [] := by decide +kernel

example : scan 65536 [107, 49, 10, 10, 107, 50] = ⟨[[107, 49], [], [107, 50]], false⟩ :=
  lines_roundtrip_nofinal 65536 [[107, 49], []] [107, 50] lines_roundtrip_nofinal_nonvacuous.1
    lines_roundtrip_nofinal_nonvacuous.2

/-- non-vacuity of `lines_roundtrip_crlf`: a key line, a line that is itself `\r`, an empty line -/
theorem lines_roundtrip_crlf_nonvacuous :
    ∀ l ∈ ([[107, 49], [13], []] : List Bytes), 10 ∉ l ∧ l.length + 1 < 65536 := by decide +kernel

example : scan 65536 [107, 49, 13, 10, 13, 13, 10, 13, 10] = ⟨[[107, 49], [13], []], false⟩ :=
  lines_roundtrip_crlf 65536 _ lines_roundtrip_crlf_nonvacuous

/-- non-vacuity of `scan_token_too_long`: token limit 4, "k1\n" then the 4-byte line `k234` -/
theorem scan_token_too_long_nonvacuous :
    (∀ l ∈ ([[107, 49]] : List Bytes), 10 ∉ l ∧ l.getLast? ≠ some 13 ∧ l.length < 4) ∧
    10 ∉ ([107, 50, 51, 52] : Bytes) ∧ 4 ≤ ([107, 50, 51, 52] : Bytes).length ∧ 0 < 4 := by decide +kernel

example : scan 4 [107, 49, 10, 107, 50, 51, 52, 10, 107, 53, 10] = ⟨[[107, 49]], true⟩ :=
  (scan_token_too_long 4 [[107, 49]] [107, 50, 51, 52] [107, 53, 10] scan_token_too_long_nonvacuous.1
    scan_token_too_long_nonvacuous.2.1 scan_token_too_long_nonvacuous.2.2.1
    scan_token_too_long_nonvacuous.2.2.2).2

/-- non-vacuity of `limit_reader` (no outer hypotheses; the premise of its second
    part): `toyFile` is within the 16 MiB limit -/
theorem limit_reader_nonvacuous : toyFile.length ≤ 2^24 := by decide +kernel

/-- non-vacuity of `recipient_error_content_free` and (same hypotheses, `parseIdentities`
    for `parseRecipients`) of `identity_error_no_secret_partial`: "k1\nzz\nk2\n" and
    "k1\nyyy\n" agree up to line 2, which in neither file parses -/
theorem recipient_error_content_free_nonvacuous :
    linesOf 65536 (2^24) [107, 49, 10, 122, 122, 10, 107, 50, 10] = [[107, 49]] ++ [122, 122] :: [[107, 50]] ∧
    linesOf 65536 (2^24) [107, 49, 10, 121, 121, 121, 10] = [[107, 49]] ++ [121, 121, 121] :: [] ∧
    content [122, 122] = true ∧ toyParse [122, 122] = none ∧
    content [121, 121, 121] = true ∧ toyParse [121, 121, 121] = none := by decide +kernel

example : parseIdentities toyParse 65536 (2^24) [107, 49, 10, 122, 122, 10, 107, 50, 10] =
    parseIdentities toyParse 65536 (2^24) [107, 49, 10, 121, 121, 121, 10] :=
  (identity_error_no_secret_partial toyParse 65536 (2^24) _ _ [[107, 49]] [[107, 50]] [] [122, 122] [121, 121, 121]
    recipient_error_content_free_nonvacuous.1 recipient_error_content_free_nonvacuous.2.1
    recipient_error_content_free_nonvacuous.2.2.1 recipient_error_content_free_nonvacuous.2.2.2.1
    recipient_error_content_free_nonvacuous.2.2.2.2.1 recipient_error_content_free_nonvacuous.2.2.2.2.2).1
example : parseRecipients toyParse 65536 (2^24) [107, 49, 10, 122, 122, 10, 107, 50, 10] = .error (.atLine 2) := by rfl

/-- non-vacuity of `error_content_free_bytes`: one good line `k1`, then `zz` resp.
    `y\r` (a CR LF ending), then the same rest "k2\n" -/
theorem error_content_free_bytes_nonvacuous :
    (∀ x ∈ ([[107, 49]] : List Bytes), 10 ∉ x ∧ x.length < 65536) ∧
    (10 ∉ ([122, 122] : Bytes) ∧ ([122, 122] : Bytes).length < 65536) ∧
    (10 ∉ ([121, 13] : Bytes) ∧ ([121, 13] : Bytes).length < 65536) ∧
    content (dropCR [122, 122]) = true ∧ toyParse (dropCR [122, 122]) = none ∧
    content (dropCR [121, 13]) = true ∧ toyParse (dropCR [121, 13]) = none ∧
    (joinLF [[107, 49]] ++ ([122, 122] ++ 10 :: [107, 50, 10])).length ≤ 2^24 ∧
    (joinLF [[107, 49]] ++ ([121, 13] ++ 10 :: [107, 50, 10])).length ≤ 2^24 := by decide +kernel

example : parseLib toyParse 65536 (2^24) (joinLF [[107, 49]] ++ ([122, 122] ++ 10 :: [107, 50, 10])) =
    parseLib toyParse 65536 (2^24) (joinLF [[107, 49]] ++ ([121, 13] ++ 10 :: [107, 50, 10])) :=
  have h := error_content_free_bytes_nonvacuous
  error_content_free_bytes toyParse 65536 (2^24) [[107, 49]] [122, 122] [121, 13] [107, 50, 10]
    h.1 h.2.1 h.2.2.1 h.2.2.2.1 h.2.2.2.2.1 h.2.2.2.2.2.1 h.2.2.2.2.2.2.1 h.2.2.2.2.2.2.2.1 h.2.2.2.2.2.2.2.2

/-- the hypotheses above have literally the shape the theorems ask for -/
example := keyfile_no_skip toyParse 65536 (2^24) toyFile 3 _ keyfile_no_skip_nonvacuous.1 keyfile_no_skip_nonvacuous.2
example := cli_skipped_sound toyParse toySniff toyValid 8 65536 (2^24) toyR1 2 cli_skipped_sound_nonvacuous
example := cli_ed25519_never_skipped toyParse toySniffEd toyValid 8 65536 (2^24) _ 1 _
  cli_ed25519_never_skipped_nonvacuous.1 cli_ed25519_never_skipped_nonvacuous.2.1
  cli_ed25519_never_skipped_nonvacuous.2.2.1 cli_ed25519_never_skipped_nonvacuous.2.2.2
example := cli_keyfile_no_skip toyParse toySniff toyValid 8 65536 (2^24) toyR1 1 _
  cli_keyfile_no_skip_nonvacuous.1 cli_keyfile_no_skip_nonvacuous.2
example := (limit_reader 65536 (2^24) toyFile).2 limit_reader_nonvacuous
example := recipient_error_content_free toyParse 65536 (2^24) _ _ [[107, 49]] [[107, 50]] [] [122, 122] [121, 121, 121]
    recipient_error_content_free_nonvacuous.1 recipient_error_content_free_nonvacuous.2.1
    recipient_error_content_free_nonvacuous.2.2.1 recipient_error_content_free_nonvacuous.2.2.2.1
    recipient_error_content_free_nonvacuous.2.2.2.2.1 recipient_error_content_free_nonvacuous.2.2.2.2.2

end nonvacuous

end Props.C18
end AgeModel
