/-
  C15 — CLI: exit status 0 if and only if the whole result was delivered.

  Property theorems only; the helper lemmas live in Proofs/Cli*.lean, the model
  and the vocabulary (`Holds`, `OutputFails`, `KHolds`) in AgeModel/Cli.lean.

  The theorems quantify over every argument record `a`, every world `w` and
  every oracle `o` (what the cryptographic library does with the inputs).
  `run a w o` is the model of `age`, `krun a w o` that of `age-keygen`; both
  return the exit status, the world after the run and the bytes standard
  output accepted.

  `-version` prints the version line through `printVersion`, which exits 1 when
  the write fails (repaired in /repo: it used to be an unchecked `fmt.Println`,
  so `age -version > /dev/full` exited 0).  The version line is therefore a
  result like any other in `exit0_iff_delivered` / `keygen_exit0_iff`; the
  theorems about decryption, encryption and the same-file refusal keep the
  hypothesis `a.version = false` simply because `-version` ends the run before
  any of that is looked at.  The operating system is modelled as far as `World`
  goes: no links, no permissions, no other process.

  Observations, outside the property text (real behaviour, reproduced by the
  harness, consistent with the model; on record, not claimed as defects):
  * an encryption whose INPUT cannot be read leaves an incomplete output behind:
    `age -r KEY -o out somedir` exits 1 and `out` holds the header only; likewise
    `age-keygen -y -o new bad-input` exits 1 and leaves an empty `new` (mode 0600),
    because age-keygen opens its output before it reads its input;
  * identities are tried in command-line order and the first hard error ends
    `age.Decrypt`: `age -d -j nonesuch -i key f` fails (the plugin cannot be
    started) while `age -d -i key -j nonesuch f` succeeds;
  * the same-file check is lexical while the kernel resolves paths: `-o
    missing/../x` with input `x` is refused as the same file although the kernel
    could not even open that spelling, and `-o missing/../out` passes the check
    and then fails in `os.Create` (both exit non-zero, nothing is touched).
-/
import Proofs.CliPath
import Proofs.CliMain
import Proofs.CliKeygen
namespace AgeModel
namespace Props.C15
open Cli

/-! ## age -/

/-- Exit status 0 exactly when the complete result is what the output now
    holds.  With `-version` the result is the version line and the output is
    standard output.  Otherwise: the flags are valid and nothing names a file in
    use (`prepare` yields an output destination), the operation is one that
    succeeds (`operation` yields a plan with a complete result: every key file
    parses, `age.Decrypt` returns a reader that reaches the end, or encryption
    gets going and the input can be read), and that complete result is what the
    output now holds: the `-o` file (closed without error) has exactly that
    content, or standard output took exactly those bytes. -/
theorem exit0_iff_delivered (a : Args) (w : World) (o : Oracle) (ho : o.WF) :
    (run a w o).exit = 0 ↔
      a.noArgs = false ∧
      ((a.version = true ∧ Holds .stdout w (run a w o) o.versionLine) ∨
       (a.version = false ∧ ∃ dest plan result,
          prepare a w = .ok dest ∧ operation a w o = .ok plan ∧ plan.complete = some result ∧
          Holds dest w (run a w o) result)) := by
  cases hv : a.version with
  | true =>
    simp only [true_and, Bool.true_eq_false, false_and, or_false]
    cases hn : a.noArgs with
    | true => rw [run_noArgs a w o hn]; simp
    | false =>
      rw [run_version a w o hn hv]
      simp only [true_and]
      exact (printVersion_spec w o.versionLine).2.1
  | false =>
    simp only [Bool.false_eq_true, false_and, false_or, true_and]
    rcases run_cases a w o hv with ⟨hr, hwhy⟩ | ⟨dest, plan, hn, hp, hop, hb, hr⟩
    · rw [hr]
      refine ⟨fun h => absurd h (by simp), fun ⟨hn, dest, plan, _, hp, hop, _⟩ => ?_⟩
      rcases hwhy with h | ⟨e, h⟩ | ⟨e, h⟩
      · rw [hn] at h; cases h
      · rw [hp] at h; cases h
      · rw [hop] at h; cases h
    · rw [hr, execute_exit0_iff dest plan w hb (operation_enc_ne a w o ho plan hop)]
      constructor
      · intro ⟨result, hc, hh⟩
        exact ⟨hn, dest, plan, result, hp, hop, hc, hh⟩
      · intro ⟨_, dest', plan', result, hd, hpl, hc, hh⟩
        cases hp.symm.trans hd
        cases hop.symm.trans hpl
        exact ⟨result, hc, hh⟩

/-- `-version` to an output that rejects or cannot take the whole line (/dev/full,
    a pipe closing early, RLIMIT_FSIZE): the exit status is not 0; the world is
    untouched and what did get out is a prefix of the line. -/
theorem version_output_failure_nonzero (a : Args) (w : World) (o : Oracle) (hn : a.noArgs = false)
    (hv : a.version = true) :
    (OutputFails w o.versionLine .stdout → (run a w o).exit ≠ 0) ∧
    (run a w o).world = w ∧ (run a w o).stdout <+: o.versionLine := by
  rw [run_version a w o hn hv, printVersion_eq]
  exact ⟨fun hf => by simp [Stdout.takes_of_outputFails hf], rfl, w.stdout.takes_prefix _⟩

/-- in particular an exit status of 0 means the flags passed main's switch -/
theorem exit0_flags_valid (a : Args) (w : World) (o : Oracle) (hv : a.version = false) (ho : o.WF)
    (h : (run a w o).exit = 0) :
    a.noArgs = false ∧ a.positional.length ≤ 1 ∧ flagCheck a = none := by
  obtain ⟨hn, hcase⟩ := (exit0_iff_delivered a w o ho).1 h
  rcases hcase with ⟨hv', _⟩ | ⟨_, dest, _, _, hp, _⟩
  · rw [hv] at hv'; exact Bool.noConfusion hv'
  have := prepare_ok a w dest hp
  exact ⟨hn, this.1, this.2.1⟩

/-- Decryption refused before a reader exists (a key file that does not parse,
    `age.Decrypt` returning an error: no matching identity, wrong passphrase,
    malformed or altered header, unreadable input): exit status 1 and the world
    is exactly what it was — the `-o` path is neither created nor modified — and
    nothing is written to standard output. -/
theorem header_refusal_no_touch (a : Args) (w : World) (o : Oracle) (hv : a.version = false)
    (hd : a.decrypt = true) (href : ∀ pt fa, operation a w o ≠ .ok (.dec (.ok pt fa))) :
    (run a w o).exit = 1 ∧ (run a w o).world = w ∧ (run a w o).stdout = [] ∧
      ∀ t, (run a w o).world.get t = w.get t := by
  have key : run a w o = ⟨1, w, []⟩ := by
    rcases run_cases a w o hv with ⟨hr, _⟩ | ⟨dest, plan, _, _, hop, _, hr⟩
    · exact hr
    · rcases operation_plan a w o plan hop with ⟨_, oc, hpl⟩ | ⟨hdf, _⟩
      · subst hpl
        cases oc with
        | headerRefused => exact hr
        | ok pt fa => exact absurd hop (href pt fa)
      · rw [hd] at hdf; cases hdf
  rw [key]
  exact ⟨rfl, rfl, rfl, fun _ => rfl⟩

/-- The payload fails after `n` bytes of plaintext: the exit status is not 0,
    standard output received a prefix of the `n` bytes of true plaintext released
    before the failure (nothing past them, nothing else), and every path either is
    what it was or is a regular file holding a prefix of those `n` bytes. -/
theorem payload_failure_prefix (a : Args) (w : World) (o : Oracle) (pt : Bytes) (n : Nat)
    (hv : a.version = false) (hop : operation a w o = .ok (.dec (.ok pt (some n)))) :
    (run a w o).exit ≠ 0 ∧ (run a w o).stdout <+: pt.take n ∧
      ∀ u, (run a w o).world.get u = w.get u ∨
        ∃ c m, (run a w o).world.get u = .file c m ∧ c <+: pt.take n := by
  rcases run_cases a w o hv with ⟨hr, _⟩ | ⟨dest, plan, _, _, hop', hb, hr⟩
  · rw [hr]
    exact ⟨by simp, List.nil_prefix, fun _ => Or.inl rfl⟩
  · cases hop.symm.trans hop'
    rw [hr]
    obtain ⟨h1, h2, h3⟩ := execute_payload dest w pt n hb
    exact ⟨by simp [h1], h2, h3⟩

/-- An output that cannot be created (missing or non-directory parent, a
    directory), that rejects writes (/dev/full), that takes fewer bytes than the
    complete result (a closing pipe, RLIMIT_FSIZE, a full disk), or whose close
    fails: the exit status is not 0, even though the operation itself would
    have succeeded. -/
theorem output_failure_nonzero (a : Args) (w : World) (o : Oracle) (dest : Dest) (plan : Plan) (result : Bytes)
    (hv : a.version = false) (ho : o.WF) (hp : prepare a w = .ok dest) (hop : operation a w o = .ok plan)
    (hc : plan.complete = some result) (hf : OutputFails w result dest) : (run a w o).exit ≠ 0 := by
  rcases run_cases a w o hv with ⟨hr, _⟩ | ⟨dest', plan', _, hp', hop', _, hr⟩
  · simp [hr]
  · cases hp.symm.trans hp'
    cases hop.symm.trans hop'
    rw [hr]
    exact execute_output_fails dest plan w result (operation_enc_ne a w o ho plan hop) hc hf

/-- The output names — under any spelling `p` with the same cleaned absolute
    path as a spelling `q` — the input, an `-i` identity file or an `-R`
    recipients file: exit status 1, the world is untouched, nothing is written. -/
theorem same_file_refused (a : Args) (w : World) (o : Oracle) (q : Bytes) (hv : a.version = false)
    (hout : isFileName a.output = true) (hq : q ∈ inUseNames a)
    (heq : absPath w.cwd a.output = absPath w.cwd q) :
    (run a w o).exit = 1 ∧ (run a w o).world = w ∧ (run a w o).stdout = [] := by
  obtain ⟨e, he⟩ := prepare_same_file a w q hout hq heq
  rcases run_cases a w o hv with ⟨hr, _⟩ | ⟨dest, _, _, hp, _⟩
  · rw [hr]
    exact ⟨rfl, rfl, rfl⟩
  · cases he.symm.trans hp

/-- Go compares the strings `filepath.Abs` returns; for a valid working
    directory that is the comparison of cleaned component lists the model makes. -/
theorem same_file_refused_strings (a : Args) (w : World) (o : Oracle) (q : Bytes) (hv : a.version = false)
    (hcwd : ValidPath w.cwd) (hout : isFileName a.output = true) (hq : q ∈ inUseNames a)
    (heq : render (absPath w.cwd a.output) = render (absPath w.cwd q)) :
    (run a w o).exit = 1 ∧ (run a w o).world = w ∧ (run a w o).stdout = [] :=
  same_file_refused a w o q hv hout hq ((abs_string_eq_iff w.cwd a.output q hcwd).1 heq)

/-- Whatever happens, only the path `-o` resolves to can change: the input, the
    identity and recipients files and everything else are left alone. -/
theorem only_output_changes (a : Args) (w : World) (o : Oracle) (u : Path)
    (hu : isFileName a.output = false ∨ resolve w a.output ≠ some u) :
    (run a w o).world.get u = w.get u := by
  cases hv : a.version with
  | true =>
    cases hn : a.noArgs with
    | true => rw [run_noArgs a w o hn]
    | false => rw [run_version a w o hn hv, (printVersion_spec w o.versionLine).1]
  | false =>
    rcases run_cases a w o hv with ⟨hr, _⟩ | ⟨dest, plan, _, hp, _, hb, hr⟩
    · rw [hr]
    · rw [hr]
      refine execute_frame dest plan w hb u (fun name hd => ?_)
      subst hd
      obtain ⟨hname, hfile, _⟩ := prepare_lazy a w name hp
      subst hname
      rcases hu with h | h
      · rw [hfile] at h; exact Bool.noConfusion h
      · exact h

/-! ### spellings of one path -/

theorem clean_idempotent (p : Bytes) : clean (clean p) = clean p := Cli.clean_idempotent p

/-- `filepath.Abs` sends all of these spellings of a relative path `p` below the
    working directory to the same cleaned path: `./p`, `p/.`, `p/`, `d/../p`,
    a doubled slash anywhere, and the absolute spelling `cwd/p`. -/
theorem abs_spelling (cwd : Path) (p : Bytes) (hcwd : ValidPath cwd) (hp : p ≠ []) (hrel : rooted p = false) :
    absPath cwd (dotB ++ slash :: p) = absPath cwd p ∧
    absPath cwd (p ++ slash :: dotB) = absPath cwd p ∧
    absPath cwd (p ++ [slash]) = absPath cwd p ∧
    (∀ d, NormalComp d → absPath cwd (d ++ slash :: (dotdot ++ slash :: p)) = absPath cwd p) ∧
    (∀ x y, p = x ++ slash :: y → absPath cwd (x ++ slash :: slash :: y) = absPath cwd p) ∧
    absPath cwd (render cwd ++ slash :: p) = absPath cwd p ∧
    absPath cwd (render (absPath cwd p)) = absPath cwd p :=
  ⟨abs_dot_slash cwd p hrel, abs_slash_dot cwd p hp, abs_trailing_slash cwd p hp,
   fun d hd => abs_down_up cwd d p hd hrel,
   fun x y h => by rw [h]; exact abs_double_slash cwd x y,
   abs_absolute cwd p hcwd hrel, absPath_idempotent cwd p hcwd⟩

/-- when the kernel resolves a path at all, it resolves it to what `filepath.Abs` computes (no links) -/
theorem resolve_is_abs (w : World) (p : Bytes) (t : Path) (h : resolve w p = some t) : t = absPath w.cwd p :=
  resolve_eq_abs w p t h

/-! ## age-keygen -/

/-- `-o` names something that exists (a file, a directory, a device): exit
    status 1, nothing is changed, nothing is printed. -/
theorem keygen_no_overwrite (a : KArgs) (w : World) (o : KOracle) (t : Path) (hv : a.version = false)
    (hout : a.output ≠ []) (hr : resolve w a.output = some t) (hg : w.get t ≠ .absent) :
    (krun a w o).exit = 1 ∧ (krun a w o).world = w ∧ (krun a w o).stdout = [] := by
  rw [krun_uncreatable a w o hv hout (createExcl_exists w a.output t hr hg)]
  exact ⟨rfl, rfl, rfl⟩

/-- Exit status 0 exactly when the arguments are valid and the complete result
    is what the output holds. With `-version`: standard output took the whole
    version line. Otherwise the input (in `-y` mode) opens and parses, and
    standard output took exactly the result, or the `-o` path did not exist and
    is now a regular file with mode `0600 &^ umask` holding exactly it. -/
theorem keygen_exit0_iff (a : KArgs) (w : World) (o : KOracle) (ho : o.WF) :
    (krun a w o).exit = 0 ↔
      kargsValid a = true ∧
      ((a.version = true ∧ Holds .stdout w (krun a w o) o.versionLine) ∨
       (a.version = false ∧ ∃ segs, koperation a (kworld1 a w) o = some segs ∧
          KHolds a w (krun a w o) segs.flatten)) := by
  cases hargs : kargsValid a with
  | false => rw [krun_invalid a w o hargs]; simp
  | true =>
    simp only [true_and]
    cases hv : a.version with
    | true =>
      simp only [or_false, true_and, Bool.true_eq_false, false_and]
      rw [krun_version a w o hargs hv]
      exact (printVersion_spec w o.versionLine).2.1
    | false =>
    simp only [Bool.false_eq_true, false_and, false_or, true_and]
    by_cases hout : a.output = []
    · -- standard output
      have h := krun_stdout a w o hv hargs hout
      simp only [kworld1, hout, if_true, KHolds]
      cases hop : koperation a w o with
      | none => rw [hop] at h; simp [h]
      | some segs =>
        rw [hop] at h
        simp only [Option.some.injEq, exists_eq_left']
        rw [h (koperation_ne a w o ho segs hop)]
        exact (printVersion_spec w segs.flatten).2.1
    · -- the -o file
      simp only [KHolds, hout, if_false]
      by_cases hex : ∃ t, resolve w a.output = some t ∧ w.get t = .absent
      · obtain ⟨t, hr, hg⟩ := hex
        obtain ⟨w', _, h⟩ := krun_file a w o hv hargs hout t hr hg
        cases hop : koperation a (kworld1 a w) o with
        | none =>
          rw [hop] at h
          rw [h.1]
          exact ⟨fun h0 => absurd h0 (by simp), fun ⟨_, hs, _⟩ => nomatch hs⟩
        | some segs =>
          rw [hop] at h
          rw [h.1]
          simp only [file_exit0_iff, Option.some.injEq, exists_eq_left', exists_resolve_iff hr, hg, h.2]
          simp
      · rw [krun_uncreatable a w o hv hout (createExcl_unusable w a.output hex)]
        exact ⟨fun h0 => absurd h0 (by simp), fun ⟨_, _, _, t, hr, hg, _⟩ => absurd ⟨t, hr, hg⟩ hex⟩

/-- Whenever age-keygen creates its `-o` file — whether or not the run then
    succeeds — the file's mode is `0600 &^ umask`: never readable, writable or
    executable by group or others, and exactly 0600 under any umask that leaves
    the owner's read and write bits alone; no other path changes. -/
theorem keygen_mode_0600 (a : KArgs) (w : World) (o : KOracle) (t : Path) (hv : a.version = false)
    (hargs : kargsValid a = true) (hout : a.output ≠ []) (hr : resolve w a.output = some t)
    (hg : w.get t = .absent) :
    (∃ c, (krun a w o).world.get t = .file c (applyUmask 0o600 w.umask)) ∧
    applyUmask 0o600 w.umask &&& 0o077 = 0 ∧
    (w.umask &&& 0o600 = 0 → applyUmask 0o600 w.umask = 0o600) ∧
    (∀ u, u ≠ t → (krun a w o).world.get u = w.get u) := by
  obtain ⟨w', hfr, h⟩ := krun_file a w o hv hargs hout t hr hg
  have hw : (krun a w o).world = w' ∧ ∃ c, w'.get t = .file c (applyUmask 0o600 w.umask) := by
    cases hop : koperation a (kworld1 a w) o with
    | none => rw [hop] at h; exact ⟨by rw [h.1], _, h.2⟩
    | some segs => rw [hop] at h; exact ⟨by rw [h.1], _, h.2⟩
  rw [hw.1]
  exact ⟨hw.2, applyUmask_600_private w.umask, applyUmask_600_exact w.umask, hfr⟩

/-! ## The copy loops are modelled as one write

`io.Copy`, the STREAM writer, the armor writer and age-keygen's `-y` loop issue
many non-empty writes and stop at the first error; the model of `age` hands the
whole byte string to the destination at once.  For the destinations of the
model that makes no difference to the final content, the bytes standard output
accepted, or success: -/

/-- writing segment by segment to an open file = writing the concatenation at once -/
theorem segmentation_irrelevant_file (t : Path) (m : Nat) (segs : List Bytes) (p : Proc) (c0 : Bytes)
    (hg : p.w.get t = .file c0 m) (hcap : ∀ L, p.w.fsize = some L → c0.length ≤ L) :
    (kwriteLines (.file t) p segs).1.w.get t = (p.writeFile t segs.flatten).1.w.get t ∧
    (kwriteLines (.file t) p segs).2 = (p.writeFile t segs.flatten).2 := by
  have h : FileAt p.w t m c0 p := ⟨hg, fun _ _ => rfl, rfl, rfl⟩
  obtain ⟨hf, hok⟩ := h.kwriteLines hcap segs
  obtain ⟨hf', hok'⟩ := h.writeFile segs.flatten
  exact ⟨hf.node.trans hf'.node.symm, hok.trans hok'.symm⟩

/-- ... and to standard output (a device that rejects everything rejects the first
    segment just as it rejects the whole; with no segment at all nothing is written) -/
theorem segmentation_irrelevant_stdout (segs : List Bytes) (p : Proc) (hne : segs ≠ [])
    (hinv : ∀ c, p.w.stdout = .limited (some c) → p.emitted.length ≤ c) :
    (kwriteLines .stdout p segs).1.emitted = (p.writeStdout segs.flatten).1.emitted ∧
    (kwriteLines .stdout p segs).2 = (p.writeStdout segs.flatten).2 := by
  obtain ⟨l, ls, rfl⟩ := List.exists_cons_of_ne_nil hne
  rw [kwriteLines_stdout, List.flatten_cons]
  exact ⟨rfl, rfl⟩

/-! ## Non-vacuity: concrete worlds -/

section Examples

-- names and paths as bytes (string literals do not reduce under `decide +kernel`)
abbrev nT : Bytes := [116]                                        -- "t"
abbrev nIn : Bytes := [105, 110]                                  -- "in"
abbrev nKey : Bytes := [107, 101, 121]                            -- "key"
abbrev nOld : Bytes := [111, 108, 100]                            -- "old"
abbrev nSub : Bytes := [115, 117, 98]                             -- "sub"
abbrev nOut : Bytes := [111, 117, 116]                            -- "out"
abbrev nNew : Bytes := [110, 101, 119]                            -- "new"
abbrev pNodirOut : Bytes := [110, 111, 100, 105, 114, 47, 111, 117, 116]   -- "nodir/out"
abbrev pSubUpIn : Bytes := [115, 117, 98, 47, 46, 46, 47, 105, 110]        -- "sub/../in"
abbrev pAbsKey : Bytes := [47, 116, 47, 47, 107, 101, 121]                 -- "/t//key"
abbrev devel : Bytes := [40, 100, 101, 118, 101, 108, 41, 10]              -- "(devel)\n"

/-- /t is the working directory; it holds an input, a key file, an old output and a directory -/
def w0 : World :=
  { cwd := [nT],
    nodes := [([nT], .dir), ([nT, nIn], .file [1, 2, 3] 0o644), ([nT, nKey], .file [7] 0o600),
              ([nT, nOld], .file [9, 9] 0o600), ([nT, nSub], .dir)] }

def o0 : Oracle :=
  { recipientOK := fun _ => true, recipientsFileOK := fun _ => true, identityFileOK := fun _ => true,
    pluginOK := fun _ => true, passphraseOK := false, wrapOK := true,
    dec := .ok [10, 20, 30] none, ct := [5, 6, 7, 8], flushed := [5, 6], versionLine := devel }

/-- the oracle hypotheses are satisfiable -/
theorem o0_wf : o0.WF := ⟨by decide +kernel, ⟨[7, 8], rfl⟩⟩

/-- `age -d -i key -o <out> in` -/
def decArgs (out : Bytes) : Args :=
  { decrypt := true, identities := [(.i, nKey)], positional := [nIn], output := out }

/-- a successful decryption to a new file: exit 0 and the file holds the plaintext, mode 0644 -/
example : (run (decArgs nOut) w0 o0).exit = 0 ∧
    (run (decArgs nOut) w0 o0).world.get [nT, nOut] = .file [10, 20, 30] 0o644 := by decide +kernel

/-- ... and over an existing file: content replaced, mode kept -/
example : (run (decArgs nOld) w0 o0).world.get [nT, nOld] = .file [10, 20, 30] 0o600 := by decide +kernel

/-- a refused header leaves the existing file alone (the hypotheses of `header_refusal_no_touch` are satisfiable) -/
example : (run (decArgs nOld) w0 { o0 with dec := .headerRefused }).exit = 1 ∧
    (run (decArgs nOld) w0 { o0 with dec := .headerRefused }).world.get [nT, nOld] = .file [9, 9] 0o600 := by
  decide +kernel

/-- a payload failure after 2 bytes leaves a 2-byte prefix and a non-zero status -/
example : (run (decArgs nOut) w0 { o0 with dec := .ok [10, 20, 30] (some 2) }).exit = 1 ∧
    (run (decArgs nOut) w0 { o0 with dec := .ok [10, 20, 30] (some 2) }).world.get [nT, nOut] =
      .file [10, 20] 0o644 := by decide +kernel

/-- an output in a directory that does not exist: non-zero -/
example : (run (decArgs pNodirOut) w0 o0).exit = 1 := by decide +kernel

/-- RLIMIT_FSIZE = 2: two bytes are left behind, non-zero -/
example : (run (decArgs nOut) { w0 with fsize := some 2 } o0).exit = 1 ∧
    (run (decArgs nOut) { w0 with fsize := some 2 } o0).world.get [nT, nOut] = .file [10, 20] 0o644 := by
  decide +kernel

/-- standard output that closes after one byte -/
example : (run (decArgs []) { w0 with stdout := .limited (some 1) } o0).exit = 1 ∧
    (run (decArgs []) { w0 with stdout := .limited (some 1) } o0).stdout = [10] := by decide +kernel

/-- the output spelled `sub/../in` is the input: refused, nothing touched -/
example : (run (decArgs pSubUpIn) w0 o0).exit = 1 ∧
    (run (decArgs pSubUpIn) w0 o0).world.get [nT, nIn] = .file [1, 2, 3] 0o644 := by decide +kernel

/-- ... and so is the key file spelled `/t//key` -/
example : (run (decArgs pAbsKey) w0 o0).exit = 1 := by decide +kernel

/-- an encryption (`age -r … -o out in`): the ciphertext ends up in the file -/
example : (run { recipients := [[97, 103, 101, 49]], positional := [nIn], output := nOut } w0 o0).world.get
    [nT, nOut] = .file [5, 6, 7, 8] 0o644 := by decide +kernel

/-- `-version` to /dev/full exits non-zero (it used to exit 0: the defect repaired in /repo) -/
theorem version_to_devfull_nonzero : (run { version := true } { w0 with stdout := .devFull } o0).exit = 1 ∧
    (run { version := true } { w0 with stdout := .devFull } o0).stdout = [] := by decide +kernel

/-- ... to a pipe that closes after 3 bytes as well, and to a pipe it exits 0 with the whole line -/
example : (run { version := true } { w0 with stdout := .limited (some 3) } o0).exit = 1 ∧
    (run { version := true } w0 o0).exit = 0 ∧ (run { version := true } w0 o0).stdout = devel := by decide +kernel

abbrev line1 : Bytes := [97, 103, 101, 49, 97, 10]    -- "age1a\n"
abbrev line2 : Bytes := [97, 103, 101, 49, 98, 10]    -- "age1b\n"

def k0 : KOracle := { keyFile := [35, 32, 107, 101, 121, 10], converted := some [line1, line2], versionLine := devel }

theorem k0_wf : k0.WF :=
  ⟨by decide +kernel, by
    intro ls h
    have : ls = [line1, line2] := by simpa [k0] using h.symm
    subst this
    decide +kernel⟩

/-- age-keygen -o new: created with mode 0600 under umask 022, holding the whole key file -/
example : (krun { output := nNew } w0 k0).exit = 0 ∧
    (krun { output := nNew } w0 k0).world.get [nT, nNew] = .file k0.keyFile 0o600 := by decide +kernel

/-- age-keygen -o old: refused, untouched -/
example : (krun { output := nOld } w0 k0).exit = 1 ∧
    (krun { output := nOld } w0 k0).world.get [nT, nOld] = .file [9, 9] 0o600 := by decide +kernel

/-- age-keygen -y key to a pipe that closes after 8 bytes: non-zero, eight bytes got out -/
example : (krun { convert := true, positional := [nKey] } { w0 with stdout := .limited (some 8) } k0).exit = 1 ∧
    (krun { convert := true, positional := [nKey] } { w0 with stdout := .limited (some 8) } k0).stdout =
      [97, 103, 101, 49, 97, 10, 97, 103] := by decide +kernel

/-- age-keygen -version to /dev/full: non-zero -/
example : (krun { version := true } { w0 with stdout := .devFull } k0).exit = 1 ∧
    (krun { version := true } w0 k0).exit = 0 := by decide +kernel

end Examples

/-! ## Non-vacuity: the hypotheses of every theorem above, at the concrete worlds -/

/-- `w0` with a device that rejects every write at /t/full -/
def w0Full : World := { w0 with nodes := ([nT, [102, 117, 108, 108]], .devFull) :: w0.nodes }

/-- non-vacuity of `exit0_iff_delivered`: the oracle `o0`; both sides of the equivalence hold for
    `age -d -i key -o out in` in `w0` (the three plaintext bytes end up in /t/out) and both fail
    when RLIMIT_FSIZE is 2 -/
theorem exit0_iff_delivered_nonvacuous :
    o0.WF ∧ (run (decArgs nOut) w0 o0).exit = 0 ∧
    (decArgs nOut).noArgs = false ∧ (decArgs nOut).version = false ∧
    prepare (decArgs nOut) w0 = .ok (.lazy nOut) ∧
    operation (decArgs nOut) w0 o0 = .ok (.dec (.ok [10, 20, 30] none)) ∧
    (Plan.dec (.ok [10, 20, 30] none)).complete = some [10, 20, 30] ∧
    Holds (.lazy nOut) w0 (run (decArgs nOut) w0 o0) [10, 20, 30] ∧
    (run (decArgs nOut) { w0 with fsize := some 2 } o0).exit ≠ 0 :=
  ⟨o0_wf, by decide +kernel, rfl, rfl, by rfl, by rfl, rfl,
   ⟨rfl, [nT, nOut], 0o644, by decide +kernel, by decide +kernel⟩, by decide +kernel⟩

example : (run (decArgs nOut) w0 o0).exit = 0 :=
  (exit0_iff_delivered _ _ _ o0_wf).2
    ⟨rfl, Or.inr ⟨rfl, _, _, _, exit0_iff_delivered_nonvacuous.2.2.2.2.1,
      exit0_iff_delivered_nonvacuous.2.2.2.2.2.1, rfl, exit0_iff_delivered_nonvacuous.2.2.2.2.2.2.2.1⟩⟩

/-- non-vacuity of `version_output_failure_nonzero`: `age -version` with standard output on
    /dev/full, and on a pipe that closes after 3 of the 8 bytes: the premise `OutputFails` of the
    inner implication holds in both -/
theorem version_output_failure_nonzero_nonvacuous :
    ({ version := true } : Args).noArgs = false ∧ ({ version := true } : Args).version = true ∧
    OutputFails { w0 with stdout := .devFull } o0.versionLine .stdout ∧
    OutputFails { w0 with stdout := .limited (some 3) } o0.versionLine .stdout :=
  ⟨rfl, rfl, .stdoutFull rfl, .stdoutCap 3 rfl (by decide +kernel)⟩

example : (run { version := true } { w0 with stdout := .limited (some 3) } o0).exit ≠ 0 :=
  (version_output_failure_nonzero _ _ o0 rfl rfl).1 version_output_failure_nonzero_nonvacuous.2.2.2

/-- non-vacuity of `exit0_flags_valid`: the successful decryption to /t/out -/
theorem exit0_flags_valid_nonvacuous :
    (decArgs nOut).version = false ∧ o0.WF ∧ (run (decArgs nOut) w0 o0).exit = 0 :=
  ⟨rfl, o0_wf, exit0_iff_delivered_nonvacuous.2.1⟩

/-- non-vacuity of `header_refusal_no_touch`: `age -d -i key -o old in` when `age.Decrypt` refuses
    the header; every check before it passes (the operation gets as far as the refusal) and the
    existing /t/old is at stake -/
theorem header_refusal_no_touch_nonvacuous :
    (decArgs nOld).version = false ∧ (decArgs nOld).decrypt = true ∧
    (∀ pt fa, operation (decArgs nOld) w0 { o0 with dec := .headerRefused } ≠ .ok (.dec (.ok pt fa))) ∧
    prepare (decArgs nOld) w0 = .ok (.lazy nOld) ∧
    operation (decArgs nOld) w0 { o0 with dec := .headerRefused } = .ok (.dec .headerRefused) := by
  have h : operation (decArgs nOld) w0 { o0 with dec := .headerRefused } = .ok (.dec .headerRefused) := by
    rfl
  refine ⟨rfl, rfl, ?_, by rfl, h⟩
  intro pt fa h'
  rw [h] at h'
  cases h'

/-- non-vacuity of `payload_failure_prefix`: the reader yields 2 of the 3 plaintext bytes, then fails -/
theorem payload_failure_prefix_nonvacuous :
    (decArgs nOut).version = false ∧
    operation (decArgs nOut) w0 { o0 with dec := .ok [10, 20, 30] (some 2) } =
      .ok (.dec (.ok [10, 20, 30] (some 2))) :=
  ⟨rfl, by rfl⟩

/-- non-vacuity of `output_failure_nonzero`: the decryption of 3 bytes that would succeed, with
    RLIMIT_FSIZE = 2 (`OutputFails.fileCap`); the other five ways an output fails follow -/
theorem output_failure_nonzero_nonvacuous :
    (decArgs nOut).version = false ∧ o0.WF ∧
    prepare (decArgs nOut) { w0 with fsize := some 2 } = .ok (.lazy nOut) ∧
    operation (decArgs nOut) { w0 with fsize := some 2 } o0 = .ok (.dec (.ok [10, 20, 30] none)) ∧
    (Plan.dec (.ok [10, 20, 30] none)).complete = some [10, 20, 30] ∧
    OutputFails { w0 with fsize := some 2 } [10, 20, 30] (.lazy nOut) :=
  ⟨rfl, o0_wf, by rfl, by rfl, rfl, .fileCap nOut 2 rfl (by decide +kernel)⟩

/-- ... the parent directory is missing (`create`) -/
example : prepare (decArgs pNodirOut) w0 = .ok (.lazy pNodirOut) ∧
    operation (decArgs pNodirOut) w0 o0 = .ok (.dec (.ok [10, 20, 30] none)) ∧
    OutputFails w0 [10, 20, 30] (.lazy pNodirOut) :=
  ⟨by rfl, by rfl, .create _ (by decide +kernel)⟩

/-- ... the output is a device that rejects every write (`fileFull`) -/
example : prepare (decArgs [102, 117, 108, 108]) w0Full = .ok (.lazy [102, 117, 108, 108]) ∧
    operation (decArgs [102, 117, 108, 108]) w0Full o0 = .ok (.dec (.ok [10, 20, 30] none)) ∧
    OutputFails w0Full [10, 20, 30] (.lazy [102, 117, 108, 108]) ∧
    (run (decArgs [102, 117, 108, 108]) w0Full o0).exit = 1 :=
  ⟨by rfl, by rfl, .fileFull _ [nT, [102, 117, 108, 108]] (by decide +kernel) (by decide +kernel), by decide +kernel⟩

/-- ... close(2) reports an error (`close`): the file holds everything and the status is 1 -/
example : prepare (decArgs nOut) { w0 with closeFails := true } = .ok (.lazy nOut) ∧
    operation (decArgs nOut) { w0 with closeFails := true } o0 = .ok (.dec (.ok [10, 20, 30] none)) ∧
    OutputFails { w0 with closeFails := true } [10, 20, 30] (.lazy nOut) ∧
    (run (decArgs nOut) { w0 with closeFails := true } o0).exit = 1 ∧
    (run (decArgs nOut) { w0 with closeFails := true } o0).world.get [nT, nOut] = .file [10, 20, 30] 0o644 :=
  ⟨by rfl, by rfl, .close _ rfl, by decide +kernel, by decide +kernel⟩

/-- ... standard output rejects every write, or closes after one byte (`stdoutFull`, `stdoutCap`) -/
example : prepare (decArgs []) { w0 with stdout := .devFull } = .ok .stdout ∧
    operation (decArgs []) { w0 with stdout := .devFull } o0 = .ok (.dec (.ok [10, 20, 30] none)) ∧
    OutputFails { w0 with stdout := .devFull } [10, 20, 30] .stdout ∧
    prepare (decArgs []) { w0 with stdout := .limited (some 1) } = .ok .stdout ∧
    OutputFails { w0 with stdout := .limited (some 1) } [10, 20, 30] .stdout :=
  ⟨by rfl, by rfl, .stdoutFull rfl, by rfl, .stdoutCap 1 rfl (by decide +kernel)⟩

/-- non-vacuity of `same_file_refused`: the output spelled `sub/../in` and the input `in`; it is
    this check that ends the run (`prepare` answers `sameFile`) -/
theorem same_file_refused_nonvacuous :
    (decArgs pSubUpIn).version = false ∧ isFileName (decArgs pSubUpIn).output = true ∧
    nIn ∈ inUseNames (decArgs pSubUpIn) ∧
    absPath w0.cwd (decArgs pSubUpIn).output = absPath w0.cwd nIn ∧
    prepare (decArgs pSubUpIn) w0 = .error .sameFile :=
  ⟨rfl, by decide +kernel, by decide +kernel, by decide +kernel, by rfl⟩

/-- non-vacuity of `same_file_refused_strings`: the output spelled `/t//key` and the `-i` file `key`;
    the two `filepath.Abs` strings are both `/t/key` -/
theorem same_file_refused_strings_nonvacuous :
    (decArgs pAbsKey).version = false ∧ ValidPath w0.cwd ∧ isFileName (decArgs pAbsKey).output = true ∧
    nKey ∈ inUseNames (decArgs pAbsKey) ∧
    render (absPath w0.cwd (decArgs pAbsKey).output) = render (absPath w0.cwd nKey) ∧
    render (absPath w0.cwd nKey) = [47, 116, 47, 107, 101, 121] ∧
    prepare (decArgs pAbsKey) w0 = .error .sameFile := by
  exact ⟨rfl, validPath_singleton nT ⟨by decide, by decide, by decide, by decide⟩, by decide +kernel,
    by decide +kernel, by decide +kernel, by decide +kernel, by rfl⟩

/-- non-vacuity of `only_output_changes`: the successful decryption to /t/out, seen from the input
    /t/in (the run does change the world: /t/out appears) -/
theorem only_output_changes_nonvacuous :
    (isFileName (decArgs nOut).output = false ∨ resolve w0 (decArgs nOut).output ≠ some [nT, nIn]) ∧
    (run (decArgs nOut) w0 o0).world.get [nT, nOut] ≠ w0.get [nT, nOut] :=
  ⟨Or.inr (by decide +kernel), by decide +kernel⟩

/-- non-vacuity of `abs_spelling`: working directory /t and the relative path `a/b`, which has a
    slash to double; `sub` is a component `d` for `d/../p` -/
theorem abs_spelling_nonvacuous :
    ValidPath [nT] ∧ ([97, 47, 98] : Bytes) ≠ [] ∧ rooted [97, 47, 98] = false ∧
    NormalComp nSub ∧ ([97, 47, 98] : Bytes) = [97] ++ slash :: [98] :=
  ⟨validPath_singleton nT ⟨by decide, by decide, by decide, by decide⟩, by decide, rfl,
    ⟨by decide, by decide, by decide, by decide⟩, rfl⟩

example : absPath [nT] [115, 117, 98, 47, 46, 46, 47, 97, 47, 98] = [nT, [97], [98]] ∧
    absPath [nT] [97, 47, 47, 98] = [nT, [97], [98]] := by
  obtain ⟨hc, hp, hr, hd, hs⟩ := abs_spelling_nonvacuous
  obtain ⟨_, _, _, h4, h5, _⟩ := abs_spelling [nT] [97, 47, 98] hc hp hr
  exact ⟨(h4 nSub hd).trans (by decide +kernel), (h5 [97] [98] hs).trans (by decide +kernel)⟩

/-- non-vacuity of `resolve_is_abs`: `in` resolves to /t/in in `w0` -/
theorem resolve_is_abs_nonvacuous : resolve w0 nIn = some [nT, nIn] := by decide +kernel

/-- non-vacuity of `keygen_no_overwrite`: `age-keygen -o old` where /t/old is a file -/
theorem keygen_no_overwrite_nonvacuous :
    ({ output := nOld } : KArgs).version = false ∧ ({ output := nOld } : KArgs).output ≠ [] ∧
    resolve w0 ({ output := nOld } : KArgs).output = some [nT, nOld] ∧ w0.get [nT, nOld] ≠ .absent :=
  ⟨rfl, by decide +kernel, by decide +kernel, by decide +kernel⟩

/-- non-vacuity of `keygen_exit0_iff`: the oracle `k0`; both sides hold for `age-keygen -o new`
    in `w0`, and both fail for `age-keygen -y key` to a pipe that closes after 8 of the 12 bytes -/
theorem keygen_exit0_iff_nonvacuous :
    k0.WF ∧ (krun { output := nNew } w0 k0).exit = 0 ∧
    kargsValid { output := nNew } = true ∧ ({ output := nNew } : KArgs).version = false ∧
    koperation { output := nNew } (kworld1 { output := nNew } w0) k0 = some [k0.keyFile] ∧
    KHolds { output := nNew } w0 (krun { output := nNew } w0 k0) [k0.keyFile].flatten ∧
    (krun { convert := true, positional := [nKey] } { w0 with stdout := .limited (some 8) } k0).exit ≠ 0 ∧
    koperation { convert := true, positional := [nKey] }
      (kworld1 { convert := true, positional := [nKey] } { w0 with stdout := .limited (some 8) }) k0 =
        some [line1, line2] := by
  refine ⟨k0_wf, by decide +kernel, rfl, rfl, by decide +kernel, ?_, by decide +kernel, by decide +kernel⟩
  show _ ∧ _
  exact ⟨rfl, [nT, nNew], by decide +kernel, by decide +kernel, by decide +kernel⟩

/-- non-vacuity of `keygen_mode_0600`: `age-keygen -o new` in `w0` (umask 022, which leaves the
    owner's bits alone: the premise of the third conjunct holds) -/
theorem keygen_mode_0600_nonvacuous :
    ({ output := nNew } : KArgs).version = false ∧ kargsValid { output := nNew } = true ∧
    ({ output := nNew } : KArgs).output ≠ [] ∧
    resolve w0 ({ output := nNew } : KArgs).output = some [nT, nNew] ∧ w0.get [nT, nNew] = .absent ∧
    w0.umask &&& 0o600 = 0 :=
  ⟨rfl, rfl, by decide +kernel, by decide +kernel, by decide +kernel, by decide +kernel⟩

/-- non-vacuity of `segmentation_irrelevant_file`: two 6-byte lines appended to the 2-byte /t/old
    under RLIMIT_FSIZE = 5, so that the limit is hit inside the first segment -/
theorem segmentation_irrelevant_file_nonvacuous :
    (({ w := { w0 with fsize := some 5 } } : Proc).w.get [nT, nOld] = .file [9, 9] 0o600) ∧
    (∀ L, ({ w := { w0 with fsize := some 5 } } : Proc).w.fsize = some L → ([9, 9] : Bytes).length ≤ L) ∧
    (kwriteLines (.file [nT, nOld]) { w := { w0 with fsize := some 5 } } [line1, line2]).1.w.get [nT, nOld] =
      .file [9, 9, 97, 103, 101] 0o600 := by
  refine ⟨by decide +kernel, ?_, by decide +kernel⟩
  intro L h
  have : L = 5 := by simpa using h.symm
  subst this
  decide +kernel

/-- non-vacuity of `segmentation_irrelevant_stdout`: the same two lines to a pipe that closes
    after 8 bytes, i.e. inside the second segment -/
theorem segmentation_irrelevant_stdout_nonvacuous :
    ([line1, line2] : List Bytes) ≠ [] ∧
    (∀ c, ({ w := { w0 with stdout := .limited (some 8) } } : Proc).w.stdout = .limited (some c) →
      ({ w := { w0 with stdout := .limited (some 8) } } : Proc).emitted.length ≤ c) ∧
    (kwriteLines .stdout { w := { w0 with stdout := .limited (some 8) } } [line1, line2]).1.emitted =
      [97, 103, 101, 49, 97, 10, 97, 103] :=
  ⟨by decide +kernel, fun c _ => Nat.zero_le c, by decide +kernel⟩

end Props.C15
end AgeModel
