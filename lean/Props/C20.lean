/-
  C20 — shared recipients and identities are safe under concurrency.
  Property theorems only (helper lemmas live in Proofs/Conc.lean).

  Statement of the property: "A single recipient or identity value (X25519,
  passphrase, SSH Ed25519, SSH RSA) may be used by any number of goroutines
  encrypting and decrypting at the same time: there is no data race, and every
  operation yields the result it would yield alone." — for all interleavings.

  What is proved here, in the interleaving semantics of AgeModel/Conc.lean: if
  no operation ever writes a shared location (`NoSharedWrite`) and operations
  touch, besides shared locations, only what they allocated themselves
  (`WellScoped`), then for ANY number of threads and ANY schedule
    * every thread has read exactly the values it reads when run alone, is at
      the same point of its program, and its private memory is the same — hence
      any result computed from them is the same (`interleaving_equals_solo`,
      `result_equals_solo`, `completed_equals_solo`);
    * no two steps of different threads conflict (`no_conflict`): there is no
      write/write or read/write pair on one location, i.e. no data race.
  That the Go code satisfies `NoSharedWrite` is the tie `Tie/C20.lean`
  (`no_shared_store`, `no_mutated_global` over the effect summary regenerated
  from the source) — partial in the respects stated in DESIGN.md §8 C20: the Go
  memory model and out-of-module callees are outside the summary; the race
  harness (harness/cmd/racer under -race) supports that part.
-/
import Proofs.Conc
namespace AgeModel
namespace Props.C20
open Conc

/-- For any number of threads and any schedule: after the schedule, thread `i`
    has the read history, the remaining program and the private memory it has
    after running alone for as many steps as the schedule gave it; and the
    shared memory is what it was at the start. -/
theorem interleaving_equals_solo (P : Nat → Thread) (s : Store)
    (hW : NoSharedWrite P) (hS : WellScoped P) (σ : List Nat) (i : Nat) :
    let inter := runInterleaved P s σ
    let solo := runSolo P s i (σ.count i)
    inter.hist i = solo.hist i ∧ inter.rest i = solo.rest i ∧
    (∀ n, inter.store (.priv i n) = solo.store (.priv i n)) ∧
    (∀ n, inter.store (.shared n) = s (.shared n)) := by
  have hg := Good.init hW hS s
  have h := run_sim i σ (init P s) (init P s) hg (Sim.refl i _)
  exact ⟨h.2.1, h.1, h.2.2.2, fun n => run_shared σ (init P s) hg n⟩

/-- Hence any result an operation computes from what it has read is the result
    it computes alone. -/
theorem result_equals_solo {α : Type} (result : List Nat → α) (P : Nat → Thread) (s : Store)
    (hW : NoSharedWrite P) (hS : WellScoped P) (σ : List Nat) (i : Nat) :
    result ((runInterleaved P s σ).hist i) = result ((runSolo P s i (σ.count i)).hist i) := by
  rw [(interleaving_equals_solo P s hW hS σ i).1]

/-- In particular an operation that has run to completion inside the schedule
    has run to completion alone, with the same reads. -/
theorem completed_equals_solo (P : Nat → Thread) (s : Store)
    (hW : NoSharedWrite P) (hS : WellScoped P) (σ : List Nat) (i : Nat)
    (hdone : (runInterleaved P s σ).rest i = []) :
    (runSolo P s i (σ.count i)).rest i = [] ∧
    (runInterleaved P s σ).hist i = (runSolo P s i (σ.count i)).hist i := by
  have h := interleaving_equals_solo P s hW hS σ i
  exact ⟨h.2.1 ▸ hdone, h.1⟩

/-- No data race: under the same hypotheses no step of one thread conflicts with
    a step of another (same location, at least one a write). -/
theorem no_conflict (P : Nat → Thread) (hW : NoSharedWrite P) (hS : WellScoped P)
    (i j : Nat) (a b : Step) (ha : a ∈ P i) (hb : b ∈ P j) : ¬ conflict i a j b := by
  rintro ⟨hne, l, hla, hlb, hw⟩
  -- the written location is private to the writer, so the other thread cannot name it
  have key : ∀ (x y : Nat) (p q : Step), p ∈ P x → q ∈ P y → p.loc? = some l → q.loc? = some l →
      p.isWrite = true → x = y := by
    intro x y p q hp hq hpl hql hpw
    cases p with
    | read _ => simp [Step.isWrite] at hpw
    | tau => simp [Step.isWrite] at hpw
    | write l' f =>
      have hl' : l' = l := by simpa [Step.loc?] using hpl
      subst hl'
      cases l' with
      | shared n => exact absurd rfl (hW x _ f hp n)
      | priv k n =>
        have h1 : k = x := hS x _ hp k n hpl
        have h2 : k = y := hS y _ hq k n hql
        exact h1.symm.trans h2
  cases hw with
  | inl h => exact hne (key i j a b ha hb hla hlb h)
  | inr h => exact hne (key j i b a hb ha hlb hla h).symm

/-! ### the hypotheses are satisfiable by a non-trivial system, and needed -/

/-- Two operations sharing one key (shared locations 0 and 1): each reads the key,
    computes into its own memory, reads that back. -/
def demo : Nat → Thread
  | 0 => [.read (.shared 0), .write (.priv 0 0) (fun h => h.sum + 1), .tau, .read (.shared 1), .read (.priv 0 0)]
  | 1 => [.read (.shared 1), .read (.shared 0), .write (.priv 1 5) (fun h => 2 * h.sum), .read (.priv 1 5)]
  | _ => []

def demoStore : Store
  | .shared 0 => 7
  | .shared 1 => 9
  | _ => 0

/-- non-vacuity of `interleaving_equals_solo` (and of `result_equals_solo`, which has the same
    hypotheses): the two-thread system `demo`, whose threads read both shared locations and
    write, then read back, memory of their own -/
theorem interleaving_equals_solo_nonvacuous : NoSharedWrite demo ∧ WellScoped demo := by
  constructor
  · intro i l f hm n
    match i with
    | 0 => simp [demo] at hm; obtain ⟨rfl, _⟩ := hm; simp
    | 1 => simp [demo] at hm; obtain ⟨rfl, _⟩ := hm; simp
    | _+2 => simp [demo] at hm
  · intro i st hm j n hl
    match i with
    | 0 => simp [demo] at hm; rcases hm with rfl | rfl | rfl | rfl | rfl <;> simp [Step.loc?] at hl <;> omega
    | 1 => simp [demo] at hm; rcases hm with rfl | rfl | rfl | rfl <;> simp [Step.loc?] at hl <;> omega
    | _+2 => simp [demo] at hm

example : NoSharedWrite demo := interleaving_equals_solo_nonvacuous.1

example : WellScoped demo := interleaving_equals_solo_nonvacuous.2

/-- a concrete interleaving: both run to completion and have read what they read alone -/
example : (runInterleaved demo demoStore [1, 0, 0, 1, 1, 0, 0, 1, 0]).hist 0 = [7, 9, 8] ∧
    (runSolo demo demoStore 0 5).hist 0 = [7, 9, 8] ∧
    (runInterleaved demo demoStore [1, 0, 0, 1, 1, 0, 0, 1, 0]).hist 1 = [9, 7, 32] ∧
    (runSolo demo demoStore 1 4).hist 1 = [9, 7, 32] := by decide

/-- The hypothesis is needed: a memo written to a shared location. Thread 0 caches
    a value in shared location 0; thread 1 reads it. Alone thread 1 reads 0, after
    thread 0 it reads 1 — its result depends on the schedule — and the two steps
    conflict. -/
def racy : Nat → Thread
  | 0 => [.write (.shared 0) (fun _ => 1)]
  | 1 => [.read (.shared 0)]
  | _ => []

example : (runInterleaved racy (fun _ => 0) [0, 1]).hist 1 = [1] ∧
    (runSolo racy (fun _ => 0) 1 ([0, 1].count 1)).hist 1 = [0] ∧
    (runInterleaved racy (fun _ => 0) [1, 0]).hist 1 = [0] := by decide

example : conflict 0 (.write (.shared 0) (fun _ => 1)) 1 (.read (.shared 0)) :=
  ⟨by decide, .shared 0, rfl, rfl, Or.inl rfl⟩

example : ¬ NoSharedWrite racy := fun h => h 0 (.shared 0) (fun _ => 1) (by simp [racy]) 0 rfl

/-! ### non-vacuity, by name -/

/-- non-vacuity of `result_equals_solo`: same witness -/
theorem result_equals_solo_nonvacuous : NoSharedWrite demo ∧ WellScoped demo :=
  interleaving_equals_solo_nonvacuous

/-- the theorem applied: in the schedule below thread 1 has read, after 4 of its steps, what it
    reads alone — [9, 7, 32], computed from both shared values -/
example : (runInterleaved demo demoStore [1, 0, 0, 1, 1, 0, 0, 1, 0]).hist 1 = [9, 7, 32] :=
  (interleaving_equals_solo demo demoStore interleaving_equals_solo_nonvacuous.1
    interleaving_equals_solo_nonvacuous.2 [1, 0, 0, 1, 1, 0, 0, 1, 0] 1).1.trans (by decide)

/-- non-vacuity of `completed_equals_solo`: `demo` again; under this schedule (9 steps, 5 of
    thread 0 and 4 of thread 1, interleaved) both threads have run to completion -/
theorem completed_equals_solo_nonvacuous :
    NoSharedWrite demo ∧ WellScoped demo ∧
    (runInterleaved demo demoStore [1, 0, 0, 1, 1, 0, 0, 1, 0]).rest 0 = [] ∧
    (runInterleaved demo demoStore [1, 0, 0, 1, 1, 0, 0, 1, 0]).rest 1 = [] ∧
    (demo 0).length = 5 ∧ (demo 1).length = 4 :=
  ⟨interleaving_equals_solo_nonvacuous.1, interleaving_equals_solo_nonvacuous.2, rfl, rfl, rfl, rfl⟩

/-- non-vacuity of `no_conflict`: two steps of different threads of `demo` on the same location —
    both read shared location 0, which is all that keeps them from conflicting; and a write of
    thread 0 next to a read of thread 1 -/
theorem no_conflict_nonvacuous :
    NoSharedWrite demo ∧ WellScoped demo ∧
    Step.read (.shared 0) ∈ demo 0 ∧ Step.read (.shared 0) ∈ demo 1 ∧
    (Step.read (.shared 0)).loc? = (Step.read (.shared 0)).loc? ∧ (0 : Nat) ≠ 1 ∧
    Step.write (.priv 0 0) (fun h => h.sum + 1) ∈ demo 0 ∧ Step.read (.priv 1 5) ∈ demo 1 :=
  ⟨interleaving_equals_solo_nonvacuous.1, interleaving_equals_solo_nonvacuous.2,
   by simp [demo], by simp [demo], rfl, by decide, by simp [demo], by simp [demo]⟩

end Props.C20
end AgeModel
