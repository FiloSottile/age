/-
  C01 — every listed recipient decrypts to the exact plaintext.
  The general theorems first, then a witness for each (helpers: Proofs/StreamSpec, Recipients, File, FileEncrypt).
-/
import Proofs.FileEncrypt
import Proofs.ToyPrims
import Proofs.ArmorRead
namespace AgeModel
namespace Props.C01
open Format Stream

/-- STREAM: decrypting the encryption of any plaintext gives it back followed by a
    clean end of stream (any chunk size C > 0; in particular lengths 0, 1 and every
    length around multiples of C). `NonceSep` is forced: see DESIGN.md §4. -/
theorem stream_roundtrip (A : AEAD) (hA : A.Correct) (hN : A.NonceSep) (C : Nat) (hC : 0 < C) (k p : Bytes) :
    decrypt A C k (encrypt A C k p) = (p, .eof) :=
  Stream.stream_roundtrip A hA hN C hC k p

/-- X25519: the identity unwraps what its recipient wrapped, for every ephemeral secret. -/
theorem x25519_wrap_unwrap (P : Prims) (hP : P.Correct) (sk pk eph fk : Bytes) (st : Stanza)
    (hpk : P.x25519 sk P.basepoint = some pk) (hfk : fk.length = 16)
    (hw : wrapX25519 P pk eph fk = some st) : unwrapX25519 P sk st = .key fk :=
  AgeModel.x25519_wrap_unwrap P hP sk pk eph fk st hpk hfk hw

/-- passphrase: same, whenever the identity's maximum work factor admits the
    recipient's (`logN ≤ maxWF`; defaults 18 ≤ 22). -/
theorem scrypt_wrap_unwrap (P : Prims) (hP : P.Correct) (pw salt fk : Bytes) (logN maxWF : Nat)
    (h1 : 1 ≤ logN) (h30 : logN ≤ 30) (hmax : logN ≤ maxWF) (hsalt : salt.length = 16) (hfk : fk.length = 16) :
    (unwrapScrypt P pw maxWF (wrapScrypt P pw logN salt fk)).1 = .key fk := by
  rw [AgeModel.scrypt_wrap_unwrap P hP pw salt fk logN maxWF h1 h30 hmax hsalt hfk]

example : (1 : Nat) ≤ 18 ∧ 18 ≤ 30 ∧ 18 ≤ 22 := by decide

theorem sshed_wrap_unwrap (P : Prims) (hP : P.Correct) (wire sk pk eph fk : Bytes) (st : Stanza)
    (hpk : P.x25519 sk P.basepoint = some pk) (hw : wrapSshEd P wire pk eph fk = some st) :
    unwrapSshEd P wire sk st = .key fk :=
  AgeModel.sshEd_wrap_unwrap P hP wire sk pk eph fk st hpk hw

theorem sshrsa_wrap_unwrap (P : Prims) (hP : P.Correct) (wire pub priv seed fk : Bytes) (st : Stanza)
    (hpair : P.rsaPair pub priv) (hw : wrapSshRsa P wire pub seed fk = some st) :
    unwrapSshRsa P wire priv st = .key fk :=
  AgeModel.sshRsa_wrap_unwrap P hP wire pub priv seed fk st hpair hw

/-- stanzas of another type are answered "incorrect" without any cryptography -/
theorem other_type_incorrect (P : Prims) (s : Stanza) :
    (∀ sk, s.type ≠ tX25519 → unwrapX25519 P sk s = .incorrect) ∧
    (∀ pw m, s.type ≠ tScrypt → (unwrapScrypt P pw m s).1 = .incorrect) ∧
    (∀ w sk, s.type ≠ tSshEd → unwrapSshEd P w sk s = .incorrect) ∧
    (∀ w k, s.type ≠ tSshRsa → unwrapSshRsa P w k s = .incorrect) :=
  ⟨fun sk h => x25519_other_type P sk s h, fun pw m h => by rw [scrypt_other_type P pw m s h],
   fun w sk h => sshEd_other_type P w sk s h, fun w k h => sshRsa_other_type P w k s h⟩

/-- **Main theorem.** For every random tape, every recipient list `rs` that Encrypt
    accepts (any types, counts, orders, duplicates, custom recipients contributing
    arbitrary well-formed stanzas), every plaintext, and every identity list
    `pre ++ id :: post` in which `id` opens the file key from the header and every
    identity in `pre` answers "incorrect identity": decryption yields exactly the
    plaintext followed by a clean end of stream, having consulted `pre.length + 1`
    identities (none of `post`). -/
theorem decrypt_encrypt (P : Prims) (hP : P.Correct) (hN : P.aead.NonceSep) (C : Nat) (hC : 0 < C)
    (tape : Bytes) (rs : List Recipient) (pt file : Bytes)
    (hrs : ∀ r ∈ rs, r.ProducesWF P)
    (henc : encryptFile P C tape rs pt = .ok file) :
    ∃ fk stanzas t, encryptHeader P tape rs = .ok (fk, stanzas, t) ∧
      ∀ (pre post : List Identity) (id : Identity),
        (∀ i ∈ pre, i.unwrap P stanzas = .incorrect) → id.unwrap P stanzas = .key fk →
        decryptFile P C (pre ++ id :: post) file = .ok (pt, .eof) ∧
        (decryptInit P (pre ++ id :: post) file).2 = pre.length + 1 := by
  obtain ⟨fk, stanzas, t, nonce, t2, hh, hd, rfl⟩ := encryptFile_ok henc
  refine ⟨fk, stanzas, t, hh, fun pre post id hpre hid => ?_⟩
  obtain ⟨hfk, t0, hd0, hw⟩ := encryptHeader_fk hh
  have hwf : ∀ s ∈ stanzas, s.WF := wrapAll_wf P fk hfk rs 0 t0 [] none stanzas t hrs nofun hw
  have hfk' : fk ≠ [] := fun e => by rw [e] at hfk; cases hfk
  have hn := (draw_spec hd).1
  exact ⟨decryptFile_specFile P hP hN C hC fk nonce pt stanzas hwf hfk' hn pre post id hpre hid,
    by rw [decryptInit_specFile P hP C fk nonce pt stanzas hwf hfk' hn pre post id hpre hid]⟩

/-- The hypothesis "`id` opens the file key" discharged for a native X25519
    recipient at ANY position of the list: its identity opens the file provided it
    answers "incorrect" to the stanzas of the recipients listed before it (which
    holds without any assumption for recipients of other types, see
    `other_type_incorrect`; for another X25519 key it is the key-separation
    idealisation discussed in DESIGN.md). -/
theorem x25519_identity_opens (P : Prims) (hP : P.Correct) (tape : Bytes)
    (rs1 rs2 : List Recipient) (sk pk fk : Bytes) (stanzas : List Stanza) (t : Bytes)
    (hpk : P.x25519 sk P.basepoint = some pk)
    (hh : encryptHeader P tape (rs1 ++ Recipient.x25519 pk :: rs2) = .ok (fk, stanzas, t))
    (hsep : ∀ r ∈ rs1, ∀ tp ss l t', wrapOne P r fk tp = .ok (some (ss, l), t') → ∀ s ∈ ss, unwrapX25519 P sk s = .incorrect) :
    (Identity.x25519 sk).unwrap P stanzas = .key fk := by
  obtain ⟨hfk, t0, _, hw⟩ := encryptHeader_fk hh
  obtain ⟨before, after, ss, l, tR, tR', hst, hwr, hb⟩ := wrapAll_split P fk rs1 _ rs2 0 t0 [] none stanzas t hw
  obtain ⟨eph, own, _, hws, rfl, _⟩ := draw32_wrap_some hwr
  have hown := AgeModel.x25519_wrap_unwrap P hP sk pk eph fk own hpk hfk hws
  rw [hst, List.nil_append, List.append_assoc, List.singleton_append]
  refine multiUnwrap_skip _ before after own fk (fun s hs => ?_) hown
  obtain ⟨r', hr', tp, ss', l', t', hw', hs'⟩ := hb s hs
  exact hsep r' hr' tp ss' l' t' hw' s hs'

/-- recipients of the other three native types never produce a stanza an X25519
    identity reacts to — so `hsep` above is free for them -/
theorem hsep_other_types (P : Prims) (sk fk tp : Bytes) (r : Recipient) (ss : List Stanza) (l : List Bytes) (t' : Bytes)
    (hr : (∃ pw n, r = .scrypt pw n) ∨ (∃ w m, r = .sshEd w m) ∨ (∃ w p, r = .sshRsa w p))
    (hw : wrapOne P r fk tp = .ok (some (ss, l), t')) : ∀ s ∈ ss, unwrapX25519 P sk s = .incorrect := by
  intro s hs
  apply x25519_other_type
  rcases hr with ⟨pw, n, rfl⟩ | ⟨w, m, rfl⟩ | ⟨w, p, rfl⟩
  · obtain ⟨salt, lab, t1, _, _, he⟩ := wrapOne_scrypt_ok hw
    cases he
    cases List.mem_singleton.mp hs
    exact (by decide : tScrypt ≠ tX25519)
  · obtain ⟨eph, st, _, hws, rfl, _⟩ := draw32_wrap_some hw
    cases List.mem_singleton.mp hs
    obtain ⟨_, _, _, _, rfl⟩ := wrapSshEd_some hws
    exact (by decide : tSshEd ≠ tX25519)
  · obtain ⟨seed, st, _, hws, rfl, _⟩ := draw32_wrap_some hw
    cases List.mem_singleton.mp hs
    obtain ⟨_, _, rfl⟩ := wrapSshRsa_some hws
    exact (by decide : tSshRsa ≠ tX25519)

/-- non-vacuity: the hypotheses on the primitives are satisfiable (together) -/
example : Prims.toy.Correct ∧ Prims.toy.aead.NonceSep := ⟨Prims.toy_correct, AEAD.toy_nonceSep⟩

/-- **End-to-end non-vacuity.** With the (lawful) toy primitives: a 100-byte tape, one
    X25519 recipient, a 5-byte plaintext in chunks of 4: Encrypt produces a file, and the
    recipient's identity decrypts it to the plaintext with a clean end — so the hypotheses
    of `decrypt_encrypt` (and with them those of C03 `mac_gate`, C04 `reader_requires_key`,
    C05 `file_layout`) are met by a concrete run. -/
theorem nonvacuous_roundtrip :
    ∃ file k payload, encryptFile Prims.toy 4 (List.replicate 100 7) [Recipient.x25519 (List.replicate 32 0)] [1, 2, 3, 4, 5] = .ok file ∧
      decryptFile Prims.toy 4 [Identity.x25519 (List.replicate 32 2)] file = .ok ([1, 2, 3, 4, 5], .eof) ∧
      decryptInit Prims.toy [Identity.x25519 (List.replicate 32 2)] file = (.ok (k, payload), 1) := by
  obtain ⟨file, henc⟩ : ∃ file, encryptFile Prims.toy 4 (List.replicate 100 7) [Recipient.x25519 (List.replicate 32 0)]
      [1, 2, 3, 4, 5] = .ok file := ⟨_, eq_ok_of_isSome [] (by decide +kernel)⟩
  obtain ⟨fk, stanzas, t, hh, hdec⟩ := decrypt_encrypt Prims.toy Prims.toy_correct AEAD.toy_nonceSep 4 (by decide)
    (List.replicate 100 7) [Recipient.x25519 (List.replicate 32 0)] [1, 2, 3, 4, 5] file
    (fun r hr => List.mem_singleton.mp hr ▸ producesWF_x25519 _ Prims.toy_correct _) henc
  have hid := x25519_identity_opens Prims.toy Prims.toy_correct (List.replicate 100 7) [] [] (List.replicate 32 2)
    (List.replicate 32 0) fk stanzas t rfl hh nofun
  obtain ⟨h1, h2⟩ := hdec [] [] _ nofun hid
  rw [List.nil_append] at h1 h2
  unfold decryptFile at h1
  generalize hdi : decryptInit Prims.toy [Identity.x25519 (List.replicate 32 2)] file = r at h1 h2
  obtain ⟨r, c⟩ := r
  cases h2
  cases r with
  | error e => cases h1
  | ok v => exact ⟨file, v.1, v.2, henc, by unfold decryptFile; rw [hdi]; exact h1, hdi⟩

/-- **Armor is transparent.** Armoring the file and de-armoring it (any whitespace
    budget W > 0) gives the file back with a clean end, so every statement above
    holds equally when the file travels through the ASCII armor:
    `decrypt (dearmor (armor (encrypt …)))` is `decrypt (encrypt …)`. -/
theorem armor_transparent (P : Prims) (C W : Nat) (hW : 0 < W) (ids : List Identity) (file : Bytes) :
    (Armor.read W false (Armor.armor file)).2 = .eof ∧
    decryptFile P C ids (Armor.read W false (Armor.armor file)).1 = decryptFile P C ids file := by
  rw [Armor.read_armor W hW file]
  exact ⟨rfl, rfl⟩

/-! ## Non-vacuity: for every theorem above, concrete values meeting all of its hypotheses at once -/

/-- witness values shared by the non-vacuity statements below -/
def wFk : Bytes := [1, 2, 3, 4, 5, 6, 7, 8, 9, 10, 11, 12, 13, 14, 15, 16]
def wPt : Bytes := [1, 2, 3, 4, 5, 6, 7, 8, 9]

/-- non-vacuity of `stream_roundtrip`: the toy AEAD, chunks of 4, a 9-byte plaintext (three chunks) -/
theorem stream_roundtrip_nonvacuous :
    AEAD.toy.Correct ∧ AEAD.toy.NonceSep ∧ 0 < 4 ∧
    encrypt AEAD.toy 4 [7] wPt ≠ [] ∧ decrypt AEAD.toy 4 [7] (encrypt AEAD.toy 4 [7] wPt) = (wPt, .eof) :=
  ⟨AEAD.toy_correct, AEAD.toy_nonceSep, by decide, by decide,
    stream_roundtrip AEAD.toy AEAD.toy_correct AEAD.toy_nonceSep 4 (by decide) [7] wPt⟩

/-- non-vacuity of `x25519_wrap_unwrap`: toy primitives, a 16-byte file key, the stanza the wrap returns -/
theorem x25519_wrap_unwrap_nonvacuous :
    ∃ st, Prims.toy.Correct ∧
      Prims.toy.x25519 (List.replicate 32 2) Prims.toy.basepoint = some (List.replicate 32 0) ∧
      wFk.length = 16 ∧
      wrapX25519 Prims.toy (List.replicate 32 0) (List.replicate 32 5) wFk = some st ∧
      st.body.length = 28 :=
  ⟨_, Prims.toy_correct, rfl, rfl, rfl, by decide⟩

example : ∃ st, unwrapX25519 Prims.toy (List.replicate 32 2) st = .key wFk :=
  let ⟨st, hP, hpk, hfk, hw, _⟩ := x25519_wrap_unwrap_nonvacuous
  ⟨st, x25519_wrap_unwrap Prims.toy hP _ _ _ _ st hpk hfk hw⟩

/-- non-vacuity of `scrypt_wrap_unwrap`: toy primitives, work factor 18 against a maximum of 22, 16-byte salt and file key -/
theorem scrypt_wrap_unwrap_nonvacuous :
    Prims.toy.Correct ∧ 1 ≤ 18 ∧ 18 ≤ 30 ∧ 18 ≤ 22 ∧ (List.replicate 16 (3 : UInt8)).length = 16 ∧ wFk.length = 16 :=
  ⟨Prims.toy_correct, by decide, by decide, by decide, rfl, rfl⟩

example : (unwrapScrypt Prims.toy [112, 119] 22 (wrapScrypt Prims.toy [112, 119] 18 (List.replicate 16 3) wFk)).1 = .key wFk :=
  let ⟨hP, h1, h30, hmax, hsalt, hfk⟩ := scrypt_wrap_unwrap_nonvacuous
  scrypt_wrap_unwrap Prims.toy hP _ _ _ 18 22 h1 h30 hmax hsalt hfk

/-- non-vacuity of `sshed_wrap_unwrap`: toy primitives; the wrap returns a stanza -/
theorem sshed_wrap_unwrap_nonvacuous :
    ∃ st, Prims.toy.Correct ∧
      Prims.toy.x25519 (List.replicate 32 2) Prims.toy.basepoint = some (List.replicate 32 0) ∧
      wrapSshEd Prims.toy [1, 2, 3] (List.replicate 32 0) (List.replicate 32 5) wFk = some st :=
  ⟨_, Prims.toy_correct, rfl, rfl⟩

/-- non-vacuity of `sshrsa_wrap_unwrap`: toy primitives (every pair is a key pair); the wrap returns a stanza -/
theorem sshrsa_wrap_unwrap_nonvacuous :
    ∃ st, Prims.toy.Correct ∧ Prims.toy.rsaPair [4, 5] [6, 7] ∧
      wrapSshRsa Prims.toy [1, 2, 3] [4, 5] (List.replicate 32 6) wFk = some st :=
  ⟨_, Prims.toy_correct, trivial, rfl⟩

/-- non-vacuity of the four implications in `other_type_incorrect`: a grease stanza (type "g") is of none of the native types -/
theorem other_type_incorrect_nonvacuous :
    let s : Stanza := { type := [103], args := [[120]], body := [1, 2, 3] }
    s.type ≠ tX25519 ∧ s.type ≠ tScrypt ∧ s.type ≠ tSshEd ∧ s.type ≠ tSshRsa := by decide

/-- a 120-byte random tape 0, 1, 2, … -/
def wTape : Bytes := (List.range 120).map Nat.toUInt8
/-- an ssh-rsa recipient followed by an X25519 recipient -/
def wRs : List Recipient := [Recipient.sshRsa [1, 2, 3] [4, 5], Recipient.x25519 (List.replicate 32 0)]

theorem wRs_producesWF : ∀ r ∈ wRs, r.ProducesWF Prims.toy := by
  intro r hr
  simp only [wRs, List.mem_cons, List.mem_nil_iff, or_false] at hr
  rcases hr with rfl | rfl
  · exact producesWF_sshRsa _ Prims.toy_correct _ _
  · exact producesWF_x25519 _ Prims.toy_correct _

/-- non-vacuity of `decrypt_encrypt`: toy primitives, chunks of 4, a 9-byte plaintext, two recipients (ssh-rsa, then
    X25519) giving a two-stanza header; identity list: a passphrase and an ssh-ed25519 identity that answer
    "incorrect", then the X25519 identity that opens the file key (second stanza), then one more -/
theorem decrypt_encrypt_nonvacuous :
    ∃ file fk stanzas t,
      Prims.toy.Correct ∧ Prims.toy.aead.NonceSep ∧ 0 < 4 ∧ (∀ r ∈ wRs, r.ProducesWF Prims.toy) ∧
      encryptFile Prims.toy 4 wTape wRs wPt = .ok file ∧
      encryptHeader Prims.toy wTape wRs = .ok (fk, stanzas, t) ∧ stanzas.length = 2 ∧
      (∀ i ∈ [Identity.scrypt [112] 22, Identity.sshEd [1] [2]], i.unwrap Prims.toy stanzas = .incorrect) ∧
      (Identity.x25519 (List.replicate 32 2)).unwrap Prims.toy stanzas = .key fk := by
  exact ⟨_, _, _, _, Prims.toy_correct, AEAD.toy_nonceSep, by decide, wRs_producesWF,
    eq_ok_of_isSome [] (by decide +kernel), eq_ok_triple ([], [], []) (by decide +kernel), by decide +kernel⟩

/-- … and `decrypt_encrypt` then gives the plaintext back, having consulted three identities -/
example : ∃ file,
    decryptFile Prims.toy 4 ([Identity.scrypt [112] 22, Identity.sshEd [1] [2]] ++
      Identity.x25519 (List.replicate 32 2) :: [Identity.custom fun _ => .fatal]) file = .ok (wPt, .eof) ∧
    (decryptInit Prims.toy ([Identity.scrypt [112] 22, Identity.sshEd [1] [2]] ++
      Identity.x25519 (List.replicate 32 2) :: [Identity.custom fun _ => .fatal]) file).2 = 3 := by
  obtain ⟨file, fk, stanzas, t, hP, hN, hC, hrs, henc, hh, _, hpre, hid⟩ := decrypt_encrypt_nonvacuous
  obtain ⟨fk', stanzas', t', hh', h⟩ := decrypt_encrypt Prims.toy hP hN 4 hC wTape wRs wPt file hrs henc
  cases hh.symm.trans hh'
  exact ⟨file, h _ _ _ hpre hid⟩

/-- non-vacuity of `hsep_other_types`: an ssh-rsa recipient, toy primitives, a 40-byte tape: `wrapOne` returns one stanza -/
theorem hsep_other_types_nonvacuous :
    ∃ ss l t',
      ((∃ pw n, Recipient.sshRsa [1, 2, 3] [4, 5] = .scrypt pw n) ∨ (∃ w m, Recipient.sshRsa [1, 2, 3] [4, 5] = .sshEd w m) ∨
        (∃ w p, Recipient.sshRsa [1, 2, 3] [4, 5] = .sshRsa w p)) ∧
      wrapOne Prims.toy (Recipient.sshRsa [1, 2, 3] [4, 5]) wFk (List.replicate 40 6) = .ok (some (ss, l), t') ∧
      ss.length = 1 :=
  ⟨_, _, _, Or.inr (Or.inr ⟨_, _, rfl⟩), rfl, rfl⟩

/-- non-vacuity of `x25519_identity_opens`: toy primitives; the X25519 recipient stands between an ssh-rsa recipient
    (`rs1`, so `hsep` has something to say) and an ssh-ed25519 recipient (`rs2`); Encrypt's header has three stanzas -/
theorem x25519_identity_opens_nonvacuous :
    ∃ fk stanzas t,
      Prims.toy.Correct ∧
      Prims.toy.x25519 (List.replicate 32 2) Prims.toy.basepoint = some (List.replicate 32 0) ∧
      encryptHeader Prims.toy wTape ([Recipient.sshRsa [1, 2, 3] [4, 5]] ++ Recipient.x25519 (List.replicate 32 0) ::
        [Recipient.sshEd [9] (List.replicate 32 0)]) = .ok (fk, stanzas, t) ∧ stanzas.length = 3 ∧
      (∀ r ∈ [Recipient.sshRsa [1, 2, 3] [4, 5]], ∀ tp ss l t', wrapOne Prims.toy r fk tp = .ok (some (ss, l), t') →
        ∀ s ∈ ss, unwrapX25519 Prims.toy (List.replicate 32 2) s = .incorrect) := by
  refine ⟨_, _, _, Prims.toy_correct, rfl, eq_ok_triple ([], [], []) (by decide +kernel), by decide +kernel, ?_⟩
  intro r hr tp ss l t' hw
  simp only [List.mem_singleton] at hr
  subst hr
  exact hsep_other_types Prims.toy _ _ tp _ ss l t' (Or.inr (Or.inr ⟨_, _, rfl⟩)) hw

/-- … and `x25519_identity_opens` then says the identity opens that header -/
example : ∃ fk stanzas, stanzas.length = 3 ∧
    (Identity.x25519 (List.replicate 32 2)).unwrap Prims.toy stanzas = .key fk :=
  let ⟨fk, stanzas, t, hP, hpk, hh, hl, hsep⟩ := x25519_identity_opens_nonvacuous
  ⟨fk, stanzas, hl, x25519_identity_opens Prims.toy hP wTape _ _ _ _ fk stanzas t hpk hh hsep⟩

/-- non-vacuity of `armor_transparent`: a whitespace budget of 1024 -/
theorem armor_transparent_nonvacuous : 0 < 1024 := by decide

end Props.C01
end AgeModel
