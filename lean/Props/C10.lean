/-
  C10 — passphrase files stand alone and bound the work they demand.
-/
import Proofs.TapeLayout
import Proofs.CliLazy
import Proofs.ToyPrims
namespace AgeModel
namespace Props.C10
open Format

/-- A passphrase identity rejects (fatally, without deriving any key) every
    header in which a passphrase stanza is not the only stanza — wherever it stands. -/
theorem scrypt_identity_alone (P : Prims) (pw : Bytes) (maxWF : Nat) (ss : List Stanza)
    (hs : ∃ s ∈ ss, s.type = tScrypt) (hlen : ss.length ≠ 1) :
    (Identity.scrypt pw maxWF).unwrapLog P ss = (.fatal, []) := by
  unfold Identity.unwrapLog
  have : ss.any (fun s => s.type = tScrypt) = true :=
    List.any_eq_true.mpr (hs.imp fun _ h => ⟨h.1, decide_eq_true h.2⟩)
  simp [this, hlen]

/-- One stanza: a key is derived (the log is `[n]`) only if the work-factor
    argument is a canonical positive decimal `n` with `n ≤ max`; in every other
    case nothing is derived and the result is not a key — for every argument
    string, every configured maximum and every passphrase, right or wrong. -/
theorem workfactor_guard (P : Prims) (pw : Bytes) (maxWF : Nat) (s : Stanza) :
    (∃ a w n, s.args = [a, w] ∧ parseWorkFactor w = some n ∧ n ≤ maxWF ∧ (unwrapScrypt P pw maxWF s).2 = [n]) ∨
    ((unwrapScrypt P pw maxWF s).2 = [] ∧ ∀ k, (unwrapScrypt P pw maxWF s).1 ≠ .key k) := by
  rcases unwrapScrypt_cases P pw maxWF s with ⟨a, w, _, n, ha, _, _, hn, hle, e⟩ | e | e
  · exact .inl ⟨a, w, n, ha, hn, hle, by rw [e]⟩
  · exact .inr ⟨by rw [e], fun k => by rw [e]; nofun⟩
  · exact .inr ⟨by rw [e], fun k => by rw [e]; nofun⟩

/-- canonical positive decimals only: leading zeros, signs, spaces, hex, empty are not accepted -/
theorem workfactor_canonical (w : Bytes) (n : Nat) (h : parseWorkFactor w = some n) :
    ∃ d ds, w = d :: ds ∧ 49 ≤ d.toNat ∧ d.toNat ≤ 57 ∧ (∀ c ∈ ds, 48 ≤ c.toNat ∧ c.toNat ≤ 57) ∧ n < 2 ^ 63 := by
  unfold parseWorkFactor at h
  split at h
  · cases h
  · rename_i d ds
    split at h
    · rename_i hc
      simp only at h
      split at h
      · rename_i hv
        refine ⟨d, ds, rfl, hc.1, hc.2.1, ?_, by simp only [Option.some.injEq] at h; omega⟩
        intro c hcm
        have := hc.2.2
        rw [List.all_eq_true] at this
        have := this c hcm
        simp at this; exact this
      · cases h
    · cases h

/-- every work factor for which the identity derives a key is within its configured maximum -/
theorem kdf_cost_bounded (P : Prims) (pw : Bytes) (maxWF : Nat) (ss : List Stanza) :
    ∀ n ∈ ((Identity.scrypt pw maxWF).unwrapLog P ss).2, n ≤ maxWF := by
  -- one stanza derives at most one key, within the maximum; the log of the loop is made of such logs
  have hone : ∀ s, ∀ n ∈ (unwrapScrypt P pw maxWF s).2, n ≤ maxWF := by
    intro s n hn
    rcases unwrapScrypt_cases P pw maxWF s with ⟨_, _, _, m, _, _, _, _, hle, e⟩ | e | e <;> rw [e] at hn
    · cases List.mem_singleton.mp hn; exact hle
    · cases hn
    · cases hn
  have hall : ∀ ss : List Stanza, ∀ n ∈ (multiUnwrapLog (unwrapScrypt P pw maxWF) ss).2, n ≤ maxWF := by
    intro ss
    induction ss with
    | nil => nofun
    | cons s ss ih =>
      intro n hn
      unfold multiUnwrapLog at hn
      have h1 := hone s
      generalize unwrapScrypt P pw maxWF s = r at hn h1
      obtain ⟨res, log⟩ := r
      cases res with
      | incorrect => exact (List.mem_append.mp hn).elim (h1 n) (ih n)
      | key k => exact h1 n hn
      | fatal => exact h1 n hn
  unfold Identity.unwrapLog
  simp only
  split
  · nofun
  · exact hall ss

/-- Encryption refuses every recipient list in which a passphrase recipient is
    followed or preceded by a recipient that declares no labels (every native
    X25519 / SSH recipient): if Encrypt got as far as producing a header, the
    list cannot contain both. -/
theorem scrypt_never_mixed_encrypt (P : Prims) (tape : Bytes) (rs : List Recipient) (pw : Bytes) (n : Nat) (other : Recipient)
    (hs : Recipient.scrypt pw n ∈ rs) (ho : other ∈ rs)
    (hother : (∃ p, other = .x25519 p) ∨ (∃ w m, other = .sshEd w m) ∨ (∃ w p, other = .sshRsa w p)) :
    ∀ fk st t, encryptHeader P tape rs ≠ .ok (fk, st, t) := by
  intro fk st t hh
  -- the labels of the passphrase recipient and of the other one sort to the same list
  obtain ⟨l0, hlab⟩ := encryptHeader_labels P tape rs fk st t hh
  obtain ⟨tp1, ss1, l1, t1', hws, hl1⟩ := hlab _ hs
  obtain ⟨tp2, ss2, l2, t2', hwo, hl2⟩ := hlab _ ho
  obtain ⟨salt, lab, _, _, _, he⟩ := wrapOne_scrypt_ok hws
  cases he
  rw [wrapOne_labels_native hother hwo, sortLabels_nil] at hl2
  rw [sortLabels_singleton, ← hl2] at hl1
  cases hl1

/-- Two passphrase recipients in one list — anywhere in it: `pre`, `mid`, `post` are arbitrary. If Encrypt accepts the
    list, then the 16 bytes of the REAL tape that are the first one's label draw (after the 16 bytes of the file key, what
    `pre` consumed, and the first one's 16 bytes of salt) EQUAL the 16 bytes of the tape that are the second one's label
    draw (32 bytes of the first one and what `mid` consumed further on, after its own salt): a collision of the random
    source between two disjoint 16-byte slices — the reduction form of "a second passphrase recipient is refused". -/
theorem two_scrypt_need_equal_labels (P : Prims) (tape : Bytes) (pre mid post : List Recipient) (pw1 : Bytes) (n1 : Nat) (pw2 : Bytes) (n2 : Nat)
    (fk : Bytes) (st : List Stanza) (t : Bytes)
    (hh : encryptHeader P tape (pre ++ Recipient.scrypt pw1 n1 :: (mid ++ Recipient.scrypt pw2 n2 :: post)) = .ok (fk, st, t)) :
    (tape.drop (16 + (pre.map drawSize).sum + 16)).take 16 =
      (tape.drop (16 + (pre.map drawSize).sum + 32 + (mid.map drawSize).sum + 16)).take 16 := by
  obtain ⟨l0, hall⟩ := encryptHeader_located P tape _ fk st t hh
  obtain ⟨ss1, l1, t1, hw1, hl1⟩ := hall pre (.scrypt pw1 n1) (mid ++ Recipient.scrypt pw2 n2 :: post) rfl
  obtain ⟨ss2, l2, t2, hw2, hl2⟩ := hall (pre ++ Recipient.scrypt pw1 n1 :: mid) (.scrypt pw2 n2) post (by simp)
  have e1 := wrapOne_label_scrypt_located P pw1 n1 fk _ ss1 l1 t1 hw1
  have e2 := wrapOne_label_scrypt_located P pw2 n2 fk _ ss2 l2 t2 hw2
  rw [e1, sortLabels_singleton] at hl1
  rw [e2, sortLabels_singleton, ← hl1] at hl2
  simp only [List.cons.injEq, and_true] at hl2
  have hslice := (hexLower_inj _ _ hl2).symm
  rw [List.drop_drop, List.drop_drop] at hslice
  have hsum : ((pre ++ Recipient.scrypt pw1 n1 :: mid).map drawSize).sum =
      (pre.map drawSize).sum + 32 + (mid.map drawSize).sum := by
    simp only [List.map_append, List.map_cons, List.sum_append, List.sum_cons, drawSize, Nat.add_assoc]
  rw [hsum] at hslice
  rw [show 16 + (pre.map drawSize).sum + 32 + (mid.map drawSize).sum + 16 =
      16 + ((pre.map drawSize).sum + 32 + (mid.map drawSize).sum) + 16 by omega]
  exact hslice

/-! ## the command line tool's own passphrase identity (cmd/age `LazyScryptIdentity`)
    and its passphrase-protected identities file (`EncryptedIdentity`) -/

open CliIdent in
/-- The CLI asks for the passphrase exactly when the header is a lone passphrase
    stanza — for every header, every callback behaviour. -/
theorem cli_prompt_iff (P : Prims) (ask : Option Bytes) (m : Nat) (ss : List Stanza) :
    (lazyUnwrap P ask m ss).2 = true ↔ ∃ s, ss = [s] ∧ s.type = tScrypt := by
  constructor
  · intro h
    refine Classical.byContradiction fun hn => ?_
    rcases lazyUnwrap_not_lone P ask m hn with e | e <;> rw [e] at h <;> cases h
  · rintro ⟨s, rfl, hs⟩
    rw [lazyUnwrap_lone P ask m hs]
    cases ask with
    | none => rfl
    | some pw =>
      simp only
      split
      · rfl
      · split <;> rfl

open CliIdent in
/-- a passphrase stanza that is not alone: fatal, without asking and without a key -/
theorem cli_passphrase_stanza_alone (P : Prims) (ask : Option Bytes) (m : Nat) (ss : List Stanza)
    (hs : ∃ s ∈ ss, s.type = tScrypt) (hlen : ss.length ≠ 1) :
    lazyUnwrap P ask m ss = (.fatal, false) := by
  unfold lazyUnwrap
  have : ss.any (fun s => s.type = tScrypt) = true :=
    List.any_eq_true.mpr (hs.imp fun _ h => ⟨h.1, decide_eq_true h.2⟩)
  simp [this, hlen]

open CliIdent in
/-- on a passphrase-encrypted file the CLI never answers "incorrect identity": a wrong
    passphrase (or no terminal) is a fatal error, so no other identity is tried and the
    operation fails at the header -/
theorem cli_wrong_passphrase_fatal (P : Prims) (ask : Option Bytes) (m : Nat) (s : Stanza) (ht : s.type = tScrypt) :
    (lazyUnwrap P ask m [s]).1 ≠ .incorrect := by
  rw [lazyUnwrap_lone P ask m ht]
  cases ask with
  | none => nofun
  | some pw =>
    simp only
    split
    · nofun
    · split
      · nofun
      · rename_i r hr; exact hr

open CliIdent in
/-- whenever the CLI identity yields a file key, the passphrase typed is non-empty and the
    library's passphrase identity yields that key from the same stanza (so the
    work-factor bound `kdf_cost_bounded` and `workfactor_guard` apply to the CLI unchanged) -/
theorem cli_agrees_with_library (P : Prims) (ask : Option Bytes) (m : Nat) (ss : List Stanza) (k : Bytes)
    (h : (lazyUnwrap P ask m ss).1 = .key k) :
    ∃ pw s, ask = some pw ∧ pw ≠ [] ∧ ss = [s] ∧ (Identity.scrypt pw m).unwrap P [s] = .key k := by
  by_cases hl : ∃ s, ss = [s] ∧ s.type = tScrypt
  · obtain ⟨s, rfl, hs⟩ := hl
    rw [lazyUnwrap_lone P ask m hs] at h
    cases ask with
    | none => cases h
    | some pw =>
      simp only at h
      split at h
      · cases h
      · rename_i hpw
        split at h
        · cases h
        · refine ⟨pw, s, rfl, ?_, rfl, h⟩
          intro e; subst e; simp [newScryptIdentityOK] at hpw
  · rcases lazyUnwrap_not_lone P ask m hl with e | e <;> rw [e] at h <;> cases h

open CliIdent in
/-- a passphrase-protected identities file is opened (and the passphrase asked for) at most
    once: after a call that opened it, no later call asks again, whatever it is given -/
theorem cli_encrypted_identity_asks_once (P : Prims) (F : Protected) (ask ask' : Option Bytes) (ss ss' : List Stanza)
    (ids : List Identity) (asked : Bool) (h : F.open_ ask = (some ids, asked)) :
    ((EncId.new.unwrap P F ask ss).1.unwrap P F ask' ss').2.2.1 = false := by
  unfold EncId.unwrap EncId.new
  simp only [h]

open CliIdent in
/-- a failed attempt (wrong passphrase, no terminal, damaged file) caches nothing -/
theorem cli_encrypted_identity_failure_keeps_nothing (P : Prims) (F : Protected) (ask : Option Bytes) (ss : List Stanza)
    (asked : Bool) (h : F.open_ ask = (none, asked)) :
    EncId.new.unwrap P F ask ss = (EncId.new, .fatal, asked, false) := by
  unfold EncId.unwrap EncId.new
  simp only [h]

/-- non-vacuity: a concrete non-canonical work factor ("05") and a canonical one ("18") -/
example : parseWorkFactor [48, 53] = none ∧ parseWorkFactor [49, 56] = some 18 ∧ parseWorkFactor [43, 53] = none := by decide

/-! ## non-vacuity witnesses (toy primitives of Proofs/ToyPrims) -/

/-- non-vacuity of `scrypt_identity_alone`: a header of two stanzas, an X25519 one followed by a passphrase one -/
theorem scrypt_identity_alone_nonvacuous :
    (∃ s ∈ [({ type := tX25519, args := [B64.encRaw (List.replicate 32 0)], body := List.replicate 28 1 } : Stanza),
            wrapScrypt Prims.toy [112, 119] 10 (List.replicate 16 7) (List.replicate 16 4)], s.type = tScrypt) ∧
    [({ type := tX25519, args := [B64.encRaw (List.replicate 32 0)], body := List.replicate 28 1 } : Stanza),
      wrapScrypt Prims.toy [112, 119] 10 (List.replicate 16 7) (List.replicate 16 4)].length ≠ 1 :=
  ⟨⟨_, List.mem_cons_of_mem _ (List.mem_singleton.mpr rfl), rfl⟩, by decide⟩

/-- non-vacuity of `workfactor_canonical`: the argument `18` -/
theorem workfactor_canonical_nonvacuous : parseWorkFactor [49, 56] = some 18 := by decide

/-- `kdf_cost_bounded` and `workfactor_guard` have no hypotheses; their bounded quantifier / first alternative is not empty:
    the identity of passphrase `pw` (maximum 22) opens the lone stanza wrapped for `pw` at work factor 10, deriving one key, at 10 -/
theorem kdf_cost_bounded_nonvacuous :
    (Identity.scrypt [112, 119] 22).unwrapLog Prims.toy
      [wrapScrypt Prims.toy [112, 119] 10 (List.replicate 16 7) (List.replicate 16 4)] = (.key (List.replicate 16 4), [10]) := by decide +kernel

/-- … and the second alternative of `workfactor_guard` is met by the same stanza when the maximum is 9: fatal, nothing derived -/
example : unwrapScrypt Prims.toy [112, 119] 9
    (wrapScrypt Prims.toy [112, 119] 10 (List.replicate 16 7) (List.replicate 16 4)) = (.fatal, []) := by decide +kernel

/-- non-vacuity of `scrypt_never_mixed_encrypt`: a passphrase recipient followed by an X25519 recipient -/
theorem scrypt_never_mixed_encrypt_nonvacuous :
    Recipient.scrypt [112] 10 ∈ [Recipient.scrypt [112] 10, Recipient.x25519 (List.replicate 32 0)] ∧
    Recipient.x25519 (List.replicate 32 0) ∈ [Recipient.scrypt [112] 10, Recipient.x25519 (List.replicate 32 0)] ∧
    ((∃ p, Recipient.x25519 (List.replicate 32 0) = .x25519 p) ∨
      (∃ w m, Recipient.x25519 (List.replicate 32 0) = .sshEd w m) ∨ (∃ w p, Recipient.x25519 (List.replicate 32 0) = .sshRsa w p)) :=
  ⟨List.mem_cons_self, List.mem_cons_of_mem _ List.mem_cons_self, Or.inl ⟨_, rfl⟩⟩

/-- … and on a tape long enough for every draw that list is refused for exactly that reason -/
example : encryptHeader Prims.toy (List.replicate 100 7)
    [Recipient.scrypt [112] 10, Recipient.x25519 (List.replicate 32 0)] = .error .incompatible := eq_error_of (by decide +kernel)

/-- non-vacuity of `two_scrypt_need_equal_labels`: on the constant tape 7,7,7,… the two label draws coincide, and Encrypt accepts
    two different passphrase recipients (`pre = []`, `mid = []`, `post = []`) -/
theorem two_scrypt_need_equal_labels_nonvacuous :
    ∃ st, encryptHeader Prims.toy (List.replicate 100 7)
        ([] ++ Recipient.scrypt [112] 10 :: ([] ++ Recipient.scrypt [113] 12 :: [])) =
        .ok (List.replicate 16 7, st, List.replicate 20 7) := ⟨_, rfl⟩

/-- … the conclusion at that witness: bytes 32..47 of the tape (the first label draw) are bytes 64..79 (the second) -/
example : ((List.replicate 100 7 : Bytes).drop 32).take 16 = ((List.replicate 100 7 : Bytes).drop 64).take 16 := by
  obtain ⟨st, h⟩ := two_scrypt_need_equal_labels_nonvacuous
  exact two_scrypt_need_equal_labels _ _ [] [] [] _ _ _ _ _ _ _ h

/-- … and on the tape 0,1,2,…, where the two draws differ, the same list is refused -/
example : encryptHeader Prims.toy ((List.range 100).map Nat.toUInt8)
    [Recipient.scrypt [112] 10, Recipient.scrypt [113] 12] = .error .incompatible := eq_error_of (by decide +kernel)

/-- non-vacuity of `cli_passphrase_stanza_alone`: the two-stanza header of `scrypt_identity_alone_nonvacuous` (same hypotheses) -/
theorem cli_passphrase_stanza_alone_nonvacuous :
    (∃ s ∈ [({ type := tX25519, args := [B64.encRaw (List.replicate 32 0)], body := List.replicate 28 1 } : Stanza),
            wrapScrypt Prims.toy [112, 119] 10 (List.replicate 16 7) (List.replicate 16 4)], s.type = tScrypt) ∧
    [({ type := tX25519, args := [B64.encRaw (List.replicate 32 0)], body := List.replicate 28 1 } : Stanza),
      wrapScrypt Prims.toy [112, 119] 10 (List.replicate 16 7) (List.replicate 16 4)].length ≠ 1 :=
  scrypt_identity_alone_nonvacuous

/-- non-vacuity of `cli_wrong_passphrase_fatal`: a passphrase stanza -/
theorem cli_wrong_passphrase_fatal_nonvacuous :
    (wrapScrypt Prims.toy [112, 119] 10 (List.replicate 16 7) (List.replicate 16 4)).type = tScrypt := rfl

open CliIdent in
/-- … and a lone passphrase stanza whose body does not open under the typed passphrase: asked, fatal -/
example : lazyUnwrap Prims.toy (some [120]) 22
    [{ type := tScrypt, args := [B64.encRaw (List.replicate 16 7), [49, 48]], body := List.replicate 28 1 }] = (.fatal, true) := by decide +kernel

open CliIdent in
/-- non-vacuity of `cli_agrees_with_library`: the CLI identity, given the passphrase, opens the lone stanza wrapped for it -/
theorem cli_agrees_with_library_nonvacuous :
    (lazyUnwrap Prims.toy (some [112, 119]) 22
      [wrapScrypt Prims.toy [112, 119] 10 (List.replicate 16 7) (List.replicate 16 4)]).1 = .key (List.replicate 16 4) := by decide +kernel

open CliIdent in
/-- non-vacuity of `cli_encrypted_identity_asks_once`: a protected file that opens (to one X25519 identity) when a passphrase is typed -/
theorem cli_encrypted_identity_asks_once_nonvacuous :
    ({ open_ := fun a => match a with
        | some _ => (some [Identity.x25519 (List.replicate 32 2)], true)
        | none => (none, true) } : Protected).open_ (some [112]) = (some [Identity.x25519 (List.replicate 32 2)], true) := rfl

open CliIdent in
/-- non-vacuity of `cli_encrypted_identity_failure_keeps_nothing`: the same protected file when the terminal is not available -/
theorem cli_encrypted_identity_failure_keeps_nothing_nonvacuous :
    ({ open_ := fun a => match a with
        | some _ => (some [Identity.x25519 (List.replicate 32 2)], true)
        | none => (none, true) } : Protected).open_ none = (none, true) := rfl

end Props.C10
end AgeModel
