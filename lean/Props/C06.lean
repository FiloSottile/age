/-
  C06 — fresh CSPRNG secrets per file; no key and nonce pair is reused.
  (Which generator the code reads — crypto/rand everywhere, math/rand only for
  the plugin grease name — is a regenerated fact checked in Tie/C06.lean.)
-/
import Proofs.FileWrite
import Proofs.ToyPrims
import Proofs.StreamTamper
import Proofs.TapeLayout
namespace AgeModel
namespace Props.C06
open Format Stream

/- `Props.C06.drawSize` is `AgeModel.drawSize` (Proofs/TapeLayout.lean): the bytes of the random tape each kind of
   recipient consumes. -/
export AgeModel (drawSize)

/-- one recipient: a successful wrap consumed exactly the next `drawSize r` bytes
    of the tape and nothing else -/
theorem wrapOne_consumes (P : Prims) (r : Recipient) (fk tape : Bytes) (res : Option (List Stanza × List Bytes)) (t : Bytes)
    (h : wrapOne P r fk tape = .ok (res, t)) : ∃ used, tape = used ++ t ∧ used.length = drawSize r :=
  _root_.AgeModel.wrapOne_consumes P r fk tape res t h

/-- **Tape linearity.** Encrypt's header phase consumes a prefix of the tape made of
    consecutive, non-overlapping slices: 16 bytes of file key, then `drawSize r`
    bytes per recipient in list order; the payload nonce is the next 16 bytes.
    Nothing is drawn twice, and the number of bytes drawn grows with the number
    of recipients. -/
theorem tape_linear (P : Prims) (tape : Bytes) (rs : List Recipient) (fk : Bytes) (st : List Stanza) (t : Bytes)
    (h : encryptHeader P tape rs = .ok (fk, st, t)) :
    ∃ used, tape = fk ++ used ++ t ∧ fk.length = 16 ∧ used.length = (rs.map drawSize).sum := by
  obtain ⟨hfk, t0, hd0, hw⟩ := encryptHeader_fk h
  suffices hloop : ∀ (rs : List Recipient) (i : Nat) (tp : Bytes) (acc : List Stanza) (lb : Option (List Bytes))
      (st : List Stanza) (t : Bytes), wrapAll P fk rs i tp acc lb = .ok (st, t) →
      ∃ used, tp = used ++ t ∧ used.length = (rs.map drawSize).sum by
    obtain ⟨used, hu, hl⟩ := hloop rs 0 t0 [] none st t hw
    exact ⟨used, by rw [(draw_spec hd0).2, hu, List.append_assoc], hfk, hl⟩
  intro rs
  induction rs with
  | nil =>
    intro i tp acc lb st t h
    cases h
    exact ⟨[], rfl, rfl⟩
  | cons r rs ih =>
    intro i tp acc lb st t h
    obtain ⟨ss, l, tp', hw1, -, hrec⟩ := wrapAll_cons_ok h
    obtain ⟨u1, hu1, hl1⟩ := wrapOne_consumes P r fk tp _ tp' hw1
    obtain ⟨u2, hu2, hl2⟩ := ih _ _ _ _ _ _ hrec
    exact ⟨u1 ++ u2, by rw [hu1, hu2, List.append_assoc],
      by rw [List.length_append, hl1, hl2, List.map_cons, List.sum_cons]⟩

/-- the ephemeral secret of an X25519 stanza IS its tape slice (not a constant, not
    computed from the input, not shared with another stanza: slices are disjoint by
    `tape_linear`) -/
theorem x25519_secret_is_slice (P : Prims) (pub fk tape : Bytes) (ss : List Stanza) (l : List Bytes) (t : Bytes)
    (h : wrapOne P (.x25519 pub) fk tape = .ok (some (ss, l), t)) :
    ∃ eph st, tape = eph ++ t ∧ eph.length = 32 ∧ wrapX25519 P pub eph fk = some st ∧ ss = [st] := by
  obtain ⟨eph, st, hd, hw, hss, -⟩ := draw32_wrap_some h
  exact ⟨eph, st, (draw_spec hd).2, (draw_spec hd).1, hw, hss⟩

/-- two files written one after the other use disjoint tape ranges (any number of
    files follows by iterating): file 1 uses `fk₁ ++ u₁ ++ n₁`, file 2 starts after it -/
theorem two_files_disjoint (P : Prims) (tape : Bytes) (rs₁ rs₂ : List Recipient)
    (fk₁ fk₂ : Bytes) (st₁ st₂ : List Stanza) (t₁ t₁' t₂ n₁ : Bytes)
    (h₁ : encryptHeader P tape rs₁ = .ok (fk₁, st₁, t₁)) (hn : draw streamNonceSize t₁ = some (n₁, t₁'))
    (h₂ : encryptHeader P t₁' rs₂ = .ok (fk₂, st₂, t₂)) :
    ∃ u₁ u₂, tape = fk₁ ++ u₁ ++ n₁ ++ (fk₂ ++ u₂ ++ t₂) ∧ fk₁.length = 16 ∧ n₁.length = 16 ∧ fk₂.length = 16 := by
  obtain ⟨u₁, e₁, l₁, _⟩ := tape_linear P tape rs₁ fk₁ st₁ t₁ h₁
  obtain ⟨u₂, e₂, l₂, _⟩ := tape_linear P t₁' rs₂ fk₂ st₂ t₂ h₂
  have hs := draw_spec hn
  exact ⟨u₁, u₂, by rw [e₁, hs.2, e₂]; simp, l₁, hs.1, l₂⟩

/-- header and payload nonce do not depend on the plaintext: two plaintexts under
    the same tape and recipients give files that differ only in the STREAM part -/
theorem secrets_independent_of_plaintext (P : Prims) (C : Nat) (tape : Bytes) (rs : List Recipient) (pt₁ pt₂ f₁ f₂ : Bytes)
    (h₁ : encryptFile P C tape rs pt₁ = .ok f₁) (h₂ : encryptFile P C tape rs pt₂ = .ok f₂) :
    ∃ hdr nonce k, f₁ = hdr ++ nonce ++ Stream.encrypt P.aead C k pt₁ ∧ f₂ = hdr ++ nonce ++ Stream.encrypt P.aead C k pt₂ := by
  obtain ⟨fk, st, t, n, t', hh, hd, rfl⟩ := encryptFile_ok h₁
  obtain ⟨_, _, _, _, _, hh', hd', rfl⟩ := encryptFile_ok h₂
  cases hh.symm.trans hh'
  cases hd.symm.trans hd'
  exact ⟨_, n, _, rfl, rfl⟩

/-- the payload is the concatenation of the sealed (nonce, chunk) pairs, in order -/
theorem encrypt_is_sealed_chunks (A : AEAD) (C : Nat) (k : Bytes) :
    ∀ (fuel i : Nat) (p : Bytes), encFrom A C k i p fuel = (sealedFrom C i p fuel).flatMap (fun x => A.sealF k x.1 x.2) := by
  intro fuel
  induction fuel with
  | zero => intro i p; rfl
  | succ fuel ih =>
    intro i p
    rw [encFrom]
    by_cases hle : p.length ≤ C
    · rw [if_pos hle, sealedFrom_short C i p fuel hle, List.flatMap_cons, List.flatMap_nil, List.append_nil]
    · rw [if_neg hle, sealedFrom_long C i p fuel hle, List.flatMap_cons, ih]

/-- **Chunk nonces.** Chunk `j` of a payload is sealed under `nonce j (j is last)`:
    a counter from zero, the final flag on the last chunk only; consequently all
    nonces of a payload are pairwise distinct (below 2^88 chunks). -/
theorem chunk_nonces_distinct (C : Nat) : ∀ (fuel i : Nat) (p : Bytes), i + fuel < 2 ^ 88 →
    ((sealedFrom C i p fuel).map (·.1)).Pairwise (· ≠ ·) := by
  intro fuel
  induction fuel with
  | zero => intro i p _; exact List.Pairwise.nil
  | succ fuel ih =>
    intro i p hb
    by_cases hle : p.length ≤ C
    · rw [sealedFrom_short C i p fuel hle]
      exact List.pairwise_singleton _ _
    · rw [sealedFrom_long C i p fuel hle, List.map_cons, List.pairwise_cons]
      refine ⟨?_, ih (i+1) _ (by omega)⟩
      -- the later pairs carry counters above `i`
      intro n hn
      obtain ⟨x, hx, rfl⟩ := List.mem_map.mp hn
      obtain ⟨j, f, h1, h2, h3⟩ := sealedFrom_index C fuel (i+1) _ x hx
      rw [h3]
      exact nonce_ne_of_lt false f h1 (Nat.lt_trans h2 (by omega))

/-- the first pair is counter zero; the flag is set exactly on the last pair -/
theorem chunk_flags (C : Nat) (hC : 0 < C) : ∀ (fuel i : Nat) (p : Bytes), p.length < fuel →
    ∃ n, (sealedFrom C i p fuel).map (·.1) = (List.range n).map (fun j => nonce (i + j) false) ++ [nonce (i + n) true] := by
  intro fuel
  induction fuel with
  | zero => intro i p h; omega
  | succ fuel ih =>
    intro i p h
    unfold sealedFrom
    split
    · exact ⟨0, by simp⟩
    · rename_i hgt
      obtain ⟨n, hn⟩ := ih (i+1) (p.drop C) (by rw [List.length_drop]; omega)
      refine ⟨n+1, ?_⟩
      simp only [List.map_cons, hn, List.range_succ_eq_map, List.map_cons, List.map_map]
      simp [Nat.add_assoc, Nat.add_comm 1]

/-- with the toy primitives, a two-recipient header is built from a constant tape -/
example : (encryptHeader Prims.toy (List.replicate 100 7)
    [Recipient.x25519 (List.replicate 32 0), Recipient.sshEd [1] (List.replicate 32 3)]).isOk = true := by decide

/-! ## non-vacuity witnesses (toy primitives; the tape is 0, 1, 2, … so that every slice is recognisable) -/

/-- non-vacuity of `wrapOne_consumes`: a passphrase recipient (work factor 10) wraps a 16-byte file key from a 40-byte
    tape, drawing 16 bytes of salt and 16 bytes of label and leaving the last 8 -/
theorem wrapOne_consumes_nonvacuous :
    wrapOne Prims.toy (.scrypt [112, 119] 10) (List.replicate 16 4) ((List.range 40).map Nat.toUInt8) =
      .ok (some ([wrapScrypt Prims.toy [112, 119] 10 ((List.range 16).map Nat.toUInt8) (List.replicate 16 4)],
                 [hexLower ((List.range' 16 16).map Nat.toUInt8)]), [32, 33, 34, 35, 36, 37, 38, 39]) := rfl

/-- non-vacuity of `tape_linear`: a 100-byte tape, an X25519 and an ssh-ed25519 recipient: file key = bytes 0..15,
    two 32-byte draws, 20 bytes left -/
theorem tape_linear_nonvacuous :
    ∃ st, encryptHeader Prims.toy ((List.range 100).map Nat.toUInt8)
      [Recipient.x25519 (List.replicate 32 0), Recipient.sshEd [1] (List.replicate 32 3)] =
        .ok ((List.range 16).map Nat.toUInt8, st, (List.range' 80 20).map Nat.toUInt8) := ⟨_, rfl⟩

/-- non-vacuity of `x25519_secret_is_slice`: an X25519 recipient wraps from a 40-byte tape, leaving the last 8 bytes -/
theorem x25519_secret_is_slice_nonvacuous :
    ∃ st, wrapOne Prims.toy (.x25519 (List.replicate 32 5)) (List.replicate 16 4) ((List.range 40).map Nat.toUInt8) =
      .ok (some ([st], []), [32, 33, 34, 35, 36, 37, 38, 39]) := ⟨_, rfl⟩

/-- non-vacuity of `two_files_disjoint`: one 120-byte tape; file 1 (an X25519 recipient) uses bytes 0..47 and the
    nonce 48..63, file 2 (a passphrase recipient) starts at byte 64 and leaves the last 8 -/
theorem two_files_disjoint_nonvacuous :
    ∃ st₁ st₂,
      encryptHeader Prims.toy ((List.range 120).map Nat.toUInt8) [Recipient.x25519 (List.replicate 32 0)] =
        .ok ((List.range 16).map Nat.toUInt8, st₁, (List.range' 48 72).map Nat.toUInt8) ∧
      draw streamNonceSize ((List.range' 48 72).map Nat.toUInt8) =
        some ((List.range' 48 16).map Nat.toUInt8, (List.range' 64 56).map Nat.toUInt8) ∧
      encryptHeader Prims.toy ((List.range' 64 56).map Nat.toUInt8) [Recipient.scrypt [112] 10] =
        .ok ((List.range' 64 16).map Nat.toUInt8, st₂, (List.range' 112 8).map Nat.toUInt8) := ⟨_, _, rfl, rfl, rfl⟩

/-- non-vacuity of `secrets_independent_of_plaintext`: the same tape and recipient, a 5-byte and a 9-byte plaintext
    (two and three chunks of 4) -/
theorem secrets_independent_of_plaintext_nonvacuous :
    ∃ f₁ f₂,
      encryptFile Prims.toy 4 ((List.range 100).map Nat.toUInt8) [Recipient.x25519 (List.replicate 32 0)] [1, 2, 3, 4, 5] = .ok f₁ ∧
      encryptFile Prims.toy 4 ((List.range 100).map Nat.toUInt8) [Recipient.x25519 (List.replicate 32 0)] [9, 8, 7, 6, 5, 4, 3, 2, 1] = .ok f₂ :=
  ⟨_, _, rfl, rfl⟩

/-- non-vacuity of `chunk_nonces_distinct`: 9 bytes in chunks of 4 from counter 0 with fuel 10: three sealed pairs -/
theorem chunk_nonces_distinct_nonvacuous :
    0 + 10 < 2 ^ 88 ∧ (sealedFrom 4 0 [1, 2, 3, 4, 5, 6, 7, 8, 9] 10).length = 3 := ⟨by decide, rfl⟩

/-- non-vacuity of `chunk_flags`: chunk size 4, a 9-byte plaintext, fuel 10 (what `encrypt` passes) -/
theorem chunk_flags_nonvacuous : 0 < 4 ∧ ([1, 2, 3, 4, 5, 6, 7, 8, 9] : Bytes).length < 10 := ⟨by decide, by decide⟩

/-- the conclusions of `tape_linear` and `chunk_flags` at those witnesses -/
example : ∃ used : Bytes, (List.range 100).map Nat.toUInt8 =
    (List.range 16).map Nat.toUInt8 ++ used ++ (List.range' 80 20).map Nat.toUInt8 ∧ used.length = 64 := by
  obtain ⟨st, h⟩ := tape_linear_nonvacuous
  obtain ⟨used, h1, _, h3⟩ := tape_linear _ _ _ _ _ _ h
  exact ⟨used, h1, h3⟩
example : (sealedFrom 4 0 [1, 2, 3, 4, 5, 6, 7, 8, 9] 10).map (·.1) = [nonce 0 false, nonce 1 false, nonce 2 true] := rfl

end Props.C06
end AgeModel
