/-
  C16 — the plugin client follows the protocol for every plugin behaviour.
  Property theorems only (helper lemmas live in Proofs/Plugin*.lean).

  Every theorem quantifies over ALL conversations (any length), all three UI
  callbacks in every combination (absent / answering / failing, with an
  arbitrary UI state `σ` so that a callback may answer differently each time),
  every base64 decoder `dec`, and both state machines:

    R c = Recipient.WrapWithLabels   I c = Identity.Unwrap      on conversation c

  "The client is listening after `pre`" (`Listening (R ⟨pre, e₀⟩) e₀`) says that
  the client read all of `pre` and asked for more: its run over `pre` alone
  ends with the read error. It is how "the message `m` is reached" is expressed
  without mentioning the model's internal state. `Listening (R ⟨pre, e₀⟩) e₀`
  unfolds to `(run (recipientStep ui dec) ⟨st, [], none⟩ pre e₀).result =
  .error (.ended e₀)`, the form the lemmas of Proofs/Plugin*.lean take.

  client_total: `recipientClient` and `identityClient` are total functions,
  defined by structural recursion on the list of plugin messages (`Plugin.run`),
  so the loop terminates on every finite plugin output — by construction; a
  live plugin that neither writes nor exits is a hang of the plugin and is out
  of scope. `eof_is_error_*` below is the content: the stream ending at any
  point is an error result, never a success and never "incorrect identity".
-/
import Proofs.PluginSpec
import Proofs.PluginClient
namespace AgeModel
namespace Props.C16
open Plugin

/-- the client consumed the whole conversation and is waiting for the next stanza -/
def Listening {σ α : Type} (o : Outcome σ α) (e : End) : Prop := o.result = .error (.ended e)

def noDone (l : List Stanza) : Prop := ∀ m ∈ l, m.type ≠ "done"

/-- the first argument (if any) is not something `strconv.Atoi` maps to 0 -/
def badIndex (m : Stanza) : Prop := ∀ idx rest, m.args = idx :: rest → atoi idx ≠ some 0

/-- a string `ReadStanza` accepts as type or argument -/
def validString (s : String) : Prop := s ≠ "" ∧ ∀ c ∈ s.toList, 33 ≤ c.toNat ∧ c.toNat ≤ 126

def validStrings (s : Stanza) : Prop := validString s.type ∧ ∀ a ∈ s.args, validString a

section
variable {σ : Type} (ui : UI σ) (dec : String → Option Bytes) (st : σ)
variable (idm : Bool) (enc : String) (fk : Bytes) (sts : List Stanza) (g : String)

local notation "R" => recipientClient ui dec st idm enc fk g
local notation "I" => identityClient ui dec st enc sts g

/-! ## what the client sends first -/

/-- recipient: add-recipient (add-identity when built from an identity) with the
    encoding, one grease stanza, wrap-file-key whose body is the file key,
    extension-labels, done — whatever the plugin goes on to do -/
theorem phase1_wellformed_recipient (c : Conv) :
    (R c).phase1 =
      [⟨if idm then "add-identity" else "add-recipient", [enc], []⟩, ⟨g, [], []⟩,
       ⟨"wrap-file-key", [], fk⟩, ⟨"extension-labels", [], []⟩, ⟨"done", [], []⟩] := rfl

/-- identity: add-identity with the encoding, one grease stanza, one
    `recipient-stanza 0 <type> <args…>` with the same body per stanza, in order, done -/
theorem phase1_wellformed_identity (c : Conv) :
    (I c).phase1 =
      [⟨"add-identity", [enc], []⟩, ⟨g, [], []⟩] ++
      sts.map (fun s => ⟨"recipient-stanza", "0" :: s.type :: s.args, s.body⟩) ++
      [⟨"done", [], []⟩] := by
  simp [identityClient, identityPhase1, doneS]

/-- every type and argument written in phase 1 is a string the stanza grammar
    allows, provided the caller's strings are -/
theorem phase1_strings_valid (c : Conv) (henc : validString enc) (hg : validString g)
    (hsts : ∀ s ∈ sts, validStrings s) :
    (∀ p ∈ (R c).phase1, validStrings p) ∧ (∀ p ∈ (I c).phase1, validStrings p) := by
  obtain ⟨hai, har, hwfk, hel, hdone, hrs, h0⟩ :
      validString "add-identity" ∧ validString "add-recipient" ∧ validString "wrap-file-key" ∧
      validString "extension-labels" ∧ validString "done" ∧ validString "recipient-stanza" ∧
      validString "0" := by
    unfold validString; decide +kernel
  have noArgs : ∀ a ∈ ([] : List String), validString a := nofun
  have encArg : ∀ a ∈ [enc], validString a := by simpa using henc
  constructor
  · intro p hp
    simp only [recipientClient, recipientPhase1, doneS, List.mem_cons, List.not_mem_nil, or_false] at hp
    rcases hp with h | h | h | h | h <;> subst h
    · exact ⟨by cases idm <;> assumption, encArg⟩
    · exact ⟨hg, noArgs⟩
    · exact ⟨hwfk, noArgs⟩
    · exact ⟨hel, noArgs⟩
    · exact ⟨hdone, noArgs⟩
  · intro p hp
    simp only [identityClient, identityPhase1, doneS, List.mem_cons, List.mem_append, List.mem_map,
      List.not_mem_nil, or_false] at hp
    rcases hp with h | h | ⟨s, hs, h⟩ | h <;> subst h
    · exact ⟨hai, encArg⟩
    · exact ⟨hg, noArgs⟩
    · refine ⟨hrs, fun a ha => ?_⟩
      simp only [List.mem_cons] at ha
      rcases ha with h | h | h
      · exact h ▸ h0
      · exact h ▸ (hsts s hs).1
      · exact (hsts s hs).2 a h
    · exact ⟨hdone, noArgs⟩

/-! ## only file index 0 is accepted -/

/-- A `recipient-stanza` whose index argument is missing or is not a decimal
    numeral of value 0 (`strconv.Atoi`): after any messages that do not include
    `done` the wrap fails hard; and if the client was listening when it arrived,
    the result is a protocol error and the message is not acknowledged. -/
theorem index_must_be_zero_recipient (pre : List Stanza) (m : Stanza) (post : List Stanza) (e : End)
    (hm : m.type = "recipient-stanza") (hi : badIndex m) :
    (noDone pre → Hard (R ⟨pre ++ m :: post, e⟩).result) ∧
    (∀ e₀, Listening (R ⟨pre, e₀⟩) e₀ →
      (R ⟨pre ++ m :: post, e⟩).result = .error .protocol ∧
      (R ⟨pre ++ m :: post, e⟩).replies = (R ⟨pre, e₀⟩).replies) :=
  run_halt_at recipientStep_client.noEndHalt recipientStep_client.hardHalt ⟨st, [], none⟩
    pre m post e hard_protocol fun _ _ => recipientStep_badIndex _ m hm hi

/-- the same for `file-key`; in particular such a message never makes the
    client report "incorrect identity" -/
theorem index_must_be_zero_identity (pre : List Stanza) (m : Stanza) (post : List Stanza) (e : End)
    (hm : m.type = "file-key") (hi : badIndex m) :
    (noDone pre → Hard (I ⟨pre ++ m :: post, e⟩).result) ∧
    (∀ e₀, Listening (I ⟨pre, e₀⟩) e₀ →
      (I ⟨pre ++ m :: post, e⟩).result = .error .protocol ∧
      (I ⟨pre ++ m :: post, e⟩).replies = (I ⟨pre, e₀⟩).replies) :=
  run_halt_at identityStep_client.noEndHalt identityStep_client.hardHalt ⟨st, false, []⟩
    pre m post e hard_protocol fun _ _ => identityStep_badIndex _ m hm hi

/-- index 0 in all its spellings is accepted: the message is acknowledged with
    `ok` and the client goes on listening -/
theorem index_zero_accepted (pre : List Stanza) (m : Stanza) (e₀ e : End) (idx : String)
    (hi : atoi idx = some 0) :
    (∀ ty as, m.type = "recipient-stanza" → m.args = idx :: ty :: as → Listening (R ⟨pre, e₀⟩) e₀ →
      Listening (R ⟨pre ++ [m], e⟩) e ∧ (R ⟨pre ++ [m], e⟩).replies = (R ⟨pre, e₀⟩).replies ++ [okS]) ∧
    (m.type = "file-key" → m.args = [idx] → Listening (I ⟨pre, e₀⟩) e₀ → (∀ x ∈ pre, x.type ≠ "file-key") →
      Listening (I ⟨pre ++ [m], e⟩) e ∧ (I ⟨pre ++ [m], e⟩).replies = (I ⟨pre, e₀⟩).replies ++ [okS]) := by
  constructor
  · intro ty as hm ha hl
    have h := run_next_when_listening recipientStep_client.noEndHalt ⟨st, [], none⟩ pre e₀ hl m e _ _
      (recipientStep_accept _ m hm idx ty as ha hi)
    exact ⟨h.1, h.2.1⟩
  · intro hm ha hl hnone
    have hgot : (run (identityStep ui dec) ⟨st, false, []⟩ pre e₀).state.got = false :=
      run_state_inv (fun s : IState σ => s.got = false) (fun x => x.type ≠ "file-key")
        (fun s x s' r hx hs h => (identityStep_frame hx h).1.trans hs) _ rfl pre hnone e₀
    have h := run_next_when_listening identityStep_client.noEndHalt ⟨st, false, []⟩ pre e₀ hl m e _ _
      (identityStep_accept _ m hm idx ha hi hgot)
    exact ⟨h.1, h.2.1⟩

/-! ## a repeated file key or labels message is an error -/

/-- Two `file-key` messages — whatever their arguments and bodies, in
    particular also when the first one had an empty body: with no `done` before
    the second, the unwrap fails hard (never "incorrect identity"); if the client
    was listening when the second arrived, it is a protocol error and the second
    is not acknowledged. -/
theorem duplicate_filekey_error (pre : List Stanza) (m1 : Stanza) (mid : List Stanza) (m2 : Stanza)
    (post : List Stanza) (e : End) (h1 : m1.type = "file-key") (h2 : m2.type = "file-key") :
    (noDone pre → noDone mid → Hard (I ⟨pre ++ m1 :: (mid ++ m2 :: post), e⟩).result) ∧
    (∀ e₀, Listening (I ⟨pre ++ m1 :: mid, e₀⟩) e₀ →
      (I ⟨pre ++ m1 :: (mid ++ m2 :: post), e⟩).result = .error .protocol ∧
      (I ⟨pre ++ m1 :: (mid ++ m2 :: post), e⟩).replies = (I ⟨pre ++ m1 :: mid, e₀⟩).replies) :=
  run_second_message identityStep_client.noEndHalt identityStep_got_inv identityStep_client.hardHalt
    ⟨st, false, []⟩ pre m1 mid m2 post e
    (fun s s' r hs => (identityStep_filekey_next h1 hs).2.1) (by simp [h1])
    hard_protocol fun s hg => identityStep_dup s m2 h2 hg

/-- Two `labels` messages, also when the first one had no arguments. -/
theorem duplicate_labels_error (pre : List Stanza) (m1 : Stanza) (mid : List Stanza) (m2 : Stanza)
    (post : List Stanza) (e : End) (h1 : m1.type = "labels") (h2 : m2.type = "labels") :
    (noDone pre → noDone mid → Hard (R ⟨pre ++ m1 :: (mid ++ m2 :: post), e⟩).result) ∧
    (∀ e₀, Listening (R ⟨pre ++ m1 :: mid, e₀⟩) e₀ →
      (R ⟨pre ++ m1 :: (mid ++ m2 :: post), e⟩).result = .error .protocol ∧
      (R ⟨pre ++ m1 :: (mid ++ m2 :: post), e⟩).replies = (R ⟨pre ++ m1 :: mid, e₀⟩).replies) :=
  run_second_message recipientStep_client.noEndHalt recipientStep_labels_inv recipientStep_client.hardHalt
    ⟨st, [], none⟩ pre m1 mid m2 post e
    (fun s s' r hs => (recipientStep_labels_next h1 hs).2.1 ▸ Option.some_ne_none _)
    (by simp [h1]) hard_protocol fun s hl => recipientStep_labels_dup s m2 h2 hl

/-! ## an error message aborts with the plugin's text after being acknowledged -/

theorem error_acked_then_abort_recipient (pre : List Stanza) (m : Stanza) (post : List Stanza) (e₀ e : End)
    (hm : m.type = "error") (hl : Listening (R ⟨pre, e₀⟩) e₀) :
    (R ⟨pre ++ m :: post, e⟩).replies = (R ⟨pre, e₀⟩).replies ++ [okS] ∧
    (R ⟨pre ++ m :: post, e⟩).result = .error (.pluginError m.body) :=
  recipientStep_client.error_acked ⟨st, [], none⟩ pre m post e₀ e hm hl

theorem error_acked_then_abort_identity (pre : List Stanza) (m : Stanza) (post : List Stanza) (e₀ e : End)
    (hm : m.type = "error") (hl : Listening (I ⟨pre, e₀⟩) e₀) :
    (I ⟨pre ++ m :: post, e⟩).replies = (I ⟨pre, e₀⟩).replies ++ [okS] ∧
    (I ⟨pre ++ m :: post, e⟩).result = .error (.pluginError m.body) :=
  identityStep_client.error_acked ⟨st, false, []⟩ pre m post e₀ e hm hl

/-- conversely, the plugin's text is returned only because an `error` message
    with that body was received, and the last thing the client wrote is `ok`:
    the conversation splits at an `error` message with body `t` that the client
    reached while still listening (so not a later, unread one), and what the
    client wrote is what it had written before that message, then `ok` -/
theorem plugin_error_only_from_error (c : Conv) (t : Bytes) :
    ((R c).result = .error (.pluginError t) →
      ∃ pre m post, c.msgs = pre ++ m :: post ∧ m.type = "error" ∧ m.body = t ∧
        ∀ e₀, Listening (R ⟨pre, e₀⟩) e₀ ∧ (R c).replies = (R ⟨pre, e₀⟩).replies ++ [okS]) ∧
    ((I c).result = .error (.pluginError t) →
      ∃ pre m post, c.msgs = pre ++ m :: post ∧ m.type = "error" ∧ m.body = t ∧
        ∀ e₀, Listening (I ⟨pre, e₀⟩) e₀ ∧ (I c).replies = (I ⟨pre, e₀⟩).replies ++ [okS]) :=
  ⟨recipientStep_client.pluginError_only_from_error _ c.msgs c.fin t,
   identityStep_client.pluginError_only_from_error _ c.msgs c.fin t⟩

/-! ## unknown commands are answered `unsupported` and otherwise ignored -/

/-- Deleting every message whose type the recipient machine does not know
    deletes exactly the `unsupported` replies: all other replies, the result and
    the UI state are unchanged. -/
theorem unknown_unsupported_and_ignored_recipient (msgs : List Stanza) (e : End) :
    let known := msgs.filter (fun m => decide (m.type ∈ recipientCommands))
    (R ⟨known, e⟩).replies = (R ⟨msgs, e⟩).replies.filter (fun r => decide (r ≠ unsupportedS)) ∧
    (R ⟨known, e⟩).result = (R ⟨msgs, e⟩).result ∧
    (R ⟨known, e⟩).ui = (R ⟨msgs, e⟩).ui :=
  recipientStep_client.unknown_ignored ⟨st, [], none⟩ msgs e

theorem unknown_unsupported_and_ignored_identity (msgs : List Stanza) (e : End) :
    let known := msgs.filter (fun m => decide (m.type ∈ identityCommands))
    (I ⟨known, e⟩).replies = (I ⟨msgs, e⟩).replies.filter (fun r => decide (r ≠ unsupportedS)) ∧
    (I ⟨known, e⟩).result = (I ⟨msgs, e⟩).result ∧
    (I ⟨known, e⟩).ui = (I ⟨msgs, e⟩).ui :=
  identityStep_client.unknown_ignored ⟨st, false, []⟩ msgs e

/-- an unknown command that reaches a listening client is answered with exactly
    `unsupported`; the client goes on listening and no callback is invoked -/
theorem unknown_answered_unsupported (pre : List Stanza) (m : Stanza) (e₀ e : End) :
    (m.type ∉ recipientCommands → Listening (R ⟨pre, e₀⟩) e₀ →
      Listening (R ⟨pre ++ [m], e⟩) e ∧
      (R ⟨pre ++ [m], e⟩).replies = (R ⟨pre, e₀⟩).replies ++ [unsupportedS] ∧
      (R ⟨pre ++ [m], e⟩).ui = (R ⟨pre, e₀⟩).ui) ∧
    (m.type ∉ identityCommands → Listening (I ⟨pre, e₀⟩) e₀ →
      Listening (I ⟨pre ++ [m], e⟩) e ∧
      (I ⟨pre ++ [m], e⟩).replies = (I ⟨pre, e₀⟩).replies ++ [unsupportedS] ∧
      (I ⟨pre ++ [m], e⟩).ui = (I ⟨pre, e₀⟩).ui) :=
  ⟨recipientStep_client.unknown_answered ⟨st, [], none⟩ pre m e₀ e,
   identityStep_client.unknown_answered ⟨st, false, []⟩ pre m e₀ e⟩

/-! ## answers to prompts -/

/-- `msg` × DisplayMessage absent / succeeds / fails → `fail` / `ok` / `fail`;
    the callback receives the body; the client goes on listening -/
theorem ui_dispatch_msg_recipient (pre : List Stanza) (m : Stanza) (e₀ e : End)
    (hm : m.type = "msg") (hl : Listening (R ⟨pre, e₀⟩) e₀) :
    Listening (R ⟨pre ++ [m], e⟩) e ∧
    match ui.display with
    | none =>
      (R ⟨pre ++ [m], e⟩).replies = (R ⟨pre, e₀⟩).replies ++ [failS] ∧
      (R ⟨pre ++ [m], e⟩).ui = (R ⟨pre, e₀⟩).ui
    | some f =>
      (R ⟨pre ++ [m], e⟩).replies =
        (R ⟨pre, e₀⟩).replies ++ [if (f (R ⟨pre, e₀⟩).ui m.body).2 then okS else failS] ∧
      (R ⟨pre ++ [m], e⟩).ui = (f (R ⟨pre, e₀⟩).ui m.body).1 :=
  recipientStep_client.dispatch_msg ⟨st, [], none⟩ pre m e₀ e hm hl

/-- `request-secret` / `request-public` × RequestValue absent / answers `v` /
    fails → `fail` / `ok` with body `v` / `fail`; the callback receives the body
    as prompt and `secret = true` exactly for `request-secret` -/
theorem ui_dispatch_request_recipient (pre : List Stanza) (m : Stanza) (e₀ e : End)
    (hm : m.type = "request-secret" ∨ m.type = "request-public") (hl : Listening (R ⟨pre, e₀⟩) e₀) :
    Listening (R ⟨pre ++ [m], e⟩) e ∧
    match ui.request with
    | none =>
      (R ⟨pre ++ [m], e⟩).replies = (R ⟨pre, e₀⟩).replies ++ [failS] ∧
      (R ⟨pre ++ [m], e⟩).ui = (R ⟨pre, e₀⟩).ui
    | some f =>
      (R ⟨pre ++ [m], e⟩).replies =
        (R ⟨pre, e₀⟩).replies ++
          [match (f (R ⟨pre, e₀⟩).ui m.body (decide (m.type = "request-secret"))).2 with
           | none => failS
           | some v => okBody v] ∧
      (R ⟨pre ++ [m], e⟩).ui = (f (R ⟨pre, e₀⟩).ui m.body (decide (m.type = "request-secret"))).1 :=
  recipientStep_client.dispatch_request ⟨st, [], none⟩ pre m e₀ e hm hl

/-- `confirm` with one or two arguments that decode × Confirm absent / chooses /
    fails → `fail` / `ok yes` or `ok no` / `fail`; the callback receives the body
    as prompt and the decoded options (`no` empty when there is one argument).
    Without a Confirm callback the arguments are not even decoded. -/
theorem ui_dispatch_confirm_recipient (pre : List Stanza) (m : Stanza) (e₀ e : End)
    (hm : m.type = "confirm") (hl : Listening (R ⟨pre, e₀⟩) e₀) (y : String) (yes no : Bytes)
    (hargs : (m.args = [y] ∧ no = []) ∨ (∃ n, m.args = [y, n] ∧ (ui.confirm ≠ none → dec n = some no)))
    (hy : ui.confirm ≠ none → dec y = some yes) :
    Listening (R ⟨pre ++ [m], e⟩) e ∧
    match ui.confirm with
    | none =>
      (R ⟨pre ++ [m], e⟩).replies = (R ⟨pre, e₀⟩).replies ++ [failS] ∧
      (R ⟨pre ++ [m], e⟩).ui = (R ⟨pre, e₀⟩).ui
    | some f =>
      (R ⟨pre ++ [m], e⟩).replies =
        (R ⟨pre, e₀⟩).replies ++
          [match (f (R ⟨pre, e₀⟩).ui m.body yes no).2 with
           | none => failS
           | some c => okChoice c] ∧
      (R ⟨pre ++ [m], e⟩).ui = (f (R ⟨pre, e₀⟩).ui m.body yes no).1 :=
  recipientStep_client.dispatch_confirm ⟨st, [], none⟩ pre m e₀ e hm hl y yes no hargs hy

/-- A `confirm` with no or more than two arguments, or (when there is a Confirm
    callback) with an argument that is not valid base64, is fatal: protocol
    error, no reply, the callback is not invoked. -/
theorem confirm_malformed_fatal_recipient (pre : List Stanza) (m : Stanza) (post : List Stanza) (e₀ e : End)
    (hm : m.type = "confirm") (hl : Listening (R ⟨pre, e₀⟩) e₀)
    (hbad : (m.args.length ≠ 1 ∧ m.args.length ≠ 2) ∨
            (ui.confirm ≠ none ∧ (m.args.length = 1 ∨ m.args.length = 2) ∧ ∃ a ∈ m.args, dec a = none)) :
    (R ⟨pre ++ m :: post, e⟩).result = .error .protocol ∧
    (R ⟨pre ++ m :: post, e⟩).replies = (R ⟨pre, e₀⟩).replies ∧
    (R ⟨pre ++ m :: post, e⟩).ui = (R ⟨pre, e₀⟩).ui :=
  recipientStep_client.confirm_malformed ⟨st, [], none⟩ pre m post e₀ e hm hl hbad

/-- the same for unwrap -/
theorem ui_dispatch_msg_identity (pre : List Stanza) (m : Stanza) (e₀ e : End)
    (hm : m.type = "msg") (hl : Listening (I ⟨pre, e₀⟩) e₀) :
    Listening (I ⟨pre ++ [m], e⟩) e ∧
    match ui.display with
    | none =>
      (I ⟨pre ++ [m], e⟩).replies = (I ⟨pre, e₀⟩).replies ++ [failS] ∧
      (I ⟨pre ++ [m], e⟩).ui = (I ⟨pre, e₀⟩).ui
    | some f =>
      (I ⟨pre ++ [m], e⟩).replies =
        (I ⟨pre, e₀⟩).replies ++ [if (f (I ⟨pre, e₀⟩).ui m.body).2 then okS else failS] ∧
      (I ⟨pre ++ [m], e⟩).ui = (f (I ⟨pre, e₀⟩).ui m.body).1 :=
  identityStep_client.dispatch_msg ⟨st, false, []⟩ pre m e₀ e hm hl

/-- the same for unwrap -/
theorem ui_dispatch_request_identity (pre : List Stanza) (m : Stanza) (e₀ e : End)
    (hm : m.type = "request-secret" ∨ m.type = "request-public") (hl : Listening (I ⟨pre, e₀⟩) e₀) :
    Listening (I ⟨pre ++ [m], e⟩) e ∧
    match ui.request with
    | none =>
      (I ⟨pre ++ [m], e⟩).replies = (I ⟨pre, e₀⟩).replies ++ [failS] ∧
      (I ⟨pre ++ [m], e⟩).ui = (I ⟨pre, e₀⟩).ui
    | some f =>
      (I ⟨pre ++ [m], e⟩).replies =
        (I ⟨pre, e₀⟩).replies ++
          [match (f (I ⟨pre, e₀⟩).ui m.body (decide (m.type = "request-secret"))).2 with
           | none => failS
           | some v => okBody v] ∧
      (I ⟨pre ++ [m], e⟩).ui = (f (I ⟨pre, e₀⟩).ui m.body (decide (m.type = "request-secret"))).1 :=
  identityStep_client.dispatch_request ⟨st, false, []⟩ pre m e₀ e hm hl

/-- the same for unwrap -/
theorem ui_dispatch_confirm_identity (pre : List Stanza) (m : Stanza) (e₀ e : End)
    (hm : m.type = "confirm") (hl : Listening (I ⟨pre, e₀⟩) e₀) (y : String) (yes no : Bytes)
    (hargs : (m.args = [y] ∧ no = []) ∨ (∃ n, m.args = [y, n] ∧ (ui.confirm ≠ none → dec n = some no)))
    (hy : ui.confirm ≠ none → dec y = some yes) :
    Listening (I ⟨pre ++ [m], e⟩) e ∧
    match ui.confirm with
    | none =>
      (I ⟨pre ++ [m], e⟩).replies = (I ⟨pre, e₀⟩).replies ++ [failS] ∧
      (I ⟨pre ++ [m], e⟩).ui = (I ⟨pre, e₀⟩).ui
    | some f =>
      (I ⟨pre ++ [m], e⟩).replies =
        (I ⟨pre, e₀⟩).replies ++
          [match (f (I ⟨pre, e₀⟩).ui m.body yes no).2 with
           | none => failS
           | some c => okChoice c] ∧
      (I ⟨pre ++ [m], e⟩).ui = (f (I ⟨pre, e₀⟩).ui m.body yes no).1 :=
  identityStep_client.dispatch_confirm ⟨st, false, []⟩ pre m e₀ e hm hl y yes no hargs hy

/-- the same for unwrap -/
theorem confirm_malformed_fatal_identity (pre : List Stanza) (m : Stanza) (post : List Stanza) (e₀ e : End)
    (hm : m.type = "confirm") (hl : Listening (I ⟨pre, e₀⟩) e₀)
    (hbad : (m.args.length ≠ 1 ∧ m.args.length ≠ 2) ∨
            (ui.confirm ≠ none ∧ (m.args.length = 1 ∨ m.args.length = 2) ∧ ∃ a ∈ m.args, dec a = none)) :
    (I ⟨pre ++ m :: post, e⟩).result = .error .protocol ∧
    (I ⟨pre ++ m :: post, e⟩).replies = (I ⟨pre, e₀⟩).replies ∧
    (I ⟨pre ++ m :: post, e⟩).ui = (I ⟨pre, e₀⟩).ui :=
  identityStep_client.confirm_malformed ⟨st, false, []⟩ pre m post e₀ e hm hl hbad

/-! ## the final result -/

/-- A wrap never succeeds with zero stanzas: a successful result carries exactly
    the stanzas of the `recipient-stanza` messages received before `done`, in
    order — at least one — and the arguments of the `labels` message (`none`
    when there was none). And a clean `done` that reaches a listening client
    which has received no `recipient-stanza` is the error "no stanzas". -/
theorem no_stanza_wrap_fails (c : Conv) :
    (∀ ws l, (R c).result = .ok (ws, l) → ws ≠ [] ∧ ws = wrappedOf c.msgs ∧ l = labelsOf c.msgs) ∧
    (∀ pre m post e₀, c.msgs = pre ++ m :: post → Listening (R ⟨pre, e₀⟩) e₀ →
      (∀ x ∈ pre, x.type ≠ "recipient-stanza") → m.type = "done" →
      (R c).result = .error .noStanzas ∧ (R c).replies = (R ⟨pre, e₀⟩).replies) := by
  constructor
  · intro ws l h
    have := recipient_ok_spec ui dec ⟨st, [], none⟩ c.msgs c.fin ws l h
    simpa using this
  · intro pre m post e₀ hc hl hpre hm
    have hst : (run (recipientStep ui dec) ⟨st, [], none⟩ pre e₀).state.stanzas = [] :=
      run_state_inv (fun s : RState σ => s.stanzas = []) (fun x => x.type ≠ "recipient-stanza")
        (fun s x s' r hx hs h => ((recipientStep_frame h).1 hx).trans hs) _ rfl pre hpre e₀
    have h := run_halt_silent recipientStep_client.noEndHalt ⟨st, [], none⟩ pre e₀ hl m post c.fin
      ((recipientStep_done _ m hm).trans (congrArg _ (if_pos hst)))
    rwa [← hc] at h

/-- An unwrap succeeds only with the non-empty body of the `file-key` message
    received before `done`. A clean `done` reaching a listening client that has
    received no file key (no `file-key` message, or only one with an empty body)
    yields "incorrect identity" — the error after which `age.Decrypt` tries the
    next identity — not a hard error. -/
theorem no_filekey_incorrect_identity (c : Conv) :
    (∀ k, (I c).result = .ok k → k ≠ [] ∧ fileKeyOf c.msgs = some k) ∧
    (∀ pre m post e₀, c.msgs = pre ++ m :: post → Listening (I ⟨pre, e₀⟩) e₀ →
      (∀ x ∈ pre, x.type = "file-key" → x.body = []) → m.type = "done" →
      (I c).result = .error .incorrectIdentity ∧ (I c).replies = (I ⟨pre, e₀⟩).replies) := by
  constructor
  · intro k h
    have := identity_ok_spec ui dec ⟨st, false, []⟩ c.msgs c.fin k (fun _ => rfl) h
    simpa using this
  · intro pre m post e₀ hc hl hpre hm
    have hst : (run (identityStep ui dec) ⟨st, false, []⟩ pre e₀).state.fileKey = [] := by
      refine run_state_inv (fun s : IState σ => s.fileKey = []) (fun x => x.type = "file-key" → x.body = [])
        ?_ _ rfl pre hpre e₀
      intro s x s' r hx hs h
      by_cases hf : x.type = "file-key"
      · rw [(identityStep_filekey_next hf h).2.2.1]; exact hx hf
      · rw [(identityStep_frame hf h).2]; exact hs
    have h := run_halt_silent identityStep_client.noEndHalt ⟨st, false, []⟩ pre e₀ hl m post c.fin
      ((identityStep_done _ m hm).trans (congrArg _ (if_pos hst)))
    rwa [← hc] at h

/-! ## a plugin that stops mid-conversation is an error -/

/-- If the plugin's output ends (cleanly, inside a stanza, or with malformed
    framing) without a `done`, the wrap fails with a hard error whatever came
    before: never a success. -/
theorem eof_is_error_recipient (msgs : List Stanza) (e : End) (h : noDone msgs) :
    Hard (R ⟨msgs, e⟩).result :=
  run_hard recipientStep_client.hardHalt _ msgs e h

/-- the same for unwrap: never a success and never "incorrect identity" -/
theorem eof_is_error_identity (msgs : List Stanza) (e : End) (h : noDone msgs) :
    Hard (I ⟨msgs, e⟩).result :=
  run_hard identityStep_client.hardHalt _ msgs e h

/-- what `Hard` excludes -/
theorem hard_excludes {α : Type} (res : Except ClientErr α) (h : Hard res) :
    (∀ v, res ≠ .ok v) ∧ res ≠ .error .incorrectIdentity ∧ res ≠ .error .noStanzas :=
  ⟨h.not_ok, h.not_incorrect, h.not_noStanzas⟩

/-- Precisely: a conversation of any length made only of prompts for a message
    or a value and of commands unknown to both machines is answered message by
    message, and when the stream then ends the result is the read error. -/
theorem eof_after_harmless_messages (msgs : List Stanza) (e : End) (h : ∀ m ∈ msgs, harmless m.type) :
    (Listening (R ⟨msgs, e⟩) e ∧ (R ⟨msgs, e⟩).replies.length = msgs.length) ∧
    (Listening (I ⟨msgs, e⟩) e ∧ (I ⟨msgs, e⟩).replies.length = msgs.length) :=
  ⟨recipientStep_client.all_answered _ msgs e fun m hm =>
     ⟨(harmless_handled (h m hm)).1, (harmless_handled (h m hm)).2.2⟩,
   identityStep_client.all_answered _ msgs e fun m hm => (harmless_handled (h m hm)).2⟩

end
/-! ## non-vacuity: concrete conversations evaluated by the kernel -/

section Examples

/-- a UI whose state counts the callback invocations; every callback answers -/
def uiAll : UI Nat :=
  { display := some fun n _ => (n + 1, true)
    request := some fun n _ secret => (n + 1, some (if secret then [115] else [112]))
    confirm := some fun n prompt _ _ => (n + 1, some (prompt != [110])) }

/-- a UI without any callback -/
def uiNone : UI Nat := { display := none, request := none, confirm := none }

/-- a toy decoder: knows the base64 of "yes" and "no" -/
def dec0 (s : String) : Option Bytes :=
  if s = "eWVz" then some [121, 101, 115] else if s = "bm8" then some [110, 111] else none

def rs0 : Stanza := ⟨"recipient-stanza", ["0", "X25519", "abc"], [1, 2]⟩
def rsPlus0 : Stanza := ⟨"recipient-stanza", ["+0", "scrypt"], []⟩
def rs1 : Stanza := ⟨"recipient-stanza", ["1", "X25519", "abc"], [1, 2]⟩
def fk0 : Stanza := ⟨"file-key", ["0"], [9, 9]⟩
def fk0e : Stanza := ⟨"file-key", ["-0"], []⟩
def labels0 : Stanza := ⟨"labels", [], []⟩
def msg1 : Stanza := ⟨"msg", [], [104, 105]⟩
def confirm1 : Stanza := ⟨"confirm", ["eWVz", "bm8"], [113]⟩
def confirmBad : Stanza := ⟨"confirm", ["e"], [113]⟩
def unknown1 : Stanza := ⟨"frobnicate", ["a"], [0]⟩
def error1 : Stanza := ⟨"error", [], [98, 111, 111, 109]⟩

/-- a complete successful wrap: every message answered, unknown → unsupported,
    stanzas in order, labels present but empty, three callbacks invoked -/
example :
    let o := recipientClient uiAll dec0 0 false "age1verif1q" [7] "grease-1"
      ⟨[rs0, labels0, msg1, confirm1, unknown1, ⟨"request-public", [], []⟩, rsPlus0, doneS, rs1], .eof⟩
    o.replies = [okS, okS, okS, okChoice true, unsupportedS, okBody [112], okS] ∧
    o.result = .ok ([⟨"X25519", ["abc"], [1, 2]⟩, ⟨"scrypt", [], []⟩], some []) ∧ o.ui = 3 := by
  decide +kernel

/-- the hypotheses "listening after `pre`" are satisfiable, with and without callbacks -/
example : Listening (recipientClient uiNone dec0 0 true "x" [] "g" ⟨[msg1, confirm1, rs0], .eof⟩) .eof := by
  unfold Listening; decide +kernel
example : Listening (identityClient uiAll dec0 0 "x" [rs0] "g" ⟨[msg1, fk0, unknown1], .malformed⟩) .malformed := by
  unfold Listening; decide +kernel

/-- without callbacks every prompt is answered `fail` — even an undecodable confirm -/
example : (identityClient uiNone dec0 0 "x" [] "g" ⟨[msg1, confirm1, confirmBad, ⟨"request-secret", [], []⟩], .eof⟩).replies
    = [failS, failS, failS, failS] := by decide +kernel

/-- with a Confirm callback the undecodable confirm is fatal and unanswered -/
example :
    let o := identityClient uiAll dec0 0 "x" [] "g" ⟨[msg1, confirmBad, doneS], .eof⟩
    o.replies = [okS] ∧ o.result = .error .protocol ∧ o.ui = 1 := by decide +kernel

/-- index 1 is refused; `labels` twice is refused even when the first had no arguments -/
example : (recipientClient uiAll dec0 0 false "x" [] "g" ⟨[rs0, rs1, doneS], .eof⟩).result = .error .protocol := by decide +kernel
example :
    let o := recipientClient uiAll dec0 0 false "x" [] "g" ⟨[labels0, rs0, labels0, doneS], .eof⟩
    o.replies = [okS, okS] ∧ o.result = .error .protocol := by decide +kernel

/-- a second `file-key` is refused although the first had an empty body; an
    empty file key alone is "incorrect identity"; a real one is returned -/
example : (identityClient uiAll dec0 0 "x" [] "g" ⟨[fk0e, fk0, doneS], .eof⟩).result = .error .protocol := by decide +kernel
example : (identityClient uiAll dec0 0 "x" [] "g" ⟨[fk0e, doneS], .eof⟩).result = .error .incorrectIdentity := by decide +kernel
example : (identityClient uiAll dec0 0 "x" [] "g" ⟨[unknown1, doneS], .eof⟩).result = .error .incorrectIdentity := by decide +kernel
example : (identityClient uiAll dec0 0 "x" [] "g" ⟨[rs0, fk0, doneS, fk0], .eof⟩).result = .ok [9, 9] := by decide +kernel

/-- `error` is acknowledged, then aborts with the text; no stanza → no success; EOF → error -/
example :
    let o := recipientClient uiAll dec0 0 false "x" [] "g" ⟨[rs0, error1, doneS], .eof⟩
    o.replies = [okS, okS] ∧ o.result = .error (.pluginError [98, 111, 111, 109]) := by decide +kernel
example : (recipientClient uiAll dec0 0 false "x" [] "g" ⟨[labels0, doneS], .eof⟩).result = .error .noStanzas := by decide +kernel
example : (recipientClient uiAll dec0 0 false "x" [] "g" ⟨[rs0, labels0], .eof⟩).result = .error (.ended .eof) := by decide +kernel

/-- strconv.Atoi on the index argument -/
example : atoi "0" = some 0 ∧ atoi "+0" = some 0 ∧ atoi "-0" = some 0 ∧ atoi "00" = some 0 ∧
    atoi "0000000000000000000000" = some 0 ∧ atoi "1" = some 1 ∧ atoi "-1" = some (-1) ∧
    atoi "0x0" = none ∧ atoi "" = none ∧ atoi " 0" = none ∧ atoi "+" = none ∧ atoi "0_0" = none ∧
    atoi "9223372036854775807" = some 9223372036854775807 ∧ atoi "9223372036854775808" = none ∧
    atoi "-9223372036854775808" = some (-9223372036854775808) ∧ atoi "-9223372036854775809" = none := by
  decide +kernel

/-- `badIndex` and `harmless` are satisfiable / refutable -/
example : badIndex rs1 ∧ ¬ badIndex rs0 ∧ badIndex ⟨"file-key", [], []⟩ := by
  refine ⟨?_, ?_, ?_⟩
  · intro idx rest h; cases h; decide +kernel
  · intro h; exact h "0" _ rfl (by decide +kernel)
  · intro idx rest h; cases h
example : harmless "msg" ∧ harmless "frobnicate" ∧ ¬ harmless "done" := by
  unfold harmless; decide +kernel

/-- phase 1 of an unwrap of two stanzas -/
example : (identityClient uiNone dec0 0 "AGE-PLUGIN-VERIF-1Q" [⟨"X25519", ["abc"], [1]⟩, ⟨"verif", [], []⟩] "grease-7"
      ⟨[], .eof⟩).phase1 =
    [⟨"add-identity", ["AGE-PLUGIN-VERIF-1Q"], []⟩, ⟨"grease-7", [], []⟩,
     ⟨"recipient-stanza", ["0", "X25519", "abc"], [1]⟩, ⟨"recipient-stanza", ["0", "verif"], []⟩,
     ⟨"done", [], []⟩] := by decide +kernel

end Examples

/-! ## non-vacuity, theorem by theorem: the hypotheses of each theorem at concrete values

  No hypotheses: `phase1_wellformed_recipient`, `phase1_wellformed_identity`,
  `unknown_unsupported_and_ignored_recipient`, `unknown_unsupported_and_ignored_identity`.
  For the theorems whose hypotheses sit inside the conclusion (`index_zero_accepted`,
  `plugin_error_only_from_error`, `unknown_answered_unsupported`, `no_stanza_wrap_fails`,
  `no_filekey_incorrect_identity`, the second halves of `index_must_be_zero_*` and
  `duplicate_*_error`) the witness instantiates those inner premises.

  Throughout: every callback present and answering (`uiAll`, state = number of
  invocations so far), decoder `dec0`, and

    R₀ c = recipientClient uiAll dec0 0 false "age1verif1q" [7] "grease-1" c
    I₀ c = identityClient uiAll dec0 0 "AGE-PLUGIN-VERIF-1Q" [⟨"X25519", ["abc"], [1]⟩] "grease-1" c -/

section Nonvacuous

local notation "R₀" => recipientClient uiAll dec0 (0 : Nat) false "age1verif1q" [7] "grease-1"
local notation "I₀" => identityClient uiAll dec0 (0 : Nat) "AGE-PLUGIN-VERIF-1Q" [⟨"X25519", ["abc"], [1]⟩] "grease-1"

def fk1 : Stanza := ⟨"file-key", ["1"], [9, 9]⟩
def labelsA : Stanza := ⟨"labels", ["postquantum"], []⟩
def reqSecret : Stanza := ⟨"request-secret", [], [80, 73, 78, 63]⟩
def confirmOne : Stanza := ⟨"confirm", ["eWVz"], [113]⟩
def confirmNoArgs : Stanza := ⟨"confirm", [], [113]⟩

/-- the Confirm callback of `uiAll` is present: the premises `ui.confirm ≠ none → …` below are real -/
theorem uiAll_confirm : uiAll.confirm ≠ none := by simp [uiAll]

/-- non-vacuity of `phase1_strings_valid`: a recipient encoding, a grease type and
    two header stanzas (one with an argument, one without) -/
theorem phase1_strings_valid_nonvacuous :
    validString "age1verif1q" ∧ validString "grease-1" ∧
    ∀ s ∈ ([⟨"X25519", ["abc"], [1]⟩, ⟨"verif", [], []⟩] : List Stanza), validStrings s := by
  unfold validStrings validString; decide +kernel

example := phase1_strings_valid uiAll dec0 (0 : Nat) false "age1verif1q" [7]
  [⟨"X25519", ["abc"], [1]⟩, ⟨"verif", [], []⟩] "grease-1" ⟨[], .eof⟩
  phase1_strings_valid_nonvacuous.1 phase1_strings_valid_nonvacuous.2.1 phase1_strings_valid_nonvacuous.2.2

/-- non-vacuity of `index_must_be_zero_recipient`: after `labels` and a `msg` (both
    answered, the client listening) comes `recipient-stanza 1 X25519 abc` -/
theorem index_must_be_zero_recipient_nonvacuous :
    rs1.type = "recipient-stanza" ∧ badIndex rs1 ∧
    noDone [labels0, msg1] ∧ Listening (R₀ ⟨[labels0, msg1], .eof⟩) .eof :=
  ⟨rfl, by intro idx rest h; cases h; decide +kernel, by unfold noDone; decide +kernel,
   by unfold Listening; decide +kernel⟩

example : (R₀ ⟨[labels0, msg1] ++ rs1 :: [doneS], .malformed⟩).result = .error .protocol ∧
    (R₀ ⟨[labels0, msg1] ++ rs1 :: [doneS], .malformed⟩).replies = (R₀ ⟨[labels0, msg1], .eof⟩).replies :=
  have h := index_must_be_zero_recipient_nonvacuous
  (index_must_be_zero_recipient uiAll dec0 0 false "age1verif1q" [7] "grease-1" [labels0, msg1] rs1 [doneS]
    .malformed h.1 h.2.1).2 .eof h.2.2.2

/-- non-vacuity of `index_must_be_zero_identity`: after a `msg` and an unknown
    command comes `file-key 1` -/
theorem index_must_be_zero_identity_nonvacuous :
    fk1.type = "file-key" ∧ badIndex fk1 ∧
    noDone [msg1, unknown1] ∧ Listening (I₀ ⟨[msg1, unknown1], .eof⟩) .eof :=
  ⟨rfl, by intro idx rest h; cases h; decide +kernel, by unfold noDone; decide +kernel,
   by unfold Listening; decide +kernel⟩

example : Hard (I₀ ⟨[msg1, unknown1] ++ fk1 :: [doneS], .eof⟩).result :=
  have h := index_must_be_zero_identity_nonvacuous
  (index_must_be_zero_identity uiAll dec0 0 "AGE-PLUGIN-VERIF-1Q" [⟨"X25519", ["abc"], [1]⟩] "grease-1"
    [msg1, unknown1] fk1 [doneS] .eof h.1 h.2.1).1 h.2.2.1

/-- non-vacuity of `index_zero_accepted`: index `0`; for the wrap `rs0` after
    `labels`, `msg`; for the unwrap `fk0` after `msg` and an unknown command
    (the `example` below: the spellings `+0` and `-0`) -/
theorem index_zero_accepted_nonvacuous :
    atoi "0" = some 0 ∧
    (rs0.type = "recipient-stanza" ∧ rs0.args = "0" :: "X25519" :: ["abc"] ∧
      Listening (R₀ ⟨[labels0, msg1], .eof⟩) .eof) ∧
    (fk0.type = "file-key" ∧ fk0.args = ["0"] ∧ Listening (I₀ ⟨[msg1, unknown1], .eof⟩) .eof ∧
      ∀ x ∈ [msg1, unknown1], x.type ≠ "file-key") :=
  ⟨by decide +kernel, ⟨rfl, rfl, index_must_be_zero_recipient_nonvacuous.2.2.2⟩,
   rfl, rfl, index_must_be_zero_identity_nonvacuous.2.2.2, by decide +kernel⟩

example : atoi "+0" = some 0 ∧ rsPlus0.type = "recipient-stanza" ∧ rsPlus0.args = "+0" :: "scrypt" :: [] ∧
    atoi "-0" = some 0 ∧ fk0e.type = "file-key" ∧ fk0e.args = ["-0"] := by decide +kernel

example : Listening (I₀ ⟨[msg1, unknown1] ++ [fk0], .malformed⟩) .malformed ∧
    (I₀ ⟨[msg1, unknown1] ++ [fk0], .malformed⟩).replies = (I₀ ⟨[msg1, unknown1], .eof⟩).replies ++ [okS] :=
  have h := index_zero_accepted_nonvacuous
  (index_zero_accepted uiAll dec0 0 false "age1verif1q" [7] [⟨"X25519", ["abc"], [1]⟩] "grease-1"
    [msg1, unknown1] fk0 .eof .malformed "0" h.1).2 h.2.2.1 h.2.2.2.1 h.2.2.2.2.1 h.2.2.2.2.2

example : Listening (R₀ ⟨[labels0, msg1] ++ [rs0], .malformed⟩) .malformed :=
  have h := index_zero_accepted_nonvacuous
  ((index_zero_accepted uiAll dec0 0 false "age1verif1q" [7] [⟨"X25519", ["abc"], [1]⟩] "grease-1"
    [labels0, msg1] rs0 .eof .malformed "0" h.1).1 "X25519" ["abc"] h.2.1.1 h.2.1.2.1 h.2.1.2.2).1

/-- non-vacuity of `duplicate_filekey_error`: `msg`, `file-key -0` with an empty
    body, an unknown command, then `file-key 0` with a body -/
theorem duplicate_filekey_error_nonvacuous :
    fk0e.type = "file-key" ∧ fk0.type = "file-key" ∧ noDone [msg1] ∧ noDone [unknown1] ∧
    Listening (I₀ ⟨[msg1] ++ fk0e :: [unknown1], .eof⟩) .eof :=
  ⟨rfl, rfl, by unfold noDone; decide +kernel, by unfold noDone; decide +kernel, by unfold Listening; decide +kernel⟩

example : (I₀ ⟨[msg1] ++ fk0e :: ([unknown1] ++ fk0 :: [doneS]), .eof⟩).result = .error .protocol :=
  have h := duplicate_filekey_error_nonvacuous
  ((duplicate_filekey_error uiAll dec0 0 "AGE-PLUGIN-VERIF-1Q" [⟨"X25519", ["abc"], [1]⟩] "grease-1"
    [msg1] fk0e [unknown1] fk0 [doneS] .eof h.1 h.2.1).2 .eof h.2.2.2.2).1

/-- non-vacuity of `duplicate_labels_error`: a stanza, `labels` without arguments,
    a `msg`, then `labels postquantum` -/
theorem duplicate_labels_error_nonvacuous :
    labels0.type = "labels" ∧ labelsA.type = "labels" ∧ noDone [rs0] ∧ noDone [msg1] ∧
    Listening (R₀ ⟨[rs0] ++ labels0 :: [msg1], .eof⟩) .eof :=
  ⟨rfl, rfl, by unfold noDone; decide +kernel, by unfold noDone; decide +kernel, by unfold Listening; decide +kernel⟩

example : (R₀ ⟨[rs0] ++ labels0 :: ([msg1] ++ labelsA :: [doneS]), .eof⟩).result = .error .protocol :=
  have h := duplicate_labels_error_nonvacuous
  ((duplicate_labels_error uiAll dec0 0 false "age1verif1q" [7] "grease-1"
    [rs0] labels0 [msg1] labelsA [doneS] .eof h.1 h.2.1).2 .eof h.2.2.2.2).1

/-- non-vacuity of `error_acked_then_abort_recipient`: `error` with body "boom"
    reaches a client that has acknowledged a stanza and a `msg` -/
theorem error_acked_then_abort_recipient_nonvacuous :
    error1.type = "error" ∧ Listening (R₀ ⟨[rs0, msg1], .eof⟩) .eof :=
  ⟨rfl, by unfold Listening; decide +kernel⟩

example : (R₀ ⟨[rs0, msg1] ++ error1 :: [doneS], .eof⟩).result = .error (.pluginError [98, 111, 111, 109]) :=
  (error_acked_then_abort_recipient uiAll dec0 0 false "age1verif1q" [7] "grease-1" [rs0, msg1] error1 [doneS]
    .eof .eof error_acked_then_abort_recipient_nonvacuous.1 error_acked_then_abort_recipient_nonvacuous.2).2

/-- non-vacuity of `error_acked_then_abort_identity`: the same after a file key and a `msg` -/
theorem error_acked_then_abort_identity_nonvacuous :
    error1.type = "error" ∧ Listening (I₀ ⟨[fk0, msg1], .malformed⟩) .malformed :=
  ⟨rfl, by unfold Listening; decide +kernel⟩

example : (I₀ ⟨[fk0, msg1] ++ error1 :: [doneS], .eof⟩).replies = (I₀ ⟨[fk0, msg1], .malformed⟩).replies ++ [okS] :=
  (error_acked_then_abort_identity uiAll dec0 0 "AGE-PLUGIN-VERIF-1Q" [⟨"X25519", ["abc"], [1]⟩] "grease-1"
    [fk0, msg1] error1 [doneS] .malformed .eof error_acked_then_abort_identity_nonvacuous.1
    error_acked_then_abort_identity_nonvacuous.2).1

/-- non-vacuity of `plugin_error_only_from_error` (no outer hypotheses; the premises
    of its two parts): conversations that do end with the plugin's text "boom" -/
theorem plugin_error_only_from_error_nonvacuous :
    (R₀ ⟨[rs0, msg1, error1, doneS], .eof⟩).result = .error (.pluginError [98, 111, 111, 109]) ∧
    (I₀ ⟨[fk0, msg1, error1, doneS], .eof⟩).result = .error (.pluginError [98, 111, 111, 109]) := by decide +kernel

example : ∃ pre m post, [rs0, msg1, error1, doneS] = pre ++ m :: post ∧ m.type = "error" ∧
    m.body = [98, 111, 111, 109] ∧ ∀ e₀, Listening (R₀ ⟨pre, e₀⟩) e₀ ∧
      (R₀ ⟨[rs0, msg1, error1, doneS], .eof⟩).replies = (R₀ ⟨pre, e₀⟩).replies ++ [okS] :=
  (plugin_error_only_from_error uiAll dec0 0 false "age1verif1q" [7] [⟨"X25519", ["abc"], [1]⟩] "grease-1"
    ⟨[rs0, msg1, error1, doneS], .eof⟩ [98, 111, 111, 109]).1 plugin_error_only_from_error_nonvacuous.1
example : ∃ pre m post, [fk0, msg1, error1, doneS] = pre ++ m :: post ∧ m.type = "error" ∧
    m.body = [98, 111, 111, 109] ∧ ∀ e₀, Listening (I₀ ⟨pre, e₀⟩) e₀ ∧
      (I₀ ⟨[fk0, msg1, error1, doneS], .eof⟩).replies = (I₀ ⟨pre, e₀⟩).replies ++ [okS] :=
  (plugin_error_only_from_error uiAll dec0 0 false "age1verif1q" [7] [⟨"X25519", ["abc"], [1]⟩] "grease-1"
    ⟨[fk0, msg1, error1, doneS], .eof⟩ [98, 111, 111, 109]).2 plugin_error_only_from_error_nonvacuous.2
/-- the split the theorem speaks of, at these values: the client was listening after
    `[rs0, msg1]`, and `error1` is what it reached -/
example : Listening (R₀ ⟨[rs0, msg1], .eof⟩) .eof ∧
    (R₀ ⟨[rs0, msg1, error1, doneS], .eof⟩).replies = (R₀ ⟨[rs0, msg1], .eof⟩).replies ++ [okS] :=
  ⟨error_acked_then_abort_recipient_nonvacuous.2, by decide +kernel⟩

/-- non-vacuity of `unknown_answered_unsupported`: `frobnicate a` reaches a
    listening wrap / unwrap (the `example` below: `file-key` is unknown to the wrap,
    `recipient-stanza` and `labels` to the unwrap) -/
theorem unknown_answered_unsupported_nonvacuous :
    (unknown1.type ∉ recipientCommands ∧ Listening (R₀ ⟨[rs0, msg1], .eof⟩) .eof) ∧
    (unknown1.type ∉ identityCommands ∧ Listening (I₀ ⟨[fk0, msg1], .eof⟩) .eof) :=
  ⟨⟨by decide +kernel, error_acked_then_abort_recipient_nonvacuous.2⟩, by decide +kernel, by unfold Listening; decide +kernel⟩

example : fk0.type ∉ recipientCommands ∧ rs0.type ∉ identityCommands ∧ labels0.type ∉ identityCommands := by
  decide +kernel

example : (R₀ ⟨[rs0, msg1] ++ [unknown1], .eof⟩).replies = (R₀ ⟨[rs0, msg1], .eof⟩).replies ++ [unsupportedS] :=
  have h := unknown_answered_unsupported_nonvacuous
  ((unknown_answered_unsupported uiAll dec0 0 false "age1verif1q" [7] [⟨"X25519", ["abc"], [1]⟩] "grease-1"
    [rs0, msg1] unknown1 .eof .eof).1 h.1.1 h.1.2).2.1

/-- non-vacuity of `ui_dispatch_msg_recipient`: a `msg` with body "hi" after a stanza -/
theorem ui_dispatch_msg_recipient_nonvacuous :
    msg1.type = "msg" ∧ Listening (R₀ ⟨[rs0], .eof⟩) .eof :=
  ⟨rfl, by unfold Listening; decide +kernel⟩

example := ui_dispatch_msg_recipient uiAll dec0 0 false "age1verif1q" [7] "grease-1" [rs0] msg1 .eof .eof
  ui_dispatch_msg_recipient_nonvacuous.1 ui_dispatch_msg_recipient_nonvacuous.2

/-- non-vacuity of `ui_dispatch_request_recipient`: `request-secret` with prompt "PIN?"
    after a stanza and a `msg` (the `example`: `request-public`) -/
theorem ui_dispatch_request_recipient_nonvacuous :
    (reqSecret.type = "request-secret" ∨ reqSecret.type = "request-public") ∧
    Listening (R₀ ⟨[rs0, msg1], .eof⟩) .eof :=
  ⟨by decide +kernel, error_acked_then_abort_recipient_nonvacuous.2⟩

example : ((⟨"request-public", [], []⟩ : Stanza).type = "request-secret" ∨
    (⟨"request-public", [], []⟩ : Stanza).type = "request-public") := by decide +kernel

example := ui_dispatch_request_recipient uiAll dec0 0 false "age1verif1q" [7] "grease-1" [rs0, msg1] reqSecret
  .eof .eof ui_dispatch_request_recipient_nonvacuous.1 ui_dispatch_request_recipient_nonvacuous.2

/-- non-vacuity of `ui_dispatch_confirm_recipient`: `confirm eWVz bm8` ("yes", "no")
    with the Confirm callback present (`uiAll_confirm`), so that both decoding
    premises are used; the `example` below: the one-argument form -/
theorem ui_dispatch_confirm_recipient_nonvacuous :
    confirm1.type = "confirm" ∧ Listening (R₀ ⟨[rs0], .eof⟩) .eof ∧
    ((confirm1.args = ["eWVz"] ∧ ([110, 111] : Bytes) = []) ∨
      (∃ n, confirm1.args = ["eWVz", n] ∧ (uiAll.confirm ≠ none → dec0 n = some [110, 111]))) ∧
    (uiAll.confirm ≠ none → dec0 "eWVz" = some [121, 101, 115]) :=
  ⟨rfl, ui_dispatch_msg_recipient_nonvacuous.2, Or.inr ⟨"bm8", rfl, fun _ => by decide +kernel⟩,
   fun _ => by decide +kernel⟩

example : confirmOne.type = "confirm" ∧
    ((confirmOne.args = ["eWVz"] ∧ ([] : Bytes) = []) ∨
      (∃ n, confirmOne.args = ["eWVz", n] ∧ (uiAll.confirm ≠ none → dec0 n = some []))) :=
  ⟨by decide +kernel, Or.inl ⟨by decide +kernel, rfl⟩⟩

example := 
  have h := ui_dispatch_confirm_recipient_nonvacuous
  ui_dispatch_confirm_recipient uiAll dec0 0 false "age1verif1q" [7] "grease-1" [rs0] confirm1 .eof .eof
    h.1 h.2.1 "eWVz" [121, 101, 115] [110, 111] h.2.2.1 h.2.2.2

/-- non-vacuity of `confirm_malformed_fatal_recipient`: with the Confirm callback
    present, `confirm e` whose argument `dec0` does not decode (second
    alternative); the `example` below: `confirm` without arguments (first alternative) -/
theorem confirm_malformed_fatal_recipient_nonvacuous :
    confirmBad.type = "confirm" ∧ Listening (R₀ ⟨[rs0], .eof⟩) .eof ∧
    ((confirmBad.args.length ≠ 1 ∧ confirmBad.args.length ≠ 2) ∨
     (uiAll.confirm ≠ none ∧ (confirmBad.args.length = 1 ∨ confirmBad.args.length = 2) ∧
       ∃ a ∈ confirmBad.args, dec0 a = none)) :=
  ⟨rfl, ui_dispatch_msg_recipient_nonvacuous.2, Or.inr ⟨uiAll_confirm, by decide +kernel, by decide +kernel⟩⟩

example : confirmNoArgs.type = "confirm" ∧
    (confirmNoArgs.args.length ≠ 1 ∧ confirmNoArgs.args.length ≠ 2) := by decide +kernel

example : (R₀ ⟨[rs0] ++ confirmBad :: [doneS], .eof⟩).result = .error .protocol :=
  have h := confirm_malformed_fatal_recipient_nonvacuous
  (confirm_malformed_fatal_recipient uiAll dec0 0 false "age1verif1q" [7] "grease-1" [rs0] confirmBad [doneS]
    .eof .eof h.1 h.2.1 h.2.2).1

/-- non-vacuity of `ui_dispatch_msg_identity`: a `msg` after a file key -/
theorem ui_dispatch_msg_identity_nonvacuous :
    msg1.type = "msg" ∧ Listening (I₀ ⟨[fk0], .eof⟩) .eof :=
  ⟨rfl, by unfold Listening; decide +kernel⟩

example := ui_dispatch_msg_identity uiAll dec0 0 "AGE-PLUGIN-VERIF-1Q" [⟨"X25519", ["abc"], [1]⟩] "grease-1"
  [fk0] msg1 .eof .eof ui_dispatch_msg_identity_nonvacuous.1 ui_dispatch_msg_identity_nonvacuous.2

/-- non-vacuity of `ui_dispatch_request_identity`: `request-secret` "PIN?" before any file key -/
theorem ui_dispatch_request_identity_nonvacuous :
    (reqSecret.type = "request-secret" ∨ reqSecret.type = "request-public") ∧
    Listening (I₀ ⟨[msg1], .eof⟩) .eof :=
  ⟨by decide +kernel, by unfold Listening; decide +kernel⟩

example := ui_dispatch_request_identity uiAll dec0 0 "AGE-PLUGIN-VERIF-1Q" [⟨"X25519", ["abc"], [1]⟩] "grease-1"
  [msg1] reqSecret .eof .eof ui_dispatch_request_identity_nonvacuous.1 ui_dispatch_request_identity_nonvacuous.2

/-- non-vacuity of `ui_dispatch_confirm_identity`: `confirm eWVz bm8`, Confirm callback present -/
theorem ui_dispatch_confirm_identity_nonvacuous :
    confirm1.type = "confirm" ∧ Listening (I₀ ⟨[msg1], .eof⟩) .eof ∧
    ((confirm1.args = ["eWVz"] ∧ ([110, 111] : Bytes) = []) ∨
      (∃ n, confirm1.args = ["eWVz", n] ∧ (uiAll.confirm ≠ none → dec0 n = some [110, 111]))) ∧
    (uiAll.confirm ≠ none → dec0 "eWVz" = some [121, 101, 115]) :=
  ⟨rfl, ui_dispatch_request_identity_nonvacuous.2, ui_dispatch_confirm_recipient_nonvacuous.2.2⟩

example :=
  have h := ui_dispatch_confirm_identity_nonvacuous
  ui_dispatch_confirm_identity uiAll dec0 0 "AGE-PLUGIN-VERIF-1Q" [⟨"X25519", ["abc"], [1]⟩] "grease-1"
    [msg1] confirm1 .eof .eof h.1 h.2.1 "eWVz" [121, 101, 115] [110, 111] h.2.2.1 h.2.2.2

/-- non-vacuity of `confirm_malformed_fatal_identity`: `confirm` without arguments
    (first alternative; the second one is witnessed for the wrap above and by
    the `example` below) -/
theorem confirm_malformed_fatal_identity_nonvacuous :
    confirmNoArgs.type = "confirm" ∧ Listening (I₀ ⟨[msg1], .eof⟩) .eof ∧
    ((confirmNoArgs.args.length ≠ 1 ∧ confirmNoArgs.args.length ≠ 2) ∨
     (uiAll.confirm ≠ none ∧ (confirmNoArgs.args.length = 1 ∨ confirmNoArgs.args.length = 2) ∧
       ∃ a ∈ confirmNoArgs.args, dec0 a = none)) :=
  ⟨rfl, ui_dispatch_request_identity_nonvacuous.2, Or.inl (by decide +kernel)⟩

example : uiAll.confirm ≠ none ∧ (confirm1.args.length = 1 ∨ confirm1.args.length = 2) ∧
    ∃ a ∈ (⟨"confirm", ["eWVz", "b"], []⟩ : Stanza).args, dec0 a = none := ⟨uiAll_confirm, by decide +kernel, by decide +kernel⟩

example : (I₀ ⟨[msg1] ++ confirmNoArgs :: [doneS], .eof⟩).result = .error .protocol :=
  have h := confirm_malformed_fatal_identity_nonvacuous
  (confirm_malformed_fatal_identity uiAll dec0 0 "AGE-PLUGIN-VERIF-1Q" [⟨"X25519", ["abc"], [1]⟩] "grease-1"
    [msg1] confirmNoArgs [doneS] .eof .eof h.1 h.2.1 h.2.2).1

/-- non-vacuity of `no_stanza_wrap_fails` (no outer hypotheses; the premises of its
    two parts): a wrap that succeeds with two stanzas and empty labels; and a
    `done` reaching a client that has only seen `labels` and a `msg` -/
theorem no_stanza_wrap_fails_nonvacuous :
    (R₀ ⟨[rs0, labels0, msg1, rsPlus0, doneS, rs1], .eof⟩).result =
      .ok ([⟨"X25519", ["abc"], [1, 2]⟩, ⟨"scrypt", [], []⟩], some []) ∧
    ((⟨[labels0, msg1, doneS, rs0], .eof⟩ : Conv).msgs = [labels0, msg1] ++ doneS :: [rs0] ∧
      Listening (R₀ ⟨[labels0, msg1], .malformed⟩) .malformed ∧
      (∀ x ∈ [labels0, msg1], x.type ≠ "recipient-stanza") ∧ doneS.type = "done") :=
  ⟨by decide +kernel, rfl, by unfold Listening; decide +kernel, by decide +kernel, rfl⟩

example : (R₀ ⟨[labels0, msg1, doneS, rs0], .eof⟩).result = .error .noStanzas :=
  have h := no_stanza_wrap_fails_nonvacuous.2
  ((no_stanza_wrap_fails uiAll dec0 0 false "age1verif1q" [7] "grease-1" ⟨[labels0, msg1, doneS, rs0], .eof⟩).2
    [labels0, msg1] doneS [rs0] .malformed h.1 h.2.1 h.2.2.1 h.2.2.2).1

/-- non-vacuity of `no_filekey_incorrect_identity` (no outer hypotheses; the
    premises of its two parts): an unwrap that succeeds with the key `[9, 9]`; and
    a `done` reaching a client that has only seen a `file-key` with an empty body
    and a `msg` -/
theorem no_filekey_incorrect_identity_nonvacuous :
    (I₀ ⟨[msg1, fk0, unknown1, doneS, fk0], .eof⟩).result = .ok [9, 9] ∧
    ((⟨[fk0e, msg1, doneS, fk0], .eof⟩ : Conv).msgs = [fk0e, msg1] ++ doneS :: [fk0] ∧
      Listening (I₀ ⟨[fk0e, msg1], .eof⟩) .eof ∧
      (∀ x ∈ [fk0e, msg1], x.type = "file-key" → x.body = []) ∧ doneS.type = "done") :=
  ⟨by decide +kernel, rfl, by unfold Listening; decide +kernel, by decide +kernel, rfl⟩

example : (I₀ ⟨[fk0e, msg1, doneS, fk0], .eof⟩).result = .error .incorrectIdentity :=
  have h := no_filekey_incorrect_identity_nonvacuous.2
  ((no_filekey_incorrect_identity uiAll dec0 0 "AGE-PLUGIN-VERIF-1Q" [⟨"X25519", ["abc"], [1]⟩] "grease-1"
    ⟨[fk0e, msg1, doneS, fk0], .eof⟩).2 [fk0e, msg1] doneS [fk0] .eof h.1 h.2.1 h.2.2.1 h.2.2.2).1

/-- non-vacuity of `eof_is_error_recipient`: a stanza, `labels`, a `msg`, then the stream ends -/
theorem eof_is_error_recipient_nonvacuous : noDone [rs0, labels0, msg1] := by unfold noDone; decide +kernel

example : Hard (R₀ ⟨[rs0, labels0, msg1], .eof⟩).result :=
  eof_is_error_recipient uiAll dec0 0 false "age1verif1q" [7] "grease-1" _ .eof eof_is_error_recipient_nonvacuous

/-- non-vacuity of `eof_is_error_identity`: a file key and a `confirm`, then malformed framing -/
theorem eof_is_error_identity_nonvacuous : noDone [fk0, confirm1] := by unfold noDone; decide +kernel

example : Hard (I₀ ⟨[fk0, confirm1], .malformed⟩).result :=
  eof_is_error_identity uiAll dec0 0 "AGE-PLUGIN-VERIF-1Q" [⟨"X25519", ["abc"], [1]⟩] "grease-1" _ .malformed
    eof_is_error_identity_nonvacuous

/-- non-vacuity of `hard_excludes`: the result of a wrap whose second stanza has index 1 -/
theorem hard_excludes_nonvacuous : Hard (R₀ ⟨[rs0, rs1, doneS], .eof⟩).result :=
  ⟨.protocol, by decide +kernel, trivial⟩

example : (R₀ ⟨[rs0, rs1, doneS], .eof⟩).result ≠ .error .noStanzas :=
  (hard_excludes _ hard_excludes_nonvacuous).2.2

/-- non-vacuity of `eof_after_harmless_messages`: a `msg`, an unknown command, `request-public` -/
theorem eof_after_harmless_messages_nonvacuous :
    ∀ m ∈ [msg1, unknown1, (⟨"request-public", [], []⟩ : Stanza)], harmless m.type := by
  unfold harmless; decide +kernel

example := eof_after_harmless_messages uiAll dec0 0 false "age1verif1q" [7] [⟨"X25519", ["abc"], [1]⟩] "grease-1"
  _ .eof eof_after_harmless_messages_nonvacuous

end Nonvacuous

end Props.C16
end AgeModel
