/-
  C07 — header encoding is canonical: parsing and marshalling are inverse.
  The property theorems and their witnesses (the lemmas are in Proofs/Format*.lean, Proofs/B64.lean).
-/
import Proofs.FormatTop
namespace AgeModel
namespace Props.C07
open Format

/-- Every byte string the header parser accepts re-serialises to exactly the
    same bytes, followed by exactly the unread remainder (the payload). -/
theorem marshal_of_parse (b rest : Bytes) (h : Header) (hp : parse b = .ok (h, rest)) :
    b = marshal h ++ rest :=
  (parse_canon hp).1

/-- …and the header it yields is well formed (non-empty printable-ASCII type and
    arguments, 32-byte MAC). -/
theorem parse_wellformed (b rest : Bytes) (h : Header) (hp : parse b = .ok (h, rest)) : h.WF :=
  (parse_canon hp).2

/-- No two different byte strings denote the same header with the same payload. -/
theorem no_two_spellings (b₁ b₂ rest : Bytes) (h : Header)
    (h₁ : parse b₁ = .ok (h, rest)) (h₂ : parse b₂ = .ok (h, rest)) : b₁ = b₂ := by
  rw [marshal_of_parse b₁ rest h h₁, marshal_of_parse b₂ rest h h₂]

/-- Every well-formed header (non-empty printable-ASCII type and arguments, any
    body, 32-byte MAC, any number of stanzas including none) serialises to bytes
    that parse back to an equal header, with whatever follows as the payload. -/
theorem parse_of_marshal (h : Header) (hwf : h.WF) (rest : Bytes) :
    parse (marshal h ++ rest) = .ok (h, rest) :=
  parse_marshal h hwf rest

/-- `marshal` is injective on well-formed headers. -/
theorem marshal_injective (h₁ h₂ : Header) (w₁ : h₁.WF) (w₂ : h₂.WF) (e : marshal h₁ = marshal h₂) : h₁ = h₂ := by
  have a := parse_of_marshal h₁ w₁ []
  have b := parse_of_marshal h₂ w₂ []
  rw [e, b] at a
  simp only [Except.ok.injEq, Prod.mk.injEq, and_true] at a
  exact a.symm

/-- The parser reads exactly the header: the payload it hands on is a suffix of
    the input and the header occupies exactly the bytes before it. -/
theorem parse_consumes_exactly (b rest : Bytes) (h : Header) (hp : parse b = .ok (h, rest)) :
    b.drop (marshal h).length = rest ∧ b.take (marshal h).length = marshal h := by
  have := marshal_of_parse b rest h hp
  subst this
  simp

/-- Input the parser rejects yields neither a header nor a payload: by the type
    of `parse` (an `Except`), an error carries nothing else. Stated as: the
    result is either an error or a pair, never both. -/
theorem parse_error_total (b : Bytes) :
    (∃ e, parse b = .error e) ∨ (∃ h rest, parse b = .ok (h, rest) ∧ b = marshal h ++ rest) := by
  cases hp : parse b with
  | error e => exact Or.inl ⟨e, rfl⟩
  | ok p => exact Or.inr ⟨p.1, p.2, rfl, marshal_of_parse b p.2 p.1 hp⟩

/-- strict base64 as used in the header: every accepted encoding is the canonical one -/
theorem base64_canonical (s b : Bytes) (h : decodeString s = some b) : s = B64.encRaw b :=
  decodeString_canon h

theorem base64_roundtrip (b : Bytes) : decodeString (B64.encRaw b) = some b := decodeString_enc b

/-- the header of the witnesses: well formed, two stanzas, one with an empty body, one with a 48-byte body
    (the empty-last-line case) -/
def sample : Header :=
  { stanzas := [{ type := [88], args := [[97, 98], [126]], body := [] },
                { type := [33], args := [], body := List.replicate 48 7 }],
    mac := List.replicate 32 0 }

/-- non-vacuity of `marshal_of_parse` (and of `parse_wellformed`, `parse_consumes_exactly`, which have the same
    hypothesis): the parser accepts the literal text
    `age-encryption.org/v1\n-> X ab ~\n\n-> !\nBwcH…(64 columns)\n\n--- AAA…(43)\n` followed by the payload `[1,2,3]`,
    yielding the two-stanza header `sample` (an empty body; a 48-byte body with its empty last line) -/
theorem marshal_of_parse_nonvacuous :
    parse (Format.intro ++ [45, 62, 32, 88, 32, 97, 98, 32, 126, 10, 10] ++ [45, 62, 32, 33, 10] ++
        (List.replicate 16 [66, 119, 99, 72]).flatten ++ [10, 10] ++
        [45, 45, 45, 32] ++ List.replicate 43 65 ++ [10] ++ [1, 2, 3]) = .ok (sample, [1, 2, 3]) :=
  eq_ok_of_toOption (by decide +kernel)

/-- non-vacuity of `no_two_spellings`: the same literal text twice (the conclusion says there is no other choice) -/
theorem no_two_spellings_nonvacuous :
    ∃ b₁ b₂, parse b₁ = .ok (sample, [1, 2, 3]) ∧ parse b₂ = .ok (sample, [1, 2, 3]) :=
  ⟨_, _, marshal_of_parse_nonvacuous, marshal_of_parse_nonvacuous⟩

/-- non-vacuity of `parse_of_marshal`: the two-stanza header `sample` is well formed -/
theorem parse_of_marshal_nonvacuous : sample.WF := by
  refine ⟨?_, by decide⟩
  intro s hs
  simp only [sample, List.mem_cons, List.not_mem_nil, or_false] at hs
  rcases hs with rfl | rfl
  · exact ⟨by decide, by decide⟩
  · exact ⟨by decide, by decide⟩

example : sample.WF := parse_of_marshal_nonvacuous

/-- non-vacuity of `marshal_injective`: `sample` twice (the conclusion says there is no other choice) -/
theorem marshal_injective_nonvacuous : sample.WF ∧ sample.WF ∧ marshal sample = marshal sample :=
  ⟨parse_of_marshal_nonvacuous, parse_of_marshal_nonvacuous, rfl⟩

/-- non-vacuity of `base64_canonical`: `AQIDBAU` decodes to the five bytes 1..5 -/
theorem base64_canonical_nonvacuous : decodeString [65, 81, 73, 68, 66, 65, 85] = some [1, 2, 3, 4, 5] := by decide

/-- the conclusions of `marshal_of_parse` and `parse_of_marshal` at those witnesses: the literal text is `marshal sample ++ [1,2,3]`,
    and that parses back -/
example : Format.intro ++ [45, 62, 32, 88, 32, 97, 98, 32, 126, 10, 10] ++ [45, 62, 32, 33, 10] ++
      (List.replicate 16 [66, 119, 99, 72]).flatten ++ [10, 10] ++
      [45, 45, 45, 32] ++ List.replicate 43 65 ++ [10] ++ [1, 2, 3] = marshal sample ++ [1, 2, 3] :=
  marshal_of_parse _ _ _ marshal_of_parse_nonvacuous
example : parse (marshal sample ++ [1, 2, 3]) = .ok (sample, [1, 2, 3]) := parse_of_marshal sample parse_of_marshal_nonvacuous _

end Props.C07
end AgeModel
