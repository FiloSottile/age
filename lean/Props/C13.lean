/-
  C13 — I/O failures surface; nothing is lost silently.
-/
import Proofs.FileWrite
import Proofs.StreamFault
import Proofs.ArmorCompose
import Proofs.ToyPrims
import Props.C12
namespace AgeModel
namespace Props.C13
open Format Stream

/-- **No silent loss (binary files).** For EVERY destination behaviour (failing
    at any write call or byte offset, once or permanently, accepting a prefix or
    nothing), every tape, recipients, split of the header into write calls and
    write segmentation: if Encrypt, every Write and Close report success, then
    the bytes the destination accepted are exactly what it held before followed
    by the complete file `specFile …` for the concatenated plaintext.
    Contrapositive: any failing write makes some call return an error. -/
theorem no_silent_loss {S : DstSpec} (P : Prims) (C L : Nat) (hC : 0 < C)
    (tape : Bytes) (rs : List Recipient) (hdrSegs : List Nat) (d d2 : Dst S) (segs : List Bytes)
    (w : Stream.Writer S) (k t' : Bytes)
    (hinit : encryptInit P tape rs hdrSegs d = (.ok (w, k, t'), d2))
    (hall : ∀ r ∈ (w.run P.aead C L k (Props.C12.opsOf segs)).2, r.2 = none) :
    ∃ fk stanzas nonce,
      (w.run P.aead C L k (Props.C12.opsOf segs)).1.dst.acc = d.acc ++ specFile P C fk stanzas nonce segs.flatten := by
  obtain ⟨fk, stanzas, t, nonce, _, _, hacc, hk, hw⟩ := encryptInit_ok P tape rs hdrSegs d d2 w k t' hinit
  subst hw hk
  have := Props.C12.writer_refines_spec P.aead C L hC (streamKey P fk nonce) d2 segs hall
  exact ⟨fk, stanzas, nonce, by rw [this.1, hacc]; simp [specFile]⟩

/-- **No silent loss (armored files).** `Encrypt` into an armor writer over ANY
    destination (failing at any call or offset, accepting any prefix), the armor
    writer's output split into destination writes in any way (`segF`), any tape,
    recipients, header split and write segmentation: if Encrypt, every Write, the
    payload writer's Close AND the armor writer's Close all report success, then
    the destination holds exactly what it held before followed by the complete
    armor of the complete file for the concatenated plaintext. -/
theorem no_silent_loss_armored {S' : DstSpec} (segF : Armor.AWriter S' → Bytes → List Nat)
    (P : Prims) (C L : Nat) (hC : 0 < C)
    (tape : Bytes) (rs : List Recipient) (hdrSegs : List Nat) (d' : Dst S') (segs : List Bytes)
    (d2 : Dst (armorDst S' segF)) (w : Stream.Writer (armorDst S' segF)) (k t' : Bytes)
    (hinit : encryptInit P tape rs hdrSegs (armorDst.fresh (segF := segF) d') = (.ok (w, k, t'), d2))
    (hall : ∀ r ∈ (w.run P.aead C L k (Props.C12.opsOf segs)).2, r.2 = none)
    (a' : Armor.AWriter S')
    (hclose : (w.run P.aead C L k (Props.C12.opsOf segs)).1.dst.st.close = (a', none)) :
    ∃ fk stanzas nonce, a'.dst.acc = d'.acc ++ Armor.armor (specFile P C fk stanzas nonce segs.flatten) := by
  obtain ⟨fk, stanzas, nonce, hacc⟩ := no_silent_loss P C L hC tape rs hdrSegs _ d2 segs w k t' hinit hall
  have hw : w = Stream.Writer.new d2 := by
    obtain ⟨_, _, _, _, _, _, _, _, hw⟩ := encryptInit_ok P tape rs hdrSegs _ d2 w k t' hinit
    exact hw
  have hr1 := encryptInit_reach P tape rs hdrSegs _ d2 w k t' hinit
  have hr2 := run_reach P.aead C L k (Props.C12.opsOf segs) w hall
  have hwd : w.dst = d2 := by rw [hw]; rfl
  rw [hwd] at hr2
  have hI := Reach.transfer (I := ArmorDstInv d'.acc)
    (fun d b d1 h1 h2 => armorDstInv_write d'.acc d d1 b h1 h2) (hr1.trans hr2) (armorDstInv_fresh d')
  unfold ArmorDstInv at hI
  rw [hacc] at hI
  have := Armor.aclose_ok d'.acc _ a' _ hI hclose
  exact ⟨fk, stanzas, nonce, by rw [this]; simp [armorDst.fresh]⟩

/-- non-vacuity: an armor writer over a perfect destination accepts a write as a
    destination, and over a destination that fails at offset 10 it reports the failure -/
example : ((armorDst.fresh (S' := DstSpec.perfect) (segF := fun _ _ => []) { acc := [], st := () }).write [1, 2, 3]).2 = true := by decide
example : ((armorDst.fresh (S' := DstSpec.atOffset 10 true false) (segF := fun _ _ => []) { acc := [], st := false }).write [1, 2, 3]).2 = false := by decide

/-- a failed Encrypt returns no writer: the caller cannot go on writing -/
theorem encrypt_failure_no_writer {S : DstSpec} (P : Prims) (tape : Bytes) (rs : List Recipient) (segs : List Nat) (d : Dst S) :
    (∃ e d', encryptInit P tape rs segs d = (.error e, d')) ∨
    (∃ w k t' d', encryptInit P tape rs segs d = (.ok (w, k, t'), d')) := by
  cases h : encryptInit P tape rs segs d with
  | mk r d' =>
    cases r with
    | error e => exact Or.inl ⟨e, d', rfl⟩
    | ok v => exact Or.inr ⟨v.1, v.2.1, v.2.2, d', rfl⟩

/-- a writer that has reported an error (or was closed) keeps failing and writes nothing more -/
theorem writer_sticky {S : DstSpec} (A : AEAD) (C L : Nat) (k : Bytes) (w : Stream.Writer S) (e : Outcome)
    (he : w.err = some e) (ops : List WOp) :
    w.run A C L k ops = (w, ops.map fun _ => (0, some e)) :=
  run_sticky A C L k w e he ops

/-- every error a Write/Close can report is the destination's failure (or the
    counter limit after ≥ (L-1)·C bytes); in both cases the error is recorded -/
theorem write_error_recorded {S : DstSpec} (A : AEAD) (C L : Nat) (hC : 0 < C) (k acc0 : Bytes) (w w' : Stream.Writer S)
    (pt p : Bytes) (n : Nat) (e : Outcome) (hinv : WInv A C k acc0 w pt) (h : w.write A C L k p = (w', n, some e)) :
    w'.err = some e ∧ n = 0 :=
  let r := write_err A C L hC k acc0 w w' pt p n e hinv h
  ⟨r.1, r.2.1⟩

/-- **Source faults.** If the source fails (non-EOF error) after delivering any
    prefix `c.take L` of a ciphertext `c` — inside the first chunk, on a chunk
    boundary, in the last chunk, at the EOF probe — then reading to the end reports
    an error other than clean EOF, and the plaintext released is a prefix of what
    the complete `c` yields; and by `reader_sticky` the stream keeps failing. -/
theorem src_fault_surfaces (A : AEAD) (C Lim : Nat) (hE : 0 < C + A.T) (k c : Bytes) (L : Nat)
    (hL : c.length < Lim) (sizes : List Nat) (hpos : ∀ s ∈ sizes, 0 < s)
    (hlong : (dec A C k true 0 (c.take L)).1.length + (c.take L).length + 1 < sizes.length) :
    ∃ r' out e, (Reader.new ⟨c.take L, true⟩).drain A C Lim k sizes = (r', out, some e) ∧
      e ≠ .eof ∧ out <+: (decrypt A C k c).1 := by
  have hlt : (c.take L).length < Lim := by rw [List.length_take]; omega
  obtain ⟨r', hr⟩ := Props.C12.reader_refines_spec A C Lim hE k (c.take L) true hlt sizes hpos hlong
  exact ⟨r', _, _, hr, decFrom_fail_ne_eof A C k _ 0 _, dec_fail_prefix A C hE k 0 c L⟩

theorem reader_sticky (A : AEAD) (C L : Nat) (k : Bytes) (r : Reader) (e : Outcome)
    (he : r.err = some e) (hu : r.unread = []) (n : Nat) : r.read A C L k n = (r, [], some e) :=
  read_sticky A C L k r e he hu n

/-- non-vacuity: destinations that do fail exist in the model (fail at byte offset 20, keep a prefix) -/
example : ((({ acc := [], st := false } : Dst (DstSpec.atOffset 20 true false)).write (List.replicate 30 1)).2 = false) := by decide

/-! ## Non-vacuity witnesses

  Toy primitive suite (`Prims.toy`, 12-byte tag), chunk size 4, counter limit 2^88; a 100-byte random tape, one X25519
  recipient, the header split into writes of 3, 0, 10 bytes and the rest; nine plaintext bytes written as `[1,2,3]`,
  an empty write and `[4..9]`, then Close. -/

/-- evaluation helpers: a pair / triple is its first component and the (decidable) rest -/
theorem nv_pair {α β : Type} (x : α × β) (b : β) (h : x.2 = b) : x = (x.1, b) := by
  cases x; cases h; rfl
theorem nv_triple {α β γ : Type} (x : α × β × γ) (b : β) (c : γ) (h1 : x.2.1 = b) (h2 : x.2.2 = c) : x = (x.1, b, c) := by
  obtain ⟨a, b', c'⟩ := x; cases h1; cases h2; rfl

def nvTape : Bytes := (List.range 100).map Nat.toUInt8
def nvRs : List Recipient := [.x25519 (List.replicate 32 5)]
def nvSegs : List Bytes := [[1, 2, 3], [], [4, 5, 6, 7, 8, 9]]
/-- the one stanza `Encrypt` produces for `nvRs` on `nvTape` -/
def nvStanza : Stanza :=
  { type := tX25519, args := [B64.encRaw (List.replicate 32 0)], body := nvTape.take 16 ++ List.replicate 12 0 }
/-- the marshalled header, spelled without `Format.wrap` (well-founded recursion) so that it evaluates -/
def nvHdr : Bytes :=
  Format.intro ++ (stanzaPrefix ++ spaced [tX25519, B64.encRaw (List.replicate 32 0)] ++ [nl] ++ B64.encRaw nvStanza.body ++ [nl])
    ++ footerPrefix ++ [sp] ++ B64.encRaw (List.replicate 32 0) ++ [nl]
def nvNonce : Bytes := (nvTape.drop 48).take 16

theorem nv_header : encryptHeader Prims.toy nvTape nvRs = .ok (nvTape.take 16, [nvStanza], nvTape.drop 48) := by
  rfl

theorem nv_marshal : marshal { stanzas := [nvStanza], mac := headerMAC Prims.toy (nvTape.take 16) [nvStanza] } = nvHdr := by
  have hw : wrap (B64.encRaw nvStanza.body) = B64.encRaw nvStanza.body := wrap_short (by decide)
  simp only [marshal, marshalNoMAC, marshalStanzas, marshalStanza, hw, List.append_nil]
  rfl

/-- a destination that fails the write crossing byte offset 1000 and already holds one byte -/
def nvD : Dst (DstSpec.atOffset 1000 true false) := { acc := [0xAA], st := false }
/-- … after the header (163 bytes) and the 16-byte nonce -/
def nvD2 : Dst (DstSpec.atOffset 1000 true false) := { acc := [0xAA] ++ nvHdr ++ nvNonce, st := false }

/-- non-vacuity of `no_silent_loss`: `Encrypt` on the witness above succeeds, and so do the three Writes and the Close -/
theorem no_silent_loss_nonvacuous :
    0 < 4 ∧
    encryptInit Prims.toy nvTape nvRs [3, 0, 10] nvD = (.ok (Writer.new nvD2, List.replicate 32 0, nvTape.drop 64), nvD2) ∧
    (∀ r ∈ ((Writer.new nvD2).run Prims.toy.aead 4 (2^88) (List.replicate 32 0) (Props.C12.opsOf nvSegs)).2, r.2 = none) := by
  have hinit := encryptInit_of_writes Prims.toy nvTape nvRs [3, 0, 10] nvD nv_header (nonce := nvNonce) (t' := nvTape.drop 64)
    (by decide +kernel)
  rw [nv_marshal] at hinit
  -- What is left goes to the kernel as one proposition: `Encrypt`'s two destination writes succeed and leave `nvD2`
  -- (its state `false` is stated through `!`, which makes the equation one of `Bool`s), and the run succeeds.
  have hd2 : ∀ d : Dst (DstSpec.atOffset 1000 true false), d.acc = nvD2.acc ∧ (!d.st) = true → d = nvD2 :=
    fun d h => Dst.eq_of_acc_st h.1 (Bool.not_eq_true' _ ▸ h.2)
  refine ⟨by decide, And.imp (And.elim fun h hd => hd2 _ hd ▸ And.elim hinit h) id ?_⟩
  decide +kernel

/-- the conclusion of `no_silent_loss` at that witness: the destination holds its byte and a complete file -/
example : ∃ fk stanzas nonce,
    ((Writer.new nvD2).run Prims.toy.aead 4 (2^88) (List.replicate 32 0) (Props.C12.opsOf nvSegs)).1.dst.acc
      = [0xAA] ++ specFile Prims.toy 4 fk stanzas nonce [1, 2, 3, 4, 5, 6, 7, 8, 9] :=
  no_silent_loss Prims.toy 4 (2^88) (by decide) nvTape nvRs [3, 0, 10] nvD nvD2 nvSegs _ _ _
    no_silent_loss_nonvacuous.2.1 no_silent_loss_nonvacuous.2.2

/-- how the armor writer's output is split into destination writes in the witness: 5 bytes, an empty split, 7, the rest -/
def nvSegF : Armor.AWriter (DstSpec.atOffset 1000 true false) → Bytes → List Nat := fun _ _ => [5, 0, 7]
/-- the armor writer over `nvD`, as a destination, after the header and the nonce -/
def nvAD2 : Dst (armorDst (DstSpec.atOffset 1000 true false) nvSegF) :=
  ((writeAll (armorDst.fresh (segF := nvSegF) nvD) (segmentBy [3, 0, 10] nvHdr)).1.write nvNonce).1

/-- non-vacuity of `no_silent_loss_armored`: the same `Encrypt` into an armor writer over `nvD`; Encrypt, the Writes,
    the payload Close and the armor Close all succeed -/
theorem no_silent_loss_armored_nonvacuous :
    ∃ a' : Armor.AWriter (DstSpec.atOffset 1000 true false),
    0 < 4 ∧
    encryptInit Prims.toy nvTape nvRs [3, 0, 10] (armorDst.fresh (segF := nvSegF) nvD)
      = (.ok (Writer.new nvAD2, List.replicate 32 0, nvTape.drop 64), nvAD2) ∧
    (∀ r ∈ ((Writer.new nvAD2).run Prims.toy.aead 4 (2^88) (List.replicate 32 0) (Props.C12.opsOf nvSegs)).2, r.2 = none) ∧
    ((Writer.new nvAD2).run Prims.toy.aead 4 (2^88) (List.replicate 32 0) (Props.C12.opsOf nvSegs)).1.dst.st.close = (a', none) ∧
    a'.dst.acc.length = 374 := by
  have hinit := encryptInit_of_writes Prims.toy nvTape nvRs [3, 0, 10] (armorDst.fresh (segF := nvSegF) nvD)
    nv_header (nonce := nvNonce) (t' := nvTape.drop 64) (by decide +kernel)
  rw [nv_marshal] at hinit
  -- What is left (`Encrypt`'s two destination writes succeed, the armor `Close` reports no error) goes to the kernel
  -- as one proposition, so that the run and the `Close` re-use the state `nvAD2` that the two writes build.
  refine ⟨_, by decide, And.imp (And.elim hinit) (And.imp id (And.imp (nv_pair _ _) id)) ?_⟩
  decide +kernel

/-- non-vacuity of `writer_sticky`: a writer whose destination failed at byte offset 20 during the second chunk of a
    9-byte Write has recorded `dstErr`; a closed writer has recorded `closed` -/
theorem writer_sticky_nonvacuous :
    let d : Dst (DstSpec.atOffset 20 true false) := { acc := [], st := false }
    let w := ((Writer.new d).write AEAD.toy 4 (2^88) [7, 7] [1, 2, 3, 4, 5, 6, 7, 8, 9]).1
    let w' := ((Writer.new d).close AEAD.toy 4 (2^88) [7, 7]).1
    w.err = some .dstErr ∧ w.dst.acc.length = 20 ∧ w'.err = some .closed := by
  decide +kernel

/-- non-vacuity of `write_error_recorded`: a writer over a destination failing at byte offset 20 that has accepted
    `[1,2,3]` (so `WInv … [1,2,3]` holds, by `write_ok`) reports `dstErr` on the next Write, of six bytes -/
theorem write_error_recorded_nonvacuous :
    let d : Dst (DstSpec.atOffset 20 true false) := { acc := [0xAA], st := false }
    let w := ((Writer.new d).write AEAD.toy 4 (2^88) [7, 7] [1, 2, 3]).1
    ∃ w', 0 < 4 ∧ WInv AEAD.toy 4 [7, 7] d.acc w [1, 2, 3] ∧
      w.write AEAD.toy 4 (2^88) [7, 7] [4, 5, 6, 7, 8, 9] = (w', 0, some .dstErr) := by
  intro d w
  refine ⟨(w.write AEAD.toy 4 (2^88) [7, 7] [4, 5, 6, 7, 8, 9]).1, by decide, ?_, nv_triple _ _ _ (by decide +kernel) (by decide +kernel)⟩
  exact (write_ok AEAD.toy 4 (2^88) (by decide) [7, 7] d.acc (Writer.new d) w [] [1, 2, 3] 3
    (WInv_new AEAD.toy 4 [7, 7] d) (nv_triple _ _ _ (by decide +kernel) (by decide +kernel))).1

/-- non-vacuity of `src_fault_surfaces`: the source fails after 20 of the 45 bytes of a three-chunk payload (inside
    the second chunk); 30 reads of 2 bytes -/
theorem src_fault_surfaces_nonvacuous :
    let c := encrypt AEAD.toy 4 [7, 7] [1, 2, 3, 4, 5, 6, 7, 8, 9]
    let sizes := List.replicate 30 2
    0 < 4 + AEAD.toy.T ∧ c.length < 2^88 ∧ (∀ s ∈ sizes, 0 < s) ∧
    (dec AEAD.toy 4 [7, 7] true 0 (c.take 20)).1.length + (c.take 20).length + 1 < sizes.length ∧
    c.take 20 ≠ c ∧ dec AEAD.toy 4 [7, 7] true 0 (c.take 20) = ([1, 2, 3, 4], .srcErr) := by
  decide +kernel

/-- non-vacuity of `reader_sticky`: the reader of that failing source after it has been read to the error, and a
    reader that hit a damaged chunk, have a recorded error and nothing unread -/
theorem reader_sticky_nonvacuous :
    let c := encrypt AEAD.toy 4 [7, 7] [1, 2, 3, 4, 5, 6, 7, 8, 9]
    let r := ((Reader.new ⟨c.take 20, true⟩).drain AEAD.toy 4 (2^88) [7, 7] (List.replicate 30 2)).1
    let r' := ((Reader.new ⟨c.set 30 0xFF, false⟩).drain AEAD.toy 4 (2^88) [7, 7] [4, 4]).1
    r.err = some .srcErr ∧ r.unread = [] ∧ r'.err = some .authFail ∧ r'.unread = [] := by
  decide +kernel

/-- the conclusion of `no_silent_loss_armored` at its witness: the destination holds its byte and the complete armor
    of a complete file -/
example : ∃ (a' : Armor.AWriter (DstSpec.atOffset 1000 true false)) (fk : Bytes) (stanzas : List Stanza) (nonce : Bytes),
    a'.dst.acc = [0xAA] ++ Armor.armor (specFile Prims.toy 4 fk stanzas nonce [1, 2, 3, 4, 5, 6, 7, 8, 9]) := by
  obtain ⟨a', hC, hinit, hall, hclose, _⟩ := no_silent_loss_armored_nonvacuous
  obtain ⟨fk, stanzas, nonce, h⟩ := no_silent_loss_armored nvSegF Prims.toy 4 (2^88) hC nvTape nvRs [3, 0, 10] nvD nvSegs
    nvAD2 _ _ _ hinit hall a' hclose
  exact ⟨a', fk, stanzas, nonce, h⟩

end Props.C13
end AgeModel
