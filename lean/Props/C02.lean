/-
  C02 — tampered, truncated or reordered payload is never accepted.
-/
import Proofs.StreamTamper
import Proofs.ToyPrims
import Props.C12
import Proofs.File
namespace AgeModel
namespace Props.C02
open Stream

/-- **Exactly one chunking is accepted.** For a key, whatever byte string decrypts
    to a clean end of stream is the canonical encryption of what came out: covers
    re-splitting, re-flagging, an empty final chunk after a full one, trailing data.
    Needs only the functional laws of the AEAD (true of ChaCha20-Poly1305). -/
theorem accepts_only_own_chunking (A : AEAD) (hA : A.Correct) (C : Nat) (hC : 0 < C) (k c out : Bytes)
    (h : decrypt A C k c = (out, .eof)) : c = encrypt A C k out :=
  Stream.accepts_only_own_chunking A hA C hC k c out h

/-- **Tamper theorem (reduction form, no idealisation).** Let `pt` be the original
    plaintext and `c'` ANY byte string presented as the payload (bits flipped, cut
    at any point, extended, chunks dropped, duplicated, reordered, re-flagged,
    re-split, foreign). If every (nonce, plaintext) pair the reader successfully
    opens while processing `c'` is one the encryptor sealed for `pt` — i.e. the
    AEAD was not forged — then every plaintext byte released is, position for
    position, a byte of `pt` (the output is a prefix of `pt`), and a clean end of
    stream is reached only with all of `pt`. Contrapositive: any other behaviour
    exhibits an explicit forgery `(nonce, chunk)` among `openedFrom … c'`. -/
theorem tamper_prefix (A : AEAD) (C : Nat) (hC : 0 < C) (k pt c' : Bytes)
    (hlen : c'.length + 2 < 2 ^ 88) (hlenp : pt.length + 2 < 2 ^ 88)
    (hno : ∀ x ∈ openedFrom A C k 0 c' (c'.length + 1), x ∈ sealedFrom C 0 pt (pt.length + 1)) :
    (decrypt A C k c').1 <+: pt ∧ ((decrypt A C k c').2 = .eof → (decrypt A C k c').1 = pt) := by
  unfold decrypt
  exact tamper_aux A C hC k (c'.length + 1) 0 c' pt (pt.length + 1) (by omega) (by omega) (by omega) hno

/-- …hence a payload different from the one written never reaches a clean end of stream. -/
theorem tampered_never_eof (A : AEAD) (hA : A.Correct) (C : Nat) (hC : 0 < C) (k pt c' : Bytes)
    (hne : c' ≠ encrypt A C k pt)
    (hlen : c'.length + 2 < 2 ^ 88) (hlenp : pt.length + 2 < 2 ^ 88)
    (hno : ∀ x ∈ openedFrom A C k 0 c' (c'.length + 1), x ∈ sealedFrom C 0 pt (pt.length + 1)) :
    (decrypt A C k c').2 ≠ .eof := by
  intro he
  have h := (tamper_prefix A C hC k pt c' hlen hlenp hno).2 he
  have : decrypt A C k c' = (pt, .eof) := by
    rw [← h, ← he]
  exact hne (accepts_only_own_chunking A hA C hC k c' pt this)

/-! ## whole files: "the bytes after the header are changed in any way" -/

/-- **A file cut inside the payload nonce yields no reader.** -/
theorem file_cut_in_nonce (P : Prims) (hP : P.Correct) (fk : Bytes) (stanzas : List Format.Stanza) (rest : Bytes)
    (hwf : ∀ s ∈ stanzas, s.WF) (hfk : fk ≠ []) (pre post : List Identity) (id : Identity)
    (hpre : ∀ i ∈ pre, i.unwrap P stanzas = .incorrect) (hid : id.unwrap P stanzas = .key fk)
    (hshort : rest.length < streamNonceSize) (C : Nat) :
    decryptFile P C (pre ++ id :: post) (headerBytes P fk stanzas ++ rest) = .error .nonce := by
  unfold decryptFile
  rw [decryptInit_header_rest P hP fk stanzas rest hwf hfk pre post id hpre hid]
  simp [hshort]

/-- **Whole-file tamper theorem (reduction form).** Take the honest file
    `specFile … nonce pt` and replace everything after the nonce by ANY bytes `c'`.
    Every identity list that opens the header gets exactly what the STREAM layer
    makes of `c'` under the honest payload key; so, if no AEAD forgery is exhibited
    (every pair the reader opens is one that was sealed for `pt`), the bytes
    released are a prefix of `pt`, a clean end of stream comes only with all of
    `pt`, and a `c'` that differs from the honest payload never reaches a clean end. -/
theorem file_payload_tamper (P : Prims) (hP : P.Correct) (C : Nat) (hC : 0 < C)
    (fk nonce pt c' : Bytes) (stanzas : List Format.Stanza)
    (hwf : ∀ s ∈ stanzas, s.WF) (hfk : fk ≠ []) (hn : nonce.length = streamNonceSize)
    (pre post : List Identity) (id : Identity)
    (hpre : ∀ i ∈ pre, i.unwrap P stanzas = .incorrect) (hid : id.unwrap P stanzas = .key fk)
    (hlen : c'.length + 2 < 2 ^ 88) (hlenp : pt.length + 2 < 2 ^ 88)
    (hno : ∀ x ∈ openedFrom P.aead C (streamKey P fk nonce) 0 c' (c'.length + 1), x ∈ sealedFrom C 0 pt (pt.length + 1)) :
    ∃ out o, decryptFile P C (pre ++ id :: post) (headerBytes P fk stanzas ++ (nonce ++ c')) = .ok (out, o) ∧
      out <+: pt ∧ (o = .eof → out = pt) ∧
      (c' ≠ Stream.encrypt P.aead C (streamKey P fk nonce) pt → o ≠ .eof) := by
  have hrest : ¬ (nonce ++ c').length < streamNonceSize := by rw [List.length_append]; omega
  refine ⟨(decrypt P.aead C (streamKey P fk nonce) c').1, (decrypt P.aead C (streamKey P fk nonce) c').2, ?_, ?_⟩
  · unfold decryptFile
    rw [decryptInit_header_rest P hP fk stanzas _ hwf hfk pre post id hpre hid]
    simp only [hrest, if_false, List.take_left' hn, List.drop_left' hn]
  · have ht := tamper_prefix P.aead C hC (streamKey P fk nonce) pt c' hlen hlenp hno
    exact ⟨ht.1, ht.2, fun hne => tampered_never_eof P.aead hP.aead C hC (streamKey P fk nonce) pt c' hne hlen hlenp hno⟩

/-- the honest file is `headerBytes ++ nonce ++ payload`: the theorem above is about its tamperings -/
theorem honest_file_shape (P : Prims) (C : Nat) (fk nonce pt : Bytes) (stanzas : List Format.Stanza) :
    specFile P C fk stanzas nonce pt = headerBytes P fk stanzas ++ (nonce ++ Stream.encrypt P.aead C (streamKey P fk nonce) pt) :=
  specFile_eq_header P C fk nonce pt stanzas

/-- no (key, nonce) pair is used twice within a payload: the counter/flag encoding is injective -/
theorem nonce_injective (i j : Nat) (f g : Bool) (hi : i < 2 ^ 88) (hj : j < 2 ^ 88) (h : nonce i f = nonce j g) :
    i = j ∧ f = g := nonce_inj i j f g hi hj h

/-- the reader machine, under every sequence of read sizes, releases exactly what the
    Spec releases and ends with the Spec's error — so all of the above carries over
    to `stream.Reader` (C12 `reader_refines_spec`), and a failed reader keeps failing. -/
theorem reader_carries_over (A : AEAD) (C L : Nat) (hE : 0 < C + A.T) (k c : Bytes)
    (hL : c.length < L) (sizes : List Nat) (hpos : ∀ s ∈ sizes, 0 < s)
    (hlong : (decrypt A C k c).1.length + c.length + 1 < sizes.length) :
    ∃ r', (Reader.new ⟨c, false⟩).drain A C L k sizes = (r', (decrypt A C k c).1, some (decrypt A C k c).2) :=
  Props.C12.reader_refines_spec A C L hE k c false hL sizes hpos hlong

/-- non-vacuity of the no-forgery hypothesis: with the toy AEAD, chunk size 4, the
    honest payload of a 9-byte plaintext opens exactly the three sealed pairs; and a
    payload truncated to its first chunk opens only the first pair. -/
example :
    let c := encrypt AEAD.toy 4 [7] [1, 2, 3, 4, 5, 6, 7, 8, 9]
    (∀ x ∈ openedFrom AEAD.toy 4 [7] 0 c (c.length + 1), x ∈ sealedFrom 4 0 [1, 2, 3, 4, 5, 6, 7, 8, 9] 10) ∧
    (∀ x ∈ openedFrom AEAD.toy 4 [7] 0 (c.take 16) 17, x ∈ sealedFrom 4 0 [1, 2, 3, 4, 5, 6, 7, 8, 9] 10) ∧
    (decrypt AEAD.toy 4 [7] (c.take 16)) = ([1, 2, 3, 4], .truncated) := by
  decide +kernel

/-! ## Non-vacuity: for every theorem above, concrete values meeting all of its hypotheses at once -/

/-- witness values: a 9-byte plaintext; its payload under the toy AEAD in chunks of 4 (three chunks: 16 + 16 + 13 bytes);
    the same with one tag byte of the second chunk changed (offset 30: 1 ↦ 9); and cut after the second chunk -/
def wPt : Bytes := [1, 2, 3, 4, 5, 6, 7, 8, 9]
def wC : Bytes :=
  [1, 2, 3, 4, 0, 0, 0, 0, 0, 0, 0, 0, 0, 0, 0, 0,  5, 6, 7, 8, 0, 0, 0, 0, 0, 0, 0, 0, 0, 0, 1, 0,  9, 0, 0, 0, 0, 0, 0, 0, 0, 0, 0, 2, 1]
def wFlipped : Bytes :=
  [1, 2, 3, 4, 0, 0, 0, 0, 0, 0, 0, 0, 0, 0, 0, 0,  5, 6, 7, 8, 0, 0, 0, 0, 0, 0, 0, 0, 0, 0, 9, 0,  9, 0, 0, 0, 0, 0, 0, 0, 0, 0, 0, 2, 1]
def wCut : Bytes := wC.take 32

/-- non-vacuity of `accepts_only_own_chunking`: toy AEAD, chunks of 4; the 45-byte string `wC` decrypts to the 9-byte
    plaintext with a clean end -/
theorem accepts_only_own_chunking_nonvacuous :
    AEAD.toy.Correct ∧ 0 < 4 ∧ decrypt AEAD.toy 4 [7] wC = (wPt, .eof) :=
  ⟨AEAD.toy_correct, by decide +kernel⟩

example : wC = encrypt AEAD.toy 4 [7] wPt :=
  let ⟨hA, hC, h⟩ := accepts_only_own_chunking_nonvacuous
  accepts_only_own_chunking AEAD.toy hA 4 hC [7] wC wPt h

/-- non-vacuity of `tamper_prefix`: the payload cut after its second chunk (a genuine change: `wCut ≠ wC`); the reader
    opens the first two sealed pairs only, and releases 8 of the 9 bytes -/
theorem tamper_prefix_nonvacuous :
    0 < 4 ∧ wCut.length + 2 < 2 ^ 88 ∧ wPt.length + 2 < 2 ^ 88 ∧
    (∀ x ∈ openedFrom AEAD.toy 4 [7] 0 wCut (wCut.length + 1), x ∈ sealedFrom 4 0 wPt (wPt.length + 1)) ∧
    wCut ≠ encrypt AEAD.toy 4 [7] wPt ∧ decrypt AEAD.toy 4 [7] wCut = ([1, 2, 3, 4, 5, 6, 7, 8], .truncated) := by
  decide +kernel

/-- non-vacuity of `tampered_never_eof`: one tag byte of the second chunk changed; the reader opens the first sealed
    pair only (no forgery), releases 4 bytes and fails to authenticate -/
theorem tampered_never_eof_nonvacuous :
    AEAD.toy.Correct ∧ 0 < 4 ∧ wFlipped ≠ encrypt AEAD.toy 4 [7] wPt ∧
    wFlipped.length + 2 < 2 ^ 88 ∧ wPt.length + 2 < 2 ^ 88 ∧
    (∀ x ∈ openedFrom AEAD.toy 4 [7] 0 wFlipped (wFlipped.length + 1), x ∈ sealedFrom 4 0 wPt (wPt.length + 1)) ∧
    decrypt AEAD.toy 4 [7] wFlipped = ([1, 2, 3, 4], .authFail) :=
  ⟨AEAD.toy_correct, by decide +kernel⟩

/-- non-vacuity of `nonce_injective`: the hypotheses hold (only) for equal counters and flags -/
theorem nonce_injective_nonvacuous : 5 < 2 ^ 88 ∧ 5 < 2 ^ 88 ∧ nonce 5 true = nonce 5 true :=
  ⟨by decide, by decide, rfl⟩

/-- non-vacuity of `reader_carries_over`: toy AEAD, chunks of 4, counter limit 2^88, the tampered 45-byte payload,
    sixty reads of 3 bytes -/
theorem reader_carries_over_nonvacuous :
    0 < 4 + AEAD.toy.T ∧ wFlipped.length < 2 ^ 88 ∧ (∀ s ∈ List.replicate 60 3, 0 < s) ∧
    (decrypt AEAD.toy 4 [7] wFlipped).1.length + wFlipped.length + 1 < (List.replicate 60 3).length := by
  decide +kernel

example : ∃ r', (Reader.new ⟨wFlipped, false⟩).drain AEAD.toy 4 (2 ^ 88) [7] (List.replicate 60 3) =
    (r', [1, 2, 3, 4], some .authFail) :=
  let ⟨hE, hL, hpos, hlong⟩ := reader_carries_over_nonvacuous
  have h := reader_carries_over AEAD.toy 4 (2 ^ 88) hE [7] wFlipped hL _ hpos hlong
  by rwa [tampered_never_eof_nonvacuous.2.2.2.2.2.2] at h

/-- a 16-byte file key, and the two stanzas an ssh-rsa and an X25519 recipient wrap it in under the toy primitives -/
def wFk : Bytes := [1, 2, 3, 4, 5, 6, 7, 8, 9, 10, 11, 12, 13, 14, 15, 16]
def wStanzas : List Format.Stanza :=
  [{ type := tSshRsa, args := [sshTag Prims.toy [1, 2, 3]], body := wFk },
   { type := tX25519, args := [B64.encRaw (List.replicate 32 0)], body := wFk ++ List.replicate 12 0 }]
/-- a passphrase identity and an ssh-ed25519 identity: both answer "incorrect" on `wStanzas` -/
def wPre : List Identity := [Identity.scrypt [112] 22, Identity.sshEd [1] [2]]
def wId : Identity := Identity.x25519 (List.replicate 32 2)

theorem wStanzas_wf : ∀ s ∈ wStanzas, s.WF := by
  intro s hs
  simp only [wStanzas, List.mem_cons, List.mem_nil_iff, or_false] at hs
  rcases hs with rfl | rfl <;> exact ⟨by decide, by decide⟩

/-- non-vacuity of `file_cut_in_nonce`: toy primitives, a two-stanza header, two identities answering "incorrect" before
    the X25519 identity that opens the second stanza, and 5 bytes after the header -/
theorem file_cut_in_nonce_nonvacuous :
    Prims.toy.Correct ∧ (∀ s ∈ wStanzas, s.WF) ∧ wFk ≠ [] ∧
    (∀ i ∈ wPre, i.unwrap Prims.toy wStanzas = .incorrect) ∧ wId.unwrap Prims.toy wStanzas = .key wFk ∧
    ([1, 2, 3, 4, 5] : Bytes).length < streamNonceSize :=
  ⟨Prims.toy_correct, wStanzas_wf, by decide +kernel⟩

example : decryptFile Prims.toy 4 (wPre ++ wId :: []) (headerBytes Prims.toy wFk wStanzas ++ [1, 2, 3, 4, 5]) = .error .nonce :=
  let ⟨hP, hwf, hfk, hpre, hid, hshort⟩ := file_cut_in_nonce_nonvacuous
  file_cut_in_nonce Prims.toy hP wFk wStanzas _ hwf hfk wPre [] wId hpre hid hshort 4

/-- non-vacuity of `file_payload_tamper`: same header and identities, a 16-byte nonce, the 9-byte plaintext in chunks
    of 4, and its payload with one tag byte of the second chunk changed (`wFlipped`) -/
theorem file_payload_tamper_nonvacuous :
    Prims.toy.Correct ∧ 0 < 4 ∧ (∀ s ∈ wStanzas, s.WF) ∧ wFk ≠ [] ∧ (List.replicate 16 (8 : UInt8)).length = streamNonceSize ∧
    (∀ i ∈ wPre, i.unwrap Prims.toy wStanzas = .incorrect) ∧ wId.unwrap Prims.toy wStanzas = .key wFk ∧
    wFlipped.length + 2 < 2 ^ 88 ∧ wPt.length + 2 < 2 ^ 88 ∧
    (∀ x ∈ openedFrom Prims.toy.aead 4 (streamKey Prims.toy wFk (List.replicate 16 8)) 0 wFlipped (wFlipped.length + 1),
      x ∈ sealedFrom 4 0 wPt (wPt.length + 1)) ∧
    wFlipped ≠ Stream.encrypt Prims.toy.aead 4 (streamKey Prims.toy wFk (List.replicate 16 8)) wPt :=
  ⟨Prims.toy_correct, by decide, wStanzas_wf, by decide +kernel⟩

example : ∃ out o, decryptFile Prims.toy 4 (wPre ++ wId :: [])
      (headerBytes Prims.toy wFk wStanzas ++ (List.replicate 16 8 ++ wFlipped)) = .ok (out, o) ∧ out <+: wPt ∧ o ≠ .eof :=
  let ⟨hP, hC, hwf, hfk, hn, hpre, hid, hlen, hlenp, hno, hne⟩ := file_payload_tamper_nonvacuous
  let ⟨out, o, h, hp, _, he⟩ := file_payload_tamper Prims.toy hP 4 hC wFk _ wPt wFlipped wStanzas hwf hfk hn wPre [] wId hpre hid hlen hlenp hno
  ⟨out, o, h, hp, he hne⟩

end Props.C02
end AgeModel
