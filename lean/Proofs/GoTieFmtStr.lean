/-
  Proofs.GoTieFmtStr — internal/format: isValidString and splitArgs as translated are the model's
-/
import AgeModel.GoSem
import AgeModel.Format
import AgeModel.Extracted.Funcs
import Proofs.GoTieRunes
import Proofs.GoTieLines
import Proofs.GoBuf
namespace AgeModel
namespace GoTie
open Extracted

theorem isValidString_loop (rs : List (Int × Int)) :
    format_isValidString_loop1 rs =
      .ok (if rs.any (fun p => decide (p.2 < 33) || decide (p.2 > 126)) then .ret false else .next ()) :=
  searchLoop_eq _ _ _ rfl (fun _ _ => rfl) rs

theorem isValidString_tie (s : Bytes) : format_isValidString s = .ok (Format.validString s) := by
  cases s with
  | nil => rfl
  | cons b rest =>
    have hl : (Go.len (b :: rest) == (0 : Int)) = false := Go.len_beq_zero _
    simp only [format_isValidString, hl, isValidString_loop, runes_any_bad, bind, Except.bind, pure,
      Except.pure, Bool.false_eq_true, if_false]
    have hv : Format.validString (b :: rest) = !(b :: rest).any (fun b => b < 33 || b > 126) := by
      simp only [Format.validString, List.isEmpty_cons, Bool.not_false, Bool.true_and,
        List.all_eq_not_any_not]
      congr 2
      funext c
      have h1 : decide (c < 33) = !decide (33 ≤ c.toNat) := by
        rw [← decide_not]; simp only [decide_eq_decide, UInt8.lt_iff_toNat_lt]; show c.toNat < 33 ↔ _; omega
      have h2 : decide (c > 126) = !decide (c.toNat ≤ 126) := by
        rw [← decide_not]; simp only [decide_eq_decide, gt_iff_lt, UInt8.lt_iff_toNat_lt]; show 126 < c.toNat ↔ _; omega
      rw [h1, h2, Bool.not_and]
    rw [hv]
    cases (b :: rest).any (fun b => b < 33 || b > 126) <;> rfl

theorem splitByte_splitSp : ∀ (l acc : Bytes),
    ∃ h t, Format.splitSp l = h :: t ∧ Go.splitByte 32 acc l = (acc.reverse ++ h) :: t
  | [], acc => ⟨[], [], rfl, by simp [Go.splitByte]⟩
  | c :: cs, acc => by
    by_cases hc : c = 32
    · obtain ⟨h, t, e1, e2⟩ := splitByte_splitSp cs []
      refine ⟨[], h :: t, ?_, ?_⟩
      · simp only [Format.splitSp, Format.sp, hc, if_true, e1]
      · simp only [Go.splitByte, hc, if_true, e2, List.reverse_nil, List.nil_append, List.append_nil]
    · obtain ⟨h, t, e1, e2⟩ := splitByte_splitSp cs (c :: acc)
      refine ⟨c :: h, t, ?_, ?_⟩
      · simp only [Format.splitSp, Format.sp, hc, if_false, e1]
      · simp only [Go.splitByte, hc, if_false, e2, List.reverse_cons, List.append_assoc,
          List.singleton_append]

/-- `splitArgs` on a line as `ReadBytes('\n')` returns it (terminator included): first token, remaining tokens -/
theorem splitArgs_tie (l : Bytes) :
    format_splitArgs (l ++ [Format.nl]) =
      .ok (match Format.splitSp l with
           | h :: t => (h, t)
           | [] => ([], [])) := by
  obtain ⟨h, t, e1, e2⟩ := splitByte_splitSp l []
  simp only [format_splitArgs, trimSuffix_nl, Go.strings_Split1, e1, e2, List.reverse_nil, List.nil_append]
  simp only [bind, Except.bind, Go.idx, Int.lt_irrefl, ↓reduceIte, Int.toNat_zero,
    List.length_cons, Nat.zero_lt_succ, getElem?_pos, List.getElem_cons_zero, Go.slice, Int.zero_le_ofNat, Go.len,
    Int.ofNat_eq_natCast, Int.natCast_add, Int.cast_ofNat_Int, Std.le_refl, and_true, true_and, Int.toNat_one,
    Int.toNat_natCast_add_one, List.take_succ_cons, List.take_length, List.drop_succ_cons, List.drop_zero, pure,
    Except.pure]
  have : (1 : Int) ≤ ↑t.length + 1 := by omega
  rw [if_pos this]


end GoTie
end AgeModel
