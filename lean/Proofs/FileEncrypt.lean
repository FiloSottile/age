/-
  Proofs.FileEncrypt — Encrypt up to the header: what a successful `wrapOne`, `wrapAll` (the recipient loop),
  `encryptHeader` and `encryptFile` have established; at the end, three lemmas that let the kernel check a
  concrete `Except` run.
-/
import Proofs.File
namespace AgeModel
open Format Stream

theorem draw_eq {n : Nat} {t a r : Bytes} (h : draw n t = some (a, r)) : n ≤ t.length ∧ a = t.take n ∧ r = t.drop n := by
  unfold draw at h
  split at h
  · cases h; exact ⟨‹_›, rfl, rfl⟩
  · cases h

theorem draw_spec {n : Nat} {t a r : Bytes} (h : draw n t = some (a, r)) : a.length = n ∧ t = a ++ r := by
  obtain ⟨hn, rfl, rfl⟩ := draw_eq h
  exact ⟨List.length_take_of_le hn, (List.take_append_drop n t).symm⟩

/-- `wrapOne` of X25519, ssh-ed25519 and ssh-rsa each unfolds to this `match`, so this lemma and `draw32_wrap_some` apply to all three. -/
theorem draw32_wrap_ok {w : Bytes → Option Stanza} {tape : Bytes} {res : Option (List Stanza × List Bytes)} {t : Bytes}
    (h : (match draw 32 tape with
          | none => Except.error ()
          | some (eph, t) => Except.ok ((w eph).map fun s => ([s], ([] : List Bytes)), t)) = .ok (res, t)) :
    ∃ eph, draw 32 tape = some (eph, t) ∧ res = (w eph).map fun s => ([s], []) := by
  split at h
  · cases h
  · cases h; exact ⟨_, ‹_›, rfl⟩

theorem draw32_wrap_some {w : Bytes → Option Stanza} {tape : Bytes} {ss : List Stanza} {l : List Bytes} {t : Bytes}
    (h : (match draw 32 tape with
          | none => Except.error ()
          | some (eph, t) => Except.ok ((w eph).map fun s => ([s], ([] : List Bytes)), t)) = .ok (some (ss, l), t)) :
    ∃ eph s, draw 32 tape = some (eph, t) ∧ w eph = some s ∧ ss = [s] ∧ l = [] := by
  obtain ⟨eph, hd, he⟩ := draw32_wrap_ok h
  obtain ⟨s, hs, he⟩ := Option.map_eq_some_iff.mp he.symm
  cases he
  exact ⟨eph, s, hd, hs, rfl, rfl⟩

theorem wrapOne_scrypt_ok {P : Prims} {pw : Bytes} {logN : Nat} {fk tape t : Bytes} {res : Option (List Stanza × List Bytes)}
    (h : wrapOne P (.scrypt pw logN) fk tape = .ok (res, t)) :
    ∃ salt lab t1, draw scryptSaltSize tape = some (salt, t1) ∧ draw 16 t1 = some (lab, t) ∧
      res = some ([wrapScrypt P pw logN salt fk], [hexLower lab]) := by
  simp only [wrapOne] at h
  split at h
  · cases h
  · split at h
    · cases h
    · cases h; exact ⟨_, _, _, ‹_›, ‹_›, rfl⟩

theorem wrapOne_labels_native {P : Prims} {r : Recipient} {fk tape t : Bytes} {ss : List Stanza} {l : List Bytes}
    (hr : (∃ p, r = .x25519 p) ∨ (∃ w m, r = .sshEd w m) ∨ (∃ w p, r = .sshRsa w p))
    (h : wrapOne P r fk tape = .ok (some (ss, l), t)) : l = [] := by
  rcases hr with ⟨_, rfl⟩ | ⟨_, _, rfl⟩ | ⟨_, _, rfl⟩ <;>
    exact (draw32_wrap_some h).elim fun _ ⟨_, _, _, _, hl⟩ => hl

theorem sortLabels_singleton (x : Bytes) : sortLabels [x] = [x] := rfl
theorem sortLabels_nil : sortLabels [] = [] := rfl

/-- a recipient all of whose successful wraps (of a 16-byte file key) are well-formed stanzas -/
def Recipient.ProducesWF (P : Prims) (r : Recipient) : Prop :=
  ∀ fk tape ss l t, fk.length = fileKeySize → wrapOne P r fk tape = .ok (some (ss, l), t) → ∀ s ∈ ss, s.WF

theorem producesWF_x25519 (P : Prims) (hP : P.Correct) (pub : Bytes) : (Recipient.x25519 pub).ProducesWF P := by
  intro fk tape ss l t _ h s hs
  obtain ⟨eph, st, _, hw, rfl, _⟩ := draw32_wrap_some h
  cases List.mem_singleton.mp hs
  exact wrapX25519_wf P hP pub eph fk _ hw

theorem producesWF_sshEd (P : Prims) (hP : P.Correct) (wire mont : Bytes) : (Recipient.sshEd wire mont).ProducesWF P := by
  intro fk tape ss l t _ h s hs
  obtain ⟨eph, st, _, hw, rfl, _⟩ := draw32_wrap_some h
  cases List.mem_singleton.mp hs
  exact wrapSshEd_wf P hP wire mont eph fk _ hw

theorem producesWF_sshRsa (P : Prims) (hP : P.Correct) (wire pub : Bytes) : (Recipient.sshRsa wire pub).ProducesWF P := by
  intro fk tape ss l t _ h s hs
  obtain ⟨seed, st, _, hw, rfl, _⟩ := draw32_wrap_some h
  cases List.mem_singleton.mp hs
  exact wrapSshRsa_wf P hP wire pub seed fk _ hw

theorem producesWF_scrypt (P : Prims) (pw : Bytes) (logN : Nat) (h1 : 1 ≤ logN) (h30 : logN ≤ 30) :
    (Recipient.scrypt pw logN).ProducesWF P := by
  intro fk tape ss l t _ h s hs
  obtain ⟨salt, lab, t1, hd, _, he⟩ := wrapOne_scrypt_ok h
  cases he
  cases List.mem_singleton.mp hs
  exact wrapScrypt_wf P pw salt fk logN h1 h30 (draw_spec hd).1

theorem wrapAll_cons_ok {P : Prims} {fk : Bytes} {r : Recipient} {rs : List Recipient} {i : Nat} {tape : Bytes}
    {acc : List Stanza} {labels : Option (List Bytes)} {st : List Stanza} {t' : Bytes}
    (h : wrapAll P fk (r :: rs) i tape acc labels = .ok (st, t')) :
    ∃ ss l tape', wrapOne P r fk tape = .ok (some (ss, l), tape') ∧ (∀ l0, labels = some l0 → l0 = sortLabels l) ∧
      wrapAll P fk rs (i+1) tape' (acc ++ ss) (some (sortLabels l)) = .ok (st, t') := by
  unfold wrapAll at h
  split at h
  · cases h
  · cases h
  · rename_i ss l tape' hw
    refine ⟨ss, l, tape', hw, ?_⟩
    cases labels with
    | none => exact ⟨fun _ h0 => (nomatch h0), h⟩
    | some l0 =>
      simp only at h
      split at h
      · rename_i heq; subst heq; exact ⟨fun _ h0 => (Option.some.inj h0).symm, h⟩
      · cases h

theorem wrapAll_wf (P : Prims) (fk : Bytes) (hfk : fk.length = fileKeySize) :
    ∀ (rs : List Recipient) (i : Nat) (tape : Bytes) (acc : List Stanza) (labels : Option (List Bytes))
      (st : List Stanza) (t' : Bytes),
      (∀ r ∈ rs, r.ProducesWF P) → (∀ s ∈ acc, s.WF) →
      wrapAll P fk rs i tape acc labels = .ok (st, t') → ∀ s ∈ st, s.WF := by
  intro rs
  induction rs with
  | nil =>
    intro i tape acc labels st t' _ hacc h
    cases h; exact hacc
  | cons r rs ih =>
    intro i tape acc labels st t' hrs hacc h
    obtain ⟨ss, l, tape', hw, _, h'⟩ := wrapAll_cons_ok h
    refine ih _ _ _ _ _ _ (fun x hx => hrs x (List.mem_cons_of_mem _ hx)) (fun s hs => ?_) h'
    exact (List.mem_append.mp hs).elim (hacc s) (hrs r List.mem_cons_self fk tape ss l tape' hfk hw s)

theorem wrapAll_extends (P : Prims) (fk : Bytes) :
    ∀ (rs : List Recipient) (i : Nat) (tape : Bytes) (acc : List Stanza) (labels : Option (List Bytes))
      (st : List Stanza) (t' : Bytes), wrapAll P fk rs i tape acc labels = .ok (st, t') → ∃ rest, st = acc ++ rest := by
  intro rs
  induction rs with
  | nil => intro i tape acc labels st t' h; cases h; exact ⟨[], (List.append_nil _).symm⟩
  | cons r rs ih =>
    intro i tape acc labels st t' h
    obtain ⟨ss, _, _, _, _, h'⟩ := wrapAll_cons_ok h
    obtain ⟨rest, hr⟩ := ih _ _ _ _ _ _ h'
    exact ⟨ss ++ rest, by rw [hr, List.append_assoc]⟩

/-- where in the header the stanzas of recipient number `rs1.length` end up:
    after stanzas that all come from the recipients listed before it -/
theorem wrapAll_split (P : Prims) (fk : Bytes) :
    ∀ (rs1 : List Recipient) (r : Recipient) (rs2 : List Recipient) (i : Nat) (tape : Bytes) (acc : List Stanza)
      (labels : Option (List Bytes)) (st : List Stanza) (t' : Bytes),
      wrapAll P fk (rs1 ++ r :: rs2) i tape acc labels = .ok (st, t') →
      ∃ before after ss l tapeR tapeR', st = acc ++ before ++ ss ++ after ∧
        wrapOne P r fk tapeR = .ok (some (ss, l), tapeR') ∧
        ∀ s ∈ before, ∃ r' ∈ rs1, ∃ tp ss' l' t, wrapOne P r' fk tp = .ok (some (ss', l'), t) ∧ s ∈ ss' := by
  intro rs1
  induction rs1 with
  | nil =>
    intro r rs2 i tape acc labels st t' h
    obtain ⟨ss, l, tape', hw, _, h'⟩ := wrapAll_cons_ok h
    obtain ⟨rest, hr⟩ := wrapAll_extends P fk _ _ _ _ _ _ _ h'
    exact ⟨[], rest, ss, l, tape, tape', by rw [hr, List.append_nil], hw, nofun⟩
  | cons r1 rs1 ih =>
    intro r rs2 i tape acc labels st t' h
    obtain ⟨ss1, l1, tape1, hw1, _, h'⟩ := wrapAll_cons_ok h
    obtain ⟨before, after, ss, l, tR, tR', hst, hw, hb⟩ := ih r rs2 _ _ _ _ _ _ h'
    refine ⟨ss1 ++ before, after, ss, l, tR, tR', by rw [hst, List.append_assoc acc], hw, fun s hs => ?_⟩
    rcases List.mem_append.mp hs with hs | hs
    · exact ⟨r1, List.mem_cons_self, tape, ss1, l1, tape1, hw1, hs⟩
    · obtain ⟨r', hr', rest'⟩ := hb s hs
      exact ⟨r', List.mem_cons_of_mem _ hr', rest'⟩

theorem encryptHeader_fk {P : Prims} {tape : Bytes} {rs : List Recipient} {fk : Bytes} {st : List Stanza} {t' : Bytes}
    (h : encryptHeader P tape rs = .ok (fk, st, t')) :
    fk.length = fileKeySize ∧ ∃ t, draw fileKeySize tape = some (fk, t) ∧ wrapAll P fk rs 0 t [] none = .ok (st, t') := by
  unfold encryptHeader at h
  split at h
  · cases h
  · split at h
    · cases h
    · rename_i fk0 t hd
      split at h
      · cases h
      · rename_i st0 t0 hw
        cases h
        exact ⟨(draw_spec hd).1, t, hd, hw⟩

theorem encryptFile_ok {P : Prims} {C : Nat} {tape : Bytes} {rs : List Recipient} {pt file : Bytes}
    (h : encryptFile P C tape rs pt = .ok file) :
    ∃ fk stanzas t nonce t', encryptHeader P tape rs = .ok (fk, stanzas, t) ∧
      draw streamNonceSize t = some (nonce, t') ∧ file = specFile P C fk stanzas nonce pt := by
  unfold encryptFile at h
  cases hh : encryptHeader P tape rs with
  | error e => rw [hh] at h; cases h
  | ok v =>
    obtain ⟨fk, stanzas, t⟩ := v
    cases hd : draw streamNonceSize t with
    | none => simp only [hh, hd] at h; cases h
    | some x => simp only [hh, hd] at h; cases h; exact ⟨fk, stanzas, t, x.1, x.2, rfl, hd, rfl⟩

/-- For a concrete run this leaves `isSome` to evaluate, and the value need not be written out. -/
theorem eq_ok_of_isSome {ε α : Type} {x : Except ε α} (d : α) (h : x.toOption.isSome = true) :
    x = .ok (x.toOption.getD d) := by
  cases x with
  | error _ => cases h
  | ok _ => rfl

/-- the same for a triple, with the components named, so that three existential witnesses are found without evaluating -/
theorem eq_ok_triple {ε α β γ : Type} {x : Except ε (α × β × γ)} (d : α × β × γ) (h : x.toOption.isSome = true) :
    x = .ok ((x.toOption.getD d).1, (x.toOption.getD d).2.1, (x.toOption.getD d).2.2) :=
  eq_ok_of_isSome d h

theorem eq_error_of {ε α : Type} {x : Except ε α} {e : ε}
    (h : (match x with | .error e' => some e' | .ok _ => none) = some e) : x = .error e := by
  cases x with
  | error _ => cases h; rfl
  | ok _ => cases h

end AgeModel
