/-
  Proofs.DecodeRune — the UTF-8 decoder of GoSem (`Go.decodeRune`) by cases: the lead-byte classes with the
  conditions the decoder tested, and what follows from them about the width and the value of the rune.
-/
import AgeModel.GoSem
namespace AgeModel
namespace GoTie

theorem decodeRune_ascii (b : UInt8) (rest : List UInt8) (h : b.toNat < 0x80) :
    Go.decodeRune (b :: rest) = (Int.ofNat b.toNat, 1) :=
  if_pos h

/-- `decodeRune`'s window for the second byte — a continuation byte, narrowed for two lead bytes — as plain bounds -/
theorem second_byte {p q : Prop} [Decidable p] [Decidable q] {x lo hi : Nat} (hlo : 0x80 ≤ lo) (hhi : hi ≤ 0xBF)
    (h : (if p then lo else 0x80) ≤ x ∧ x ≤ (if q then hi else 0xBF)) :
    0x80 ≤ x ∧ x ≤ 0xBF ∧ (p → lo ≤ x) ∧ (q → x ≤ hi) := by
  refine ⟨Nat.le_trans ?_ h.1, Nat.le_trans h.2 ?_, fun hp => ?_, fun hq => ?_⟩
  · split
    · exact hlo
    · exact Nat.le_refl _
  · split
    · exact hhi
    · exact Nat.le_refl _
  · simpa only [if_pos hp] using h.1
  · simpa only [if_pos hq] using h.2

/-- Each case comes with the conditions the decoder tested; for three and four bytes the narrower window of the
    second byte is what excludes overlong forms, surrogates and values beyond U+10FFFF. -/
theorem decodeRune_cases {P : Int × Nat → Prop} (b0 : UInt8) (rest : List UInt8)
    (bad : P (0xFFFD, 1))
    (one : b0.toNat < 0x80 → P (Int.ofNat b0.toNat, 1))
    (two : ∀ b1 r, rest = b1 :: r → 0xC2 ≤ b0.toNat → b0.toNat < 0xE0 → Go.isCont b1 = true →
      P (Int.ofNat (b0.toNat % 32 * 64 + b1.toNat % 64), 2))
    (three : ∀ b1 b2 r, rest = b1 :: b2 :: r → 0xE0 ≤ b0.toNat → b0.toNat < 0xF0 →
      0x80 ≤ b1.toNat ∧ b1.toNat ≤ 0xBF ∧ (b0.toNat = 0xE0 → 0xA0 ≤ b1.toNat) ∧ (b0.toNat = 0xED → b1.toNat ≤ 0x9F) →
      Go.isCont b2 = true →
      P (Int.ofNat (b0.toNat % 16 * 4096 + b1.toNat % 64 * 64 + b2.toNat % 64), 3))
    (four : ∀ b1 b2 b3 r, rest = b1 :: b2 :: b3 :: r → 0xF0 ≤ b0.toNat → b0.toNat < 0xF5 →
      0x80 ≤ b1.toNat ∧ b1.toNat ≤ 0xBF ∧ (b0.toNat = 0xF0 → 0x90 ≤ b1.toNat) ∧ (b0.toNat = 0xF4 → b1.toNat ≤ 0x8F) →
      Go.isCont b2 = true → Go.isCont b3 = true →
      P (Int.ofNat (b0.toNat % 8 * 262144 + b1.toNat % 64 * 4096 + b2.toNat % 64 * 64 + b3.toNat % 64), 4)) :
    P (Go.decodeRune (b0 :: rest)) := by
  unfold Go.decodeRune
  dsimp only
  refine iteInduction one fun _ => iteInduction (fun _ => bad) fun h2 => iteInduction (fun h3 => ?_) fun h3 =>
    iteInduction (fun h4 => ?_) fun h4 => iteInduction (fun h5 => ?_) fun _ => bad
  · match rest with
    | [] => exact bad
    | b1 :: r => exact iteInduction (two b1 r rfl (Nat.le_of_not_lt h2) h3) fun _ => bad
  · match rest with
    | [] | [_] => exact bad
    | b1 :: b2 :: r =>
      exact iteInduction (fun hc => three b1 b2 r rfl (Nat.le_of_not_lt h3) h4
        (second_byte (by decide) (by decide) ⟨hc.1, hc.2.1⟩) hc.2.2) fun _ => bad
  · match rest with
    | [] | [_] | [_, _] => exact bad
    | b1 :: b2 :: b3 :: r =>
      exact iteInduction (fun hc => four b1 b2 b3 r rfl (Nat.le_of_not_lt h4) h5
        (second_byte (by decide) (by decide) ⟨hc.1, hc.2.1⟩) hc.2.2.1 hc.2.2.2) fun _ => bad

theorem decodeRune_width (l : List UInt8) : 1 ≤ (Go.decodeRune l).2 := by
  cases l with
  | nil => exact Nat.le_refl 1
  | cons b rest =>
    apply decodeRune_cases (P := fun d => 1 ≤ d.2) b rest <;> intros <;> exact Nat.succ_pos _

theorem decodeRune_nonascii (b : UInt8) (rest : List UInt8) (h : 0x80 ≤ b.toNat) :
    0x80 ≤ (Go.decodeRune (b :: rest)).1 := by
  apply decodeRune_cases (P := fun d => 0x80 ≤ d.1) b rest
  · decide
  · omega
  -- the lead byte alone, or with the narrowed second byte, puts the value past the shorter forms
  · intro b1 _ _ h2 h3 _
    exact Int.ofNat_le.mpr (show 128 ≤ _ by omega)
  · intro b1 b2 _ _ h3 h4 hb1 _
    exact Int.ofNat_le.mpr (show 128 ≤ _ by omega)
  · intro b1 b2 b3 _ _ h4 h5 hb1 _ _
    exact Int.ofNat_le.mpr (show 128 ≤ _ by omega)

end GoTie
end AgeModel
