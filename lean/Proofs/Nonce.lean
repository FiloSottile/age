/-
  Proofs.Nonce — the chunk nonce is injective in (counter, flag) for counters below 2^88; a later counter gives
  another nonce.
-/
import AgeModel.Stream
namespace AgeModel

theorem ofBe_append_single : ∀ (l : Bytes) (x : UInt8), ofBe (l ++ [x]) = ofBe l * 256 + x.toNat
  | [], x => by simp [ofBe]
  | y :: ys, x => by
    simp only [List.cons_append, ofBe, List.length_append, List.length_cons, List.length_nil, ofBe_append_single ys x]
    rw [Nat.pow_succ, Nat.add_mul, Nat.mul_assoc]
    omega

theorem ofBe_be : ∀ (w n : Nat), ofBe (be w n) = n % 256 ^ w
  | 0, n => by simp [be, ofBe, Nat.mod_one]
  | w+1, n => by
    simp only [be, ofBe_append_single, ofBe_be w (n / 256)]
    have h : (n % 256).toUInt8.toNat = n % 256 := by
      simp [Nat.toUInt8, UInt8.ofNat, UInt8.toNat]
    rw [h, Nat.pow_succ, Nat.mul_comm (256 ^ w) 256, Nat.mod_mul]
    omega

theorem be_inj (w a b : Nat) (ha : a < 256 ^ w) (hb : b < 256 ^ w) (h : be w a = be w b) : a = b := by
  have := congrArg ofBe h
  rw [ofBe_be, ofBe_be, Nat.mod_eq_of_lt ha, Nat.mod_eq_of_lt hb] at this
  exact this

namespace Stream

theorem nonce_inj (i j : Nat) (f g : Bool) (hi : i < 2 ^ 88) (hj : j < 2 ^ 88) (h : nonce i f = nonce j g) :
    i = j ∧ f = g := by
  unfold nonce at h
  have hl : (be 11 i).length = (be 11 j).length := by rw [be_length, be_length]
  have := List.append_inj h hl
  have e : (256 : Nat) ^ 11 = 2 ^ 88 := by decide
  refine ⟨be_inj 11 i j (by rw [e]; exact hi) (by rw [e]; exact hj) this.1, ?_⟩
  have h2 := this.2
  simp only [List.cons.injEq, and_true] at h2
  cases f <;> cases g <;> simp_all

theorem nonce_ne_of_lt {i j : Nat} (f g : Bool) (hij : i < j) (hj : j < 2 ^ 88) : nonce i f ≠ nonce j g :=
  fun e => Nat.ne_of_lt hij (nonce_inj i j f g (Nat.lt_trans hij hj) hj e).1

end Stream
end AgeModel
