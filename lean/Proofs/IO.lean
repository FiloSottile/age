/-
  Proofs.IO — `io.ReadFull` over any delivery schedule returns what depends only on
  the concatenation of the pieces and the kind of end, and leaves a source whose
  remaining bytes are the rest of that concatenation.
-/
import AgeModel.IO
namespace AgeModel
namespace IO

theorem ite_mid {α β γ : Type} (c : Prop) [Decidable c] (a : α) (x y : β) (s : γ) :
    (if c then (a, x, s) else (a, y, s)) = (a, (if c then x else y), s) := by
  split <;> rfl

/-- the general statement, for a call that already holds `got` -/
theorem readFull_gen (n : Nat) (fail : Bool) : ∀ (ps : List Bytes) (got last : Bytes),
    let D := ps.flatten ++ last
    let r := readFull n fail got ps last
    r.1 = got ++ D.take (n - got.length) ∧
    r.2.1 = (if n ≤ got.length + D.length then Status.ok else if fail then .err
             else if (got ++ D).isEmpty then .eof else .unexpectedEOF) ∧
    r.2.2.flat = D.drop (n - got.length) ∧ r.2.2.fail = fail := by
  intro ps
  induction ps with
  | nil =>
    intro got last
    simp only [List.flatten_nil, List.nil_append]
    unfold readFull
    by_cases h1 : n ≤ got.length
    · rw [if_pos h1, Nat.sub_eq_zero_of_le h1, List.take_zero, List.append_nil, if_pos (by omega)]
      exact ⟨rfl, rfl, rfl, rfl⟩
    rw [if_neg h1]
    by_cases h2 : n - got.length < last.length
    · rw [if_pos h2, if_pos (by omega)]
      exact ⟨rfl, rfl, rfl, rfl⟩
    · -- the last piece arrives with the end condition: the four endings differ only in the status, which is
      -- the `if` chain of the statement
      rw [if_neg h2]
      simp only
      rw [ite_mid, ite_mid, ite_mid, List.take_of_length_le (by omega), List.drop_of_length_le (by omega),
        List.length_append]
      exact ⟨rfl, rfl, rfl, rfl⟩
  | cons p ps ih =>
    intro got last
    simp only [List.flatten_cons, List.append_assoc]
    unfold readFull
    by_cases h1 : n ≤ got.length
    · rw [if_pos h1, Nat.sub_eq_zero_of_le h1, List.take_zero, List.append_nil, List.drop_zero, if_pos (by omega)]
      exact ⟨rfl, rfl, by simp only [Sched.flat, List.flatten_cons, List.append_assoc], rfl⟩
    rw [if_neg h1]
    by_cases h2 : p.length ≤ n - got.length
    · -- the whole piece fits: the call goes on holding `got ++ p`
      rw [if_pos h2]
      obtain ⟨a, b, c, d⟩ := ih (got ++ p) last
      have hsub : n - (got ++ p).length = n - got.length - p.length := by rw [List.length_append]; omega
      refine ⟨?_, ?_, ?_, d⟩
      · rw [a, hsub, List.append_assoc, List.take_append (l₁ := p), List.take_of_length_le h2]
      · rw [b, List.length_append, List.length_append (as := p), List.append_assoc, Nat.add_assoc]
      · rw [c, hsub, List.drop_append (l₁ := p), List.drop_of_length_le h2, List.nil_append]
    · rw [if_neg h2, if_pos (by rw [List.length_append]; omega), List.take_append_of_le_length (by omega),
        List.drop_append_of_le_length (by omega)]
      exact ⟨rfl, rfl, by simp only [Sched.flat, List.flatten_cons, List.append_assoc], rfl⟩

theorem readFull_spec (n : Nat) (s : Sched) :
    let r := readFull n s.fail [] s.pieces s.last
    (r.1, r.2.1) = readFullSpec n s.flat s.fail ∧ r.2.2.flat = s.flat.drop n ∧ r.2.2.fail = s.fail := by
  have h := readFull_gen n s.fail s.pieces [] s.last
  simp only [List.length_nil, Nat.sub_zero, List.nil_append, Nat.zero_add] at h
  obtain ⟨a, b, c, d⟩ := h
  refine ⟨?_, c, d⟩
  unfold readFullSpec Sched.flat
  rw [a, b]
  by_cases h1 : n ≤ (s.pieces.flatten ++ s.last).length
  · rw [if_pos h1, if_pos h1]
  · rw [if_neg h1, if_neg h1, ← apply_ite (Prod.mk _), ← apply_ite (Prod.mk _), List.take_of_length_le (by omega)]

/-- two schedules that deliver the same bytes and end alike are indistinguishable to `io.ReadFull`,
    and remain so afterwards -/
theorem readFull_schedule_irrelevant (n : Nat) (s t : Sched) (hd : s.flat = t.flat) (hf : s.fail = t.fail) :
    let r := readFull n s.fail [] s.pieces s.last
    let q := readFull n t.fail [] t.pieces t.last
    r.1 = q.1 ∧ r.2.1 = q.2.1 ∧ r.2.2.flat = q.2.2.flat ∧ r.2.2.fail = q.2.2.fail := by
  obtain ⟨a1, b1, c1⟩ := readFull_spec n s
  obtain ⟨a2, b2, c2⟩ := readFull_spec n t
  simp only at a1 a2 b1 b2 c1 c2 ⊢
  have e : readFullSpec n s.flat s.fail = readFullSpec n t.flat t.fail := by rw [hd, hf]
  rw [e, ← a2] at a1
  simp only [Prod.mk.injEq] at a1
  exact ⟨a1.1, a1.2, by rw [b1, b2, hd], by rw [c1, c2, hf]⟩

end IO
end AgeModel
