/-
  Proofs.GoTieBech32 — the arithmetic kernel of internal/bech32, as TRANSLATED from
  the Go source (AgeModel/Extracted/Funcs.lean, regenerated on every run), computes
  what the hand-written model (AgeModel/Bech32.lean) computes — for ALL inputs.
-/
import AgeModel.GoSem
import AgeModel.Bech32
import AgeModel.Extracted.Funcs
import Proofs.Bech32Poly
import Proofs.GoBind
import Proofs.GoTieRunes
namespace AgeModel
namespace GoTie
open Extracted

/-- the Go error value `convertBits` returns for each error class of the model; `Bech32.convertBits` returns no
    other class, so the last arm is never reached -/
def cbErr : Bech32.Err → Option Go.Err
  | .badRange => some ⟨"bech32.convertBits", 0, []⟩
  | .badPaddingIllegal => some ⟨"bech32.convertBits", 1, []⟩
  | .badPaddingNonZero => some ⟨"bech32.convertBits", 2, []⟩
  | _ => some ⟨"unreachable", 0, []⟩

def cbRes : Except Bech32.Err Bytes → Go.M (List UInt8 × Option Go.Err)
  | .ok r => .ok (r, none)
  | .error e => .ok ([], cbErr e)

theorem rangeUp05 : Go.rangeUp 0 5 = [0,1,2,3,4] := by decide

def feedU (top : UInt32) (i : Nat) (g : UInt32) (chk : UInt32) : UInt32 :=
  if (Go.shrU32 top i &&& 1) == 1 then chk ^^^ g else chk

theorem polymod_loop2_cons (top chk : UInt32) (i : Int) (rest : List Int) (g : UInt32) (hi : ¬ i < 0)
    (hg : Go.idx bech32_generator i = .ok g) :
    bech32_polymod_loop2 top (i :: rest) chk = bech32_polymod_loop2 top rest (feedU top i.toNat g chk) := by
  simp only [bech32_polymod_loop2, Go.shiftCount, hi, if_false, hg, Go.bind_ok, feedU]
  split <;> rfl

theorem polymod_loop2_eq (top chk : UInt32) :
    bech32_polymod_loop2 top [0,1,2,3,4] chk = .ok (.next
      (feedU top 4 705979059 (feedU top 3 1027748829 (feedU top 2 513874426 (feedU top 1 642813549 (feedU top 0 996825010 chk)))))) := by
  rw [polymod_loop2_cons top _ 0 _ 996825010 (by decide) rfl, polymod_loop2_cons top _ 1 _ 642813549 (by decide) rfl,
    polymod_loop2_cons top _ 2 _ 513874426 (by decide) rfl, polymod_loop2_cons top _ 3 _ 1027748829 (by decide) rfl,
    polymod_loop2_cons top _ 4 _ 705979059 (by decide) rfl]
  rfl

def stepU (chk : UInt32) (v : UInt8) : UInt32 :=
  let top := Go.shrU32 chk 25
  let c := Go.shlU32 (chk &&& (33554431 : UInt32)) 5 ^^^ v.toUInt32
  feedU top 4 705979059 (feedU top 3 1027748829 (feedU top 2 513874426 (feedU top 1 642813549 (feedU top 0 996825010 c))))

theorem polymod_loop1_eq : ∀ (vs : List UInt8) (chk : UInt32),
    bech32_polymod_loop1 vs chk = .ok (.next (vs.foldl stepU chk))
  | [], chk => rfl
  | v :: vs, chk => by
    simp only [bech32_polymod_loop1, rangeUp05, polymod_loop2_eq, Go.bind_ok, List.foldl_cons]
    exact polymod_loop1_eq vs _

theorem shrU32_toNat (x : UInt32) (n : Nat) : (Go.shrU32 x n).toNat = x.toNat >>> n := by
  simp only [Go.shrU32, UInt32.toNat_ofNat']
  apply Nat.mod_eq_of_lt
  exact Nat.lt_of_le_of_lt (Nat.shiftRight_le _ _) x.toNat_lt

theorem shlU32_toNat (x : UInt32) (n : Nat) : (Go.shlU32 x n).toNat = (x.toNat <<< n) % 2 ^ 32 := by
  rw [Go.shlU32, UInt32.toNat_ofNat']
  exact Nat.mod_mod _ _

theorem toUInt8_and (x : UInt32) (m : UInt8) : x.toUInt8 &&& m = (x.toNat % 256 &&& m.toNat).toUInt8 := by
  apply UInt8.toNat_inj.mp
  rw [UInt8.toNat_and, UInt32.toNat_toUInt8, Nat.toUInt8, UInt8.toNat_ofNat']
  exact (Nat.mod_eq_of_lt (Nat.lt_of_le_of_lt Nat.and_le_right m.toNat_lt)).symm

theorem feedU_toNat (top : UInt32) (i : Nat) (g c : UInt32) :
    (feedU top i g c).toNat = Bech32.feed top.toNat i g.toNat c.toNat := by
  unfold feedU Bech32.feed
  have : ((Go.shrU32 top i &&& 1) == 1) = decide (top.toNat >>> i &&& 1 = 1) := by
    rw [Bool.eq_iff_iff]
    simp only [beq_iff_eq, decide_eq_true_eq, ← UInt32.toNat_inj, UInt32.toNat_and, shrU32_toNat]
    rfl
  rw [this]
  by_cases h : top.toNat >>> i &&& 1 = 1
  · simp only [h, decide_true, ↓reduceIte, UInt32.toNat_xor]
  · simp only [h, decide_false, Bool.false_eq_true, ↓reduceIte]

theorem stepU_toNat (chk : UInt32) (v : UInt8) : (stepU chk v).toNat = Bech32.polymodStep chk.toNat v := by
  simp only [stepU, Bech32.polymodStep, feedU_toNat, shrU32_toNat, UInt32.toNat_xor, UInt8.toNat_toUInt32]
  have : (Go.shlU32 (chk &&& 33554431) 5).toNat = (chk.toNat &&& 0x1ffffff) <<< 5 := by
    simp only [Go.shlU32, UInt32.toNat_ofNat', UInt32.toNat_and]
    have h : chk.toNat &&& 33554431 ≤ 33554431 := Nat.and_le_right
    have e : (33554431 : UInt32).toNat = 33554431 := rfl
    rw [e, Nat.shiftLeft_eq]
    omega
  rw [this]
  rfl

theorem foldl_stepU_toNat : ∀ (vs : List UInt8) (chk : UInt32),
    (vs.foldl stepU chk).toNat = vs.foldl Bech32.polymodStep chk.toNat
  | [], _ => rfl
  | v :: vs, chk => by
    rw [List.foldl_cons, List.foldl_cons, foldl_stepU_toNat vs, stepU_toNat]

theorem toNat_ofNat_polymod (vs : Bytes) : (UInt32.ofNat (Bech32.polymod vs)).toNat = Bech32.polymod vs := by
  rw [UInt32.toNat_ofNat']
  exact Nat.mod_eq_of_lt (Nat.lt_trans (Bech32.polymod_lt vs) (by decide))

theorem polymod_tie (vs : Bytes) : bech32_polymod vs = .ok (UInt32.ofNat (Bech32.polymod vs)) := by
  simp only [bech32_polymod, pure, Except.pure, polymod_loop1_eq, Go.bind_ok]
  congr 1
  apply UInt32.toNat_inj.mp
  rw [foldl_stepU_toNat, toNat_ofNat_polymod]
  rfl

theorem shrU8_toNat (x : UInt8) (n : Nat) : (Go.shrU8 x n).toNat = x.toNat >>> n := by
  simp only [Go.shrU8, UInt8.toNat_ofNat']
  apply Nat.mod_eq_of_lt
  exact Nat.lt_of_le_of_lt (Nat.shiftRight_le _ _) x.toNat_lt

theorem shrU8_5 (c : UInt8) : Go.shrU8 c 5 = c >>> 5 := by
  apply UInt8.toNat_inj.mp
  rw [shrU8_toNat, UInt8.toNat_shiftRight]
  rfl

theorem lowerByte_eq : Go.lowerByte = Bech32.lowerByte := rfl

theorem hrpExpand_tie (hrp : Bytes) (h : Go.isAscii hrp = true) :
    bech32_hrpExpand hrp = .ok (Bech32.hrpExpand hrp) := by
  simp only [bech32_hrpExpand, pure, Except.pure, Go.bind_ok, Go.strings_ToLower, h,
    mapLoop_eq (Go.shrU8 · 5) bech32_hrpExpand_loop1 (fun _ => rfl) (fun _ _ _ => rfl),
    mapLoop_eq (· &&& 31) bech32_hrpExpand_loop2 (fun _ => rfl) (fun _ _ _ => rfl),
    if_true, Bech32.hrpExpand, Bech32.toLower, lowerByte_eq, List.nil_append, shrU8_5]

theorem verifyChecksum_tie (hrp data : Bytes) (h : Go.isAscii hrp = true) :
    bech32_verifyChecksum hrp data = .ok (Bech32.verifyChecksum hrp data) := by
  simp only [bech32_verifyChecksum, pure, Except.pure, hrpExpand_tie hrp h, polymod_tie, Go.bind_ok,
    Bech32.verifyChecksum]
  refine congrArg Except.ok ?_
  rw [Bool.eq_iff_iff, beq_iff_eq, beq_iff_eq, ← UInt32.toNat_inj, toNat_ofNat_polymod]
  rfl

theorem shrU32_toUInt8_and (a : UInt32) (k : Nat) (m : UInt8) :
    (Go.shrU32 a k).toUInt8 &&& m = ((a.toNat >>> k) % 256 &&& m.toNat).toUInt8 := by
  rw [toUInt8_and, shrU32_toNat]

theorem cc_loop1_cons (m : UInt32) (p : Int) (rest : List Int) (ret : List UInt8) (k : Nat)
    (hk : Go.shiftCount (5 * (5 - p)) = .ok k) (hp : 0 ≤ p ∧ p.toNat < ret.length) :
    bech32_createChecksum_loop1 m (p :: rest) ret =
      bech32_createChecksum_loop1 m rest (ret.set p.toNat ((Go.shrU32 m k).toUInt8 &&& 31)) := by
  simp only [bech32_createChecksum_loop1, hk, Go.set, hp, and_self, if_true, Go.bind_ok]

theorem cc_loop1_eq (m : UInt32) :
    bech32_createChecksum_loop1 m [0, 1, 2, 3, 4, 5] [0, 0, 0, 0, 0, 0] = .ok (.next
      [(Go.shrU32 m 25).toUInt8 &&& 31, (Go.shrU32 m 20).toUInt8 &&& 31, (Go.shrU32 m 15).toUInt8 &&& 31,
       (Go.shrU32 m 10).toUInt8 &&& 31, (Go.shrU32 m 5).toUInt8 &&& 31, (Go.shrU32 m 0).toUInt8 &&& 31]) := by
  rw [cc_loop1_cons m 0 _ _ 25 rfl (by simp), cc_loop1_cons m 1 _ _ 20 rfl (by simp),
    cc_loop1_cons m 2 _ _ 15 rfl (by simp), cc_loop1_cons m 3 _ _ 10 rfl (by simp),
    cc_loop1_cons m 4 _ _ 5 rfl (by simp), cc_loop1_cons m 5 _ _ 0 rfl (by simp)]
  rfl

theorem rangeUp06 : Go.rangeUp 0 (Go.len ([0, 0, 0, 0, 0, 0] : List UInt8)) = [0,1,2,3,4,5] := by decide

theorem createChecksum_tie (hrp data : Bytes) (h : Go.isAscii hrp = true) :
    bech32_createChecksum hrp data = .ok (Bech32.createChecksum hrp data) := by
  have hmk : Go.makeList (0 : UInt8) 6 = .ok [0, 0, 0, 0, 0, 0] := rfl
  simp only [bech32_createChecksum, pure, Except.pure, hrpExpand_tie hrp h, polymod_tie, Go.bind_ok,
    hmk, rangeUp06, cc_loop1_eq, shrU32_toUInt8_and, Bech32.createChecksum, List.map_cons, List.map_nil]
  rw [UInt32.toNat_xor, toNat_ofNat_polymod]
  rfl

theorem cb_loop2_succ (t : UInt8) (acc : UInt32) (m : UInt8) (fuel : Nat) (ret : List UInt8) (bits : UInt8) :
    bech32_convertBits_loop2 t acc m (fuel + 1) ret bits =
      if bits ≥ t then
        bech32_convertBits_loop2 t acc m fuel (ret ++ [((Go.shrU32 acc (bits - t).toNat).toUInt8 &&& m)]) (bits - t)
      else .ok (.next (ret, bits)) := by
  simp only [bech32_convertBits_loop2, pure, Except.pure]
  by_cases h : bits ≥ t <;> simp [h]

theorem cb_loop2_eq (t : UInt8) (acc : UInt32) (m : UInt8) (ht : 1 ≤ t.toNat) :
    ∀ (fuelG fuelM : Nat) (ret : List UInt8) (bits : UInt8), bits.toNat < fuelG → bits.toNat ≤ fuelM →
      ∃ b : UInt8, b.toNat = (Bech32.drain acc.toNat t.toNat m.toNat fuelM bits.toNat ret).1 ∧ b.toNat < t.toNat ∧
        bech32_convertBits_loop2 t acc m fuelG ret bits =
          .ok (.next ((Bech32.drain acc.toNat t.toNat m.toNat fuelM bits.toNat ret).2, b))
  | 0, _, _, _, h, _ => by omega
  | fuelG + 1, fuelM, ret, bits, hG, hM => by
    rw [cb_loop2_succ]
    by_cases hb : bits ≥ t
    · have hb' : bits.toNat ≥ t.toNat := UInt8.le_iff_toNat_le.mp hb
      have hsub : (bits - t).toNat = bits.toNat - t.toNat := UInt8.toNat_sub_of_le _ _ hb
      obtain ⟨fuelM', rfl⟩ : ∃ k, fuelM = k + 1 := ⟨fuelM - 1, by omega⟩
      obtain ⟨b, h1, h2, h3⟩ := cb_loop2_eq t acc m ht fuelG fuelM'
        (ret ++ [((Go.shrU32 acc (bits - t).toNat).toUInt8 &&& m)]) (bits - t) (by omega) (by omega)
      refine ⟨b, ?_, h2, ?_⟩
      · rw [h1, Bech32.drain, if_pos hb', hsub, shrU32_toUInt8_and]
      · rw [if_pos hb, h3, Bech32.drain, if_pos hb', hsub, shrU32_toUInt8_and]
    · have hb' : ¬ bits.toNat ≥ t.toNat := fun h => hb (UInt8.le_iff_toNat_le.mpr h)
      have hd : Bech32.drain acc.toNat t.toNat m.toNat fuelM bits.toNat ret = (bits.toNat, ret) := by
        cases fuelM with
        | zero => rfl
        | succ k => rw [Bech32.drain, if_neg hb']
      refine ⟨bits, ?_, by omega, ?_⟩
      · rw [hd]
      · rw [if_neg hb, hd]

theorem shlU32_or_toNat (acc : UInt32) (n : Nat) (v : UInt8) :
    (Go.shlU32 acc n ||| v.toUInt32).toNat = (acc.toNat <<< n ||| v.toNat) % 2 ^ 32 := by
  rw [UInt32.toNat_or, UInt8.toNat_toUInt32, shlU32_toNat, Nat.or_mod_two_pow,
    Nat.mod_eq_of_lt (a := v.toNat) (Nat.lt_trans v.toNat_lt (by decide))]

theorem cb_loop1_eq (f t m : UInt8) (ht : 1 ≤ t.toNat) (hft : f.toNat + t.toNat ≤ 256) :
    ∀ (data : List UInt8) (k : Int) (ret : List UInt8) (acc : UInt32) (bits : UInt8), bits.toNat < t.toNat →
      (Bech32.cbLoop f.toNat t.toNat m.toNat data acc.toNat bits.toNat ret = .error .badRange ∧
        bech32_convertBits_loop1 f t m data k ret acc bits =
          .ok (.ret ([], some ⟨"bech32.convertBits", 0, []⟩))) ∨
      ∃ (acc' : UInt32) (bits' : UInt8) (r : List UInt8),
        Bech32.cbLoop f.toNat t.toNat m.toNat data acc.toNat bits.toNat ret = .ok (acc'.toNat, bits'.toNat, r) ∧
        bits'.toNat < t.toNat ∧
        bech32_convertBits_loop1 f t m data k ret acc bits = .ok (.next (r, acc', bits'))
  | [], k, ret, acc, bits, hb => Or.inr ⟨acc, bits, ret, rfl, hb, rfl⟩
  | v :: rest, k, ret, acc, bits, hb => by
    simp only [bech32_convertBits_loop1, pure, Except.pure, Bech32.cbLoop]
    have hne : (Go.shrU8 v f.toNat != 0) = true ↔ v.toNat >>> f.toNat ≠ 0 := by
      rw [bne_iff_ne, Ne, ← UInt8.toNat_inj, shrU8_toNat]
      rfl
    by_cases hr : v.toNat >>> f.toNat ≠ 0
    · rw [if_pos (hne.mpr hr), if_pos hr]
      exact Or.inl ⟨rfl, rfl⟩
    · rw [if_neg (fun h => hr (hne.mp h)), if_neg hr]
      have hadd : (bits + f).toNat = bits.toNat + f.toNat := by
        rw [UInt8.toNat_add]
        apply Nat.mod_eq_of_lt
        omega
      obtain ⟨b, h1, h2, h3⟩ := cb_loop2_eq t (Go.shlU32 acc f.toNat ||| v.toUInt32) m ht ((bits + f).toNat + 1)
        (bits + f).toNat ret (bits + f) (by omega) (by omega)
      rw [h3, Go.bind_ok]
      rw [shlU32_or_toNat, hadd] at h1 h3 ⊢
      have ih := cb_loop1_eq f t m ht hft rest (k + 1)
        (Bech32.drain ((acc.toNat <<< f.toNat ||| v.toNat) % 2 ^ 32) t.toNat m.toNat (bits.toNat + f.toNat)
          (bits.toNat + f.toNat) ret).2 (Go.shlU32 acc f.toNat ||| v.toUInt32) b h2
      rw [shlU32_or_toNat, h1] at ih
      exact ih

theorem shlU32_toUInt8_and (a : UInt32) (n : Nat) (m : UInt8) :
    (Go.shlU32 a n).toUInt8 &&& m = ((a.toNat <<< n) % 2 ^ 32 % 256 &&& m.toNat).toUInt8 := by
  rw [toUInt8_and, shlU32_toNat]

theorem toUInt8_bne_zero (x : Nat) (hx : x < 256) : (x.toUInt8 != 0) = true ↔ x ≠ 0 := by
  rw [bne_iff_ne, Ne, ← UInt8.toNat_inj, Nat.toUInt8, UInt8.toNat_ofNat']
  have e : (2 : Nat) ^ 8 = 256 := rfl
  have e0 : (0 : UInt8).toNat = 0 := rfl
  rw [e, e0, Nat.mod_eq_of_lt hx]

/-- `hm` (Go's `maxv` is the model's) holds for every `t`; it is a hypothesis only so that each call site
    discharges it by evaluation at its own `t` -/
theorem convertBits_tie_gen (data : Bytes) (f t : UInt8) (pad : Bool) (ht : 1 ≤ t.toNat)
    (hft : f.toNat + t.toNat ≤ 256) (hm : (Go.shlU8 1 t.toNat - 1).toNat = (1 <<< t.toNat - 1) % 256) :
    bech32_convertBits data f t pad = cbRes (Bech32.convertBits data f.toNat t.toNat pad) := by
  have e32 : (0 : UInt32).toNat = 0 := rfl
  have e8 : (0 : UInt8).toNat = 0 := rfl
  have hl := cb_loop1_eq f t (Go.shlU8 1 t.toNat - 1) ht hft data 0 [] 0 0 (by rw [e8]; omega)
  rw [e32, e8, hm] at hl
  simp only [bech32_convertBits, pure, Except.pure, Bech32.convertBits]
  rcases hl with ⟨hc, hl⟩ | ⟨acc', bits', r, hc, hb, hl⟩
  · rw [hc, hl]
    rfl
  · rw [hc, hl, Go.bind_ok]
    simp only [shlU32_toUInt8_and, hm]
    have hsub : (t - bits').toNat = t.toNat - bits'.toNat :=
      UInt8.toNat_sub_of_le _ _ (UInt8.le_iff_toNat_le.mpr (by omega))
    rw [hsub]
    cases pad with
    | true =>
      simp only [if_true]
      have hgt : bits' > 0 ↔ bits'.toNat > 0 := by
        rw [GT.gt, UInt8.lt_iff_toNat_lt, e8]
      by_cases hp : bits'.toNat > 0
      · rw [if_pos (decide_eq_true (hgt.mpr hp)), if_pos hp]
        rfl
      · rw [if_neg (by simpa [hgt] using hp), if_neg hp]
        rfl
    | false =>
      simp only [Bool.false_eq_true, if_false]
      have hge : bits' ≥ f ↔ bits'.toNat ≥ f.toNat := UInt8.le_iff_toNat_le
      by_cases hp : bits'.toNat ≥ f.toNat
      · rw [if_pos (decide_eq_true (hge.mpr hp)), if_pos hp]
        rfl
      · rw [if_neg (by simpa [hge] using hp), if_neg hp]
        have hlt : acc'.toNat <<< (t.toNat - bits'.toNat) % 2 ^ 32 % 256 &&& (1 <<< t.toNat - 1) % 256 < 256 :=
          Nat.lt_of_le_of_lt Nat.and_le_right (Nat.mod_lt _ (by decide))
        by_cases hz : acc'.toNat <<< (t.toNat - bits'.toNat) % 2 ^ 32 % 256 &&& (1 <<< t.toNat - 1) % 256 ≠ 0
        · rw [if_pos ((toUInt8_bne_zero _ hlt).mpr hz), if_pos hz]
          rfl
        · rw [if_neg (fun h => hz ((toUInt8_bne_zero _ hlt).mp h)), if_neg hz]
          rfl

/-- the two call sites of `convertBits`: (8, 5, pad) in Encode and (5, 8, no pad) in Decode -/
theorem convertBits_tie_8_5 (data : Bytes) :
    bech32_convertBits data 8 5 true = cbRes (Bech32.convertBits data 8 5 true) :=
  convertBits_tie_gen data 8 5 true (by decide) (by decide) (by decide)

theorem convertBits_tie_5_8 (data : Bytes) :
    bech32_convertBits data 5 8 false = cbRes (Bech32.convertBits data 5 8 false) :=
  convertBits_tie_gen data 5 8 false (by decide) (by decide) (by decide)
end GoTie
end AgeModel
