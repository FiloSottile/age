/-
  stream.Writer as it stands in the source: `(*Writer).Write`, `Close` and `flushChunk`
  (internal/stream/stream.go), translated. `unwritten` is a view into the struct's own `buf`,
  `freeBuf` a local view, `copy` writes through, `Seal(w.buf[:0], …)` appends into `buf` (if the
  sealed chunk did not fit, Go would allocate: that is `Go.Fault.alias`, shown unreachable here).
  The AEAD and the destination are abstract. The result is a simulation between the translated
  code and the model's Writer machine (AgeModel/Stream.lean), so the theorems of Props/C12, C13,
  C14 speak about the source text (C = 65536, tag 16, fewer than 2^88 chunks).
-/
import Proofs.GoTieNonce
import Proofs.GoBuf
import Proofs.GoTieStreamEnv
namespace AgeModel
namespace GoTie
open Extracted Stream

/-- the Go error the Writer holds or reports, against the model's; the model's other outcomes do not arise in a Writer -/
def wrErrRel (g : Option Go.Err) (eW : Go.Err) : Option Outcome → Prop
  | none => g = none
  | some .dstErr => g = some eW
  | some .closed => g = some ⟨"stream.(*Writer).Close", 0, []⟩
  | some _ => False

/-- what is assumed of the abstract destination: it behaves as the model's `Dst S` seen through `absD` -/
structure DstEnv (δ : Type) (S : DstSpec) where
  write : δ → Bytes → Go.M (Int × Option Go.Err × δ)
  absD : δ → Dst S
  eW : Go.Err
  hWrite : ∀ d b, ∃ n d', write d b = .ok (n, (if ((absD d).write b).2 then none else some eW), d') ∧
                    absD d' = ((absD d).write b).1

structure WRel {α δ : Type} {S : DstSpec} (D : DstEnv δ S) (w : stream_Writer α δ) (m : Writer S) : Prop where
  buflen : w.buf.length = 65552
  lo : w.unwritten_lo = 0
  hi : 0 ≤ w.unwritten_hi ∧ w.unwritten_hi ≤ 65536
  buf : m.buf = w.buf.take w.unwritten_hi.toNat
  dst : D.absD w.dst = m.dst
  err : wrErrRel w.err D.eW m.err
  nonce : m.err = none → w.nonce = Stream.nonce m.ctr false

theorem slice0_ok (b : Bytes) (hi : Int) (h0 : 0 ≤ hi) (h1 : hi ≤ Int.ofNat b.length) :
    Go.slice b 0 hi = .ok (b.take hi.toNat) := by
  unfold Go.slice; rw [if_pos ⟨Int.le_refl 0, h0, h1⟩]; rfl

theorem flush_tie {α δ : Type} {S : DstSpec} (A : AEAD) (k : Bytes) (E : AeadEnv α A k) (D : DstEnv δ S)
    (w : stream_Writer α δ) (m : Writer S) (h : WRel D w m) (hme : m.err = none) (last : Bool)
    (hl : last = true ∨ w.unwritten_hi = 65536) (hctr : m.ctr + 1 < 2 ^ 88) :
    ∃ w' d', ∃ ok : Bool,
      stream_Writer_flushChunk E.seal_ D.write w last = .ok (if ok then none else some D.eW, w') ∧
      m.flush A 65536 (2 ^ 88) k last =
        ({ m with buf := [], ctr := m.ctr + 1, dst := d' }, if ok then none else some .dstErr) ∧
      w'.unwritten_hi = 0 ∧ w'.err = w.err ∧
      ∀ ge me, wrErrRel ge D.eW me → (me = none → last = false) →
        WRel D { w' with err := ge } { buf := [], ctr := m.ctr + 1, err := me, dst := d' } := by
  obtain ⟨hbl, hlo, hhi, hbuf, hdst, herr, hn⟩ := h
  have hn := hn hme
  have hmlen : m.buf.length = w.unwritten_hi.toNat := by
    rw [hbuf, List.length_take, hbl]; omega
  have hc : (!last && (w.unwritten_hi - w.unwritten_lo != 65536)) = false := by
    rcases hl with h | h
    · simp [h]
    · simp [h, hlo]
  have hcM : ¬ ((!last && decide (m.buf.length ≠ 65536)) = true) := by
    rcases hl with h | h
    · simp [h]
    · simp [hmlen, h]
  have hL : ¬ (m.ctr + 1 ≥ 2 ^ 88) := by omega
  have hsl : Go.slice w.buf w.unwritten_lo w.unwritten_hi = .ok m.buf := by
    rw [hlo, hbuf]; exact slice0_ok _ _ hhi.1 (by rw [hbl]; simp only [Int.ofNat_eq_natCast]; omega)
  generalize hcdef : A.sealF k (nonce m.ctr last) m.buf = c
  have hclen : c.length = w.unwritten_hi.toNat + 16 := by rw [← hcdef, E.hSealLen, hmlen]
  have hfit : c.length ≤ w.buf.length := by rw [hclen, hbl]; omega
  have hal : decide (Go.len c > Go.len w.buf) = false := by
    apply decide_eq_false
    simp only [Go.len, Int.ofNat_eq_natCast]; omega
  obtain ⟨n, d', hw, hd'⟩ := D.hWrite w.dst c
  rw [hdst] at hw hd'
  have hinc := incNonce_tie m.ctr last hctr
  have hwl := Go.writeAt_length w.buf 0 c (by simpa using hfit)
  have hs := setLastChunkFlag_tie m.ctr false
  have hr0 : ∀ b : Bytes, Go.reslice 0 (Go.len b) 0 0 = .ok (0, 0) :=
    fun b => Go.reslice_zero _ 0 (Int.le_refl 0) (Int.natCast_nonneg _)
  have hs0 : Go.slice w.buf 0 0 = .ok [] := Go.slice_upto w.buf 0 (Nat.zero_le _)
  have hsw : Go.slice (c ++ w.buf.drop c.length) 0 (Go.len c) = .ok c := by
    rw [Go.len, Go.slice_upto _ _ (by rw [Go.wz_length _ _ hfit]; exact hfit), Go.wz_take]
  refine ⟨{ a := w.a, dst := d', unwritten_lo := 0, unwritten_hi := 0, buf := Go.writeAt w.buf 0 c,
            nonce := nonce (m.ctr + 1) last, err := w.err }, (m.dst.write c).1, (m.dst.write c).2, ?_, ?_, rfl, rfl,
    fun ge me hge hlast => ⟨by rw [hwl, hbl], rfl, (by decide : (0 : Int) ≤ 0 ∧ (0 : Int) ≤ 65536), rfl, hd', hge,
      fun hm => by rw [hlast hm]⟩⟩
  · cases last <;>
      simp only [stream_Writer_flushChunk, Go.bind_ok, pure, Except.pure, hc, hr0, hs0, hsl, E.hSeal, hn, hs, hcdef, List.nil_append, hal, Go.writeAt_zero, Int.zero_add, hsw, hw, hinc, Bool.false_eq_true, if_false, if_true]
  · unfold Writer.flush
    rw [if_neg hcM, hcdef]
    simp only [hL, if_false]

/-- the Go state after `copy(freeBuf, p)` and the re-slicing of `unwritten` -/
def wCopy {α δ : Type} (w : stream_Writer α δ) (p : Bytes) (n : Nat) : stream_Writer α δ :=
  { a := w.a, dst := w.dst, unwritten_lo := 0, unwritten_hi := w.unwritten_hi + (n : Int),
    buf := Go.writeAt w.buf w.unwritten_hi (p.take n), nonce := w.nonce, err := w.err }

theorem writeLoop_step {α δ : Type} (sl : α → Bytes → Bytes → Bytes → Go.M Bytes) (wr : δ → Bytes → Go.M (Int × Option Go.Err × δ))
    (w : stream_Writer α δ) (p : Bytes) (f : Nat)
    (hbl : w.buf.length = 65552) (hlo : w.unwritten_lo = 0)
    (hhi : 0 ≤ w.unwritten_hi ∧ w.unwritten_hi ≤ 65536) (hp : p.length ≠ 0)
    (n : Nat) (hn : n = min (65536 - w.unwritten_hi.toNat) p.length) :
    stream_Writer_Write_loop1 sl wr (f+1) w p =
      if (w.unwritten_hi + (n : Int) == 65536 && decide (Go.len (p.drop n) > 0)) = true then
        stream_Writer_flushChunk sl wr (wCopy w p n) false >>= fun v =>
          if (v.1 != none) = true then .ok (.ret (0, v.1, { v.2 with err := v.1 }))
          else stream_Writer_Write_loop1 sl wr f v.2 (p.drop n)
      else stream_Writer_Write_loop1 sl wr f (wCopy w p n) (p.drop n) := by
  have hlen : Go.len w.buf = 65552 := by simp only [Go.len, hbl]; rfl
  have h0 : decide (Go.len p > 0) = true :=
    (Go.decide_len_gt p 0).trans (decide_eq_true (Nat.pos_of_ne_zero hp))
  have h1 : Go.reslice 0 65552 w.unwritten_hi 65536 = .ok (w.unwritten_hi, 65536) := by
    rw [Go.reslice_ok _ _ _ _ (by omega), Int.zero_add, Int.zero_add]
  have hmin : min (65536 - w.unwritten_hi) (Go.len p) = (n : Int) := by
    simp only [Go.len, Int.ofNat_eq_natCast]; omega
  have h2 : Go.slice p (n : Int) (Go.len p) = .ok (p.drop n) := by
    rw [Go.slice_tail _ _ (by omega) (by simp only [Go.len, Int.ofNat_eq_natCast]; omega), Int.toNat_natCast]
  have hwl : Go.len (Go.writeAt w.buf w.unwritten_hi (p.take n)) = 65552 := by
    unfold Go.len
    rw [Go.writeAt_length _ _ _ (by rw [List.length_take, hbl]; omega), hbl]; rfl
  have h3 : Go.reslice 0 65552 0 (w.unwritten_hi + (n : Int)) = .ok (0, w.unwritten_hi + (n : Int)) :=
    Go.reslice_zero _ _ (by omega) (by omega)
  simp only [stream_Writer_Write_loop1, hlo, hlen, Int.sub_zero, Go.bind_ok, pure, Except.pure, h0, Bool.not_true, h1, hmin, h2, hwl, h3,
    Int.toNat_natCast, Bool.false_eq_true, if_false, wCopy]

theorem fill_step {S : DstSpec} (A : AEAD) {C L : Nat} (k : Bytes) (m : Writer S) (p : Bytes) (g : Nat)
    (hp : p.length ≠ 0) (n : Nat) (hn : n = min (C - m.buf.length) p.length) :
    m.fill A C L k p (g + 1) =
      if (m.buf ++ p.take n).length = C ∧ (p.drop n).length > 0 then
        match ({ m with buf := m.buf ++ p.take n } : Writer S).flush A C L k false with
        | (w2, some e) => (w2, some e)
        | (w2, none) => w2.fill A C L k (p.drop n) g
      else ({ m with buf := m.buf ++ p.take n } : Writer S).fill A C L k (p.drop n) g := by
  subst hn
  rw [Writer.fill, if_neg hp]
  rfl

theorem wrel_copy {α δ : Type} {S : DstSpec} (D : DstEnv δ S) (w : stream_Writer α δ) (m : Writer S)
    (h : WRel D w m) (p : Bytes) (n : Nat) (hn : n = min (65536 - w.unwritten_hi.toNat) p.length) :
    WRel D (wCopy w p n) { m with buf := m.buf ++ p.take n } := by
  obtain ⟨hbl, hlo, hhi, hbuf, hdst, herr, hnon⟩ := h
  have htl : (p.take n).length = n := by rw [List.length_take]; omega
  have hfit : w.unwritten_hi.toNat + (p.take n).length ≤ w.buf.length := by rw [htl, hbl]; omega
  refine ⟨?_, rfl, ?_, ?_, hdst, herr, hnon⟩
  · show (Go.writeAt w.buf w.unwritten_hi (p.take n)).length = 65552
    rw [Go.writeAt_length _ _ _ hfit, hbl]
  · show 0 ≤ w.unwritten_hi + (n : Int) ∧ w.unwritten_hi + (n : Int) ≤ 65536
    omega
  · show m.buf ++ p.take n = (Go.writeAt w.buf w.unwritten_hi (p.take n)).take (w.unwritten_hi + (n : Int)).toNat
    have e : (w.unwritten_hi + (n : Int)).toNat = w.unwritten_hi.toNat + (p.take n).length := by rw [htl]; omega
    rw [e, Go.writeAt_take _ _ _ hfit, hbuf]

/-- fuel `f` suffices for the loop started with `n` bytes to write and the view ending at `hi`: one round per byte
    at most, one for the exit test, one more when the buffer is full at the start (that round copies nothing) -/
def Enough (hi : Int) (n f : Nat) : Prop :=
  n + 1 ≤ f ∧ (n ≠ 0 → hi = 65536 → n + 2 ≤ f)

/-! One round of the loop copies `n` bytes; it flushes when that fills the buffer (`hi + n = 65536`) and bytes remain. -/

theorem enough_flush {hi : Int} {len n f : Nat} (h0 : 0 ≤ hi) (hn : n ≤ len) (h : Enough hi len (f + 1))
    (hfull : hi + (n : Int) = 65536) (hmore : len - n > 0) : Enough 0 (len - n) f := by
  unfold Enough at *
  omega

theorem enough_keep {hi : Int} {len n f : Nat} (hhi : 0 ≤ hi ∧ hi ≤ 65536) (hp : len ≠ 0)
    (hn : n = min (65536 - hi.toNat) len) (h : Enough hi len (f + 1))
    (hc : ¬ (hi + (n : Int) = 65536 ∧ len - n > 0)) : Enough (hi + (n : Int)) (len - n) f := by
  unfold Enough at *
  omega

theorem total_keep {hi : Int} {len n : Nat} (h0 : 0 ≤ hi) (hn : n ≤ len) :
    (hi + (n : Int)).toNat + (len - n) = hi.toNat + len := by omega

theorem ctr_flush {hi : Int} {len n c : Nat} (h0 : 0 ≤ hi) (hn : n ≤ len) (hfull : hi + (n : Int) = 65536)
    (h : c + (hi.toNat + len) / 65536 + 1 < 2 ^ 88) :
    c + 1 < 2 ^ 88 ∧ c + 1 + ((0 : Int).toNat + (len - n)) / 65536 + 1 < 2 ^ 88 := by
  have e : hi.toNat + len = (len - n) + 65536 := by omega
  rw [e, Nat.add_div_right _ (by decide)] at h
  rw [Int.toNat_zero, Nat.zero_add]
  omega

theorem full_iff {hi : Int} {n : Nat} (h0 : 0 ≤ hi) : hi.toNat + n = 65536 ↔ hi + (n : Int) = 65536 := by
  omega

def LoopRes {α δ : Type} {S : DstSpec} (D : DstEnv δ S)
    (r : Go.Loop (stream_Writer α δ × Bytes) (Int × Option Go.Err × stream_Writer α δ))
    (mr : Writer S × Option Outcome) : Prop :=
  match r with
  | .next s => mr.2 = none ∧ WRel D s.1 mr.1
  | .ret v => v.1 = 0 ∧ ∃ eo, mr.2 = some eo ∧ wrErrRel v.2.1 D.eW (some eo) ∧
      WRel D v.2.2 { mr.1 with err := some eo }

theorem writeLoop_tie {α δ : Type} {S : DstSpec} (A : AEAD) (k : Bytes) (E : AeadEnv α A k) (D : DstEnv δ S) :
    ∀ (f g : Nat) (w : stream_Writer α δ) (m : Writer S) (p : Bytes), WRel D w m → m.err = none →
      Enough w.unwritten_hi p.length f → Enough w.unwritten_hi p.length g →
      m.ctr + (w.unwritten_hi.toNat + p.length) / 65536 + 1 < 2 ^ 88 →
      ∃ r, stream_Writer_Write_loop1 E.seal_ D.write f w p = .ok r ∧
        LoopRes D r (m.fill A 65536 (2 ^ 88) k p g) := by
  intro f
  induction f with
  | zero => intro g w m p _ _ hf; exact absurd hf.1 (Nat.not_succ_le_zero _)
  | succ f ih =>
    intro g w m p h hme hf hg hctr
    cases g with
    | zero => exact absurd hg.1 (Nat.not_succ_le_zero _)
    | succ g =>
      by_cases hp : p.length = 0
      · have h0 : decide (Go.len p > 0) = false :=
          (Go.decide_len_gt p 0).trans (decide_eq_false (by omega))
        refine ⟨.next (w, p), ?_, ?_⟩
        · simp only [stream_Writer_Write_loop1, h0, Bool.not_false, if_true, pure, Except.pure]
        · rw [Writer.fill, if_pos hp]; exact ⟨rfl, h⟩
      · obtain ⟨hbl, hlo, hhi, hbuf, hdst, herr, hnon⟩ := id h
        have hmlen : m.buf.length = w.unwritten_hi.toNat := by rw [hbuf, List.length_take, hbl]; omega
        generalize hn : min (65536 - w.unwritten_hi.toNat) p.length = n
        have h1 := wrel_copy D w m h p n hn.symm
        have hdl : (p.drop n).length = p.length - n := List.length_drop ..
        have hm1len : (m.buf ++ p.take n).length = w.unwritten_hi.toNat + n := by
          rw [List.length_append, List.length_take, hmlen]; omega
        have hnl : n ≤ p.length := by rw [← hn]; exact Nat.min_le_right ..
        rw [writeLoop_step _ _ w p f hbl hlo hhi hp n hn.symm,
          fill_step A k m p g hp n (by rw [hmlen]; exact hn.symm), hm1len, hdl]
        have hG : (w.unwritten_hi + (n : Int) == 65536 && decide (Go.len (p.drop n) > 0)) =
            decide (w.unwritten_hi + (n : Int) = 65536 ∧ p.length - n > 0) := by
          apply Bool.eq_iff_iff.mpr
          rw [Bool.and_eq_true, beq_iff_eq, decide_eq_true_eq, decide_eq_true_eq]
          simp only [Go.len, hdl, Int.ofNat_eq_natCast, gt_iff_lt, Int.natCast_pos]
        rw [hG]
        simp only [full_iff hhi.1]
        by_cases hc : w.unwritten_hi + (n : Int) = 65536 ∧ p.length - n > 0
        · rw [decide_eq_true hc, if_pos rfl, if_pos hc]
          obtain ⟨hc1, hc2⟩ := ctr_flush hhi.1 hnl hc.1 hctr
          obtain ⟨w2, d2, ok, hfl, hfm, hhi2, he2, hrel⟩ :=
            flush_tie A k E D (wCopy w p n) _ h1 hme false (Or.inr hc.1) hc1
          rw [hfl, Go.bind_ok, hfm]
          cases ok with
          | true =>
            simp only [if_true, bne_self_eq_false, Bool.false_eq_true, if_false]
            have h2 : WRel D w2 { buf := [], ctr := m.ctr + 1, err := m.err, dst := d2 } :=
              hrel w2.err m.err (by rw [he2]; exact herr) (fun _ => rfl)
            have ef := enough_flush hhi.1 hnl hf hc.1 hc.2
            have eg := enough_flush hhi.1 hnl hg hc.1 hc.2
            rw [← hdl, ← hhi2] at ef eg hc2
            exact ih g w2 _ (p.drop n) h2 hme ef eg hc2
          | false =>
            simp only [Bool.false_eq_true, if_false]
            rw [if_pos (Go.some_bne_none D.eW)]
            exact ⟨_, rfl, rfl, .dstErr, rfl, rfl, hrel _ _ rfl nofun⟩
        · rw [decide_eq_false hc, if_neg Bool.false_ne_true, if_neg hc]
          have ef := enough_keep hhi hp hn.symm hf hc
          have eg := enough_keep hhi hp hn.symm hg hc
          rw [← total_keep hhi.1 hnl] at hctr
          rw [← hdl] at ef eg hctr
          exact ih g (wCopy w p n) _ (p.drop n) h1 hme ef eg hctr

theorem wrErrRel_ne {g : Option Go.Err} {eW : Go.Err} {e : Outcome} (h : wrErrRel g eW (some e)) :
    (g != none) = true := by
  rw [bne_iff_ne]
  intro h0; rw [h0] at h
  cases e <;> simp [wrErrRel] at h

/-- after `Close` — successful or not — every further `Write` and `Close` is refused and touches nothing, on both
    sides (`Props.C13.writer_sticky` about the code) -/
theorem writer_after_close_stuck {α δ : Type} {S : DstSpec} (A : AEAD) (k : Bytes) (E : AeadEnv α A k)
    (D : DstEnv δ S) (w : stream_Writer α δ) (m : Writer S) (h : WRel D w m) (e : Outcome)
    (hme : m.err = some e) :
    w.err ≠ none ∧ wrErrRel w.err D.eW (some e) ∧
    (∀ p, stream_Writer_Write E.seal_ D.write w p = .ok (0, w.err, w) ∧
          m.write A 65536 (2 ^ 88) k p = (m, 0, some e)) ∧
    stream_Writer_Close E.seal_ D.write w = .ok (w.err, w) ∧
    m.close A 65536 (2 ^ 88) k = (m, some e) := by
  have he := h.err; rw [hme] at he
  have hwe := wrErrRel_ne he
  refine ⟨by rw [bne_iff_ne] at hwe; exact hwe, he, fun p => ⟨?_, ?_⟩, ?_, ?_⟩
  · simp only [stream_Writer_Write, hwe, if_true, pure, Except.pure]
  · simp only [Writer.write, hme]
  · simp only [stream_Writer_Close, hwe, if_true, pure, Except.pure]
  · simp only [Writer.close, hme]

theorem writer_write_tie {α δ : Type} {S : DstSpec} (A : AEAD) (k : Bytes) (E : AeadEnv α A k) (D : DstEnv δ S)
    (w : stream_Writer α δ) (m : Writer S) (h : WRel D w m) (p : Bytes)
    (hctr : m.ctr + p.length / 65536 + 2 < 2 ^ 88) :
    ∃ res, stream_Writer_Write E.seal_ D.write w p = .ok res ∧
      let mw := m.write A 65536 (2 ^ 88) k p
      res.1 = Int.ofNat mw.2.1 ∧ wrErrRel res.2.1 D.eW mw.2.2 ∧ WRel D res.2.2 mw.1 := by
  cases hme : m.err with
  | some e =>
    obtain ⟨_, he, hw, _⟩ := writer_after_close_stuck A k E D w m h e hme
    refine ⟨(0, w.err, w), (hw p).1, ?_⟩
    rw [(hw p).2]
    exact ⟨rfl, he, h⟩
  | none =>
    have hwe : w.err = none := by have := h.err; rw [hme] at this; exact this
    have hwe' : (w.err != none) = false := hwe ▸ Go.none_bne_none
    by_cases hp : p.length = 0
    · have hl : (Go.len p == (0 : Int)) = true := by
        rw [Go.len_beq_zero]; exact List.isEmpty_iff_length_eq_zero.mpr hp
      refine ⟨(0, none, w), ?_, ?_⟩
      · simp only [stream_Writer_Write, hwe', hl, if_true, Bool.false_eq_true, if_false, pure, Except.pure]
      · simp only [Writer.write, hme, hp, if_true]; exact ⟨rfl, rfl, h⟩
    · have hl : (Go.len p == (0 : Int)) = false := by
        rw [Go.len_beq_zero, Bool.eq_false_iff]; exact fun h => hp (List.isEmpty_iff_length_eq_zero.mp h)
      have hlen : (Go.len p).toNat = p.length := by simp only [Go.len, Int.ofNat_eq_natCast, Int.toNat_natCast]
      have hhi := h.hi
      obtain ⟨r, hr, hres⟩ := writeLoop_tie A k E D (2 * (Go.len p).toNat + 2) (p.length + 2) w m p h hme
        (by unfold Enough; rw [hlen]; omega) (by unfold Enough; omega) (by omega)
      simp only [stream_Writer_Write, hwe', hl, Bool.false_eq_true, if_false, Go.bind_ok, hr,
        Writer.write, hme, hp]
      generalize Writer.fill A 65536 (2 ^ 88) k m p (p.length + 2) = mr at hres
      rcases mr with ⟨m', eo⟩
      cases r with
      | next s =>
        obtain ⟨h1, h2⟩ := hres
        dsimp only at h1 h2
        subst h1
        exact ⟨(Go.len p, none, s.1), rfl, rfl, rfl, h2⟩
      | ret v =>
        obtain ⟨h1, eo', h2, h3, h4⟩ := hres
        dsimp only at h1 h2 h3 h4
        subst h2
        exact ⟨v, rfl, h1, h3, h4⟩

theorem writer_close_tie {α δ : Type} {S : DstSpec} (A : AEAD) (k : Bytes) (E : AeadEnv α A k) (D : DstEnv δ S)
    (w : stream_Writer α δ) (m : Writer S) (h : WRel D w m) (hctr : m.ctr + 2 < 2 ^ 88) :
    ∃ res, stream_Writer_Close E.seal_ D.write w = .ok res ∧
      let mc := m.close A 65536 (2 ^ 88) k
      wrErrRel res.1 D.eW mc.2 ∧ WRel D res.2 mc.1 ∧
      (mc.2 = none → D.absD res.2.dst = mc.1.dst) ∧
      wrErrRel res.2.err D.eW mc.1.err := by
  cases hme : m.err with
  | some e =>
    obtain ⟨_, he, _, hc, hmc⟩ := writer_after_close_stuck A k E D w m h e hme
    refine ⟨(w.err, w), hc, ?_⟩
    rw [hmc]
    exact ⟨he, h, nofun, h.err⟩
  | none =>
    have hwe : w.err = none := by have := h.err; rw [hme] at this; exact this
    have hwe' : (w.err != none) = false := hwe ▸ Go.none_bne_none
    obtain ⟨w2, d2, ok, hfl, hfm, _, _, hrel⟩ := flush_tie A k E D w m h hme true (Or.inl rfl) (by omega)
    simp only [stream_Writer_Close, hwe', Bool.false_eq_true, if_false, Go.bind_ok, hfl, Writer.close, hme, hfm]
    cases ok with
    | true =>
      simp only [if_true, bne_self_eq_false, Bool.false_eq_true, if_false, pure, Except.pure]
      have hr := hrel (some ⟨"stream.(*Writer).Close", 0, []⟩) (some .closed) rfl nofun
      exact ⟨_, rfl, rfl, hr, fun _ => hr.dst, rfl⟩
    | false =>
      simp only [Bool.false_eq_true, if_false, pure, Except.pure]
      rw [if_pos (Go.some_bne_none D.eW)]
      exact ⟨_, rfl, rfl, hrel _ (some .dstErr) rfl nofun, nofun, rfl⟩

/-- the model's writer has a sticky error after ANY `Close` (so `writer_after_close_stuck` applies
    to the pair of states `writer_close_tie` returns) -/
theorem writer_close_err_some {S : DstSpec} (A : AEAD) (C L : Nat) (k : Bytes) (m : Writer S) :
    ∃ e, (m.close A C L k).1.err = some e := by
  unfold Writer.close
  cases hme : m.err with
  | some e => exact ⟨e, hme⟩
  | none =>
    dsimp only
    generalize m.flush A C L k true = r
    rcases r with ⟨w', _ | e⟩
    · exact ⟨_, rfl⟩
    · exact ⟨_, rfl⟩

end GoTie
end AgeModel
