/- Proofs.GoTieAll — imports every tie-proof module at once, so that a name two of them define in the same namespace fails the build here rather than in whichever Tie file first imports both. Add new GoTie modules to this list. -/
import Proofs.DecodeRune
import Proofs.GoBind
import Proofs.GoBuf
import Proofs.GoTieAead
import Proofs.GoTieArmorR
import Proofs.GoTieArmorRT
import Proofs.GoTieArmorSpace
import Proofs.GoTieArmorW
import Proofs.GoTieAtoi
import Proofs.GoTieBech32
import Proofs.GoTieCli
import Proofs.GoTieCliCompose
import Proofs.GoTieCliDecrypt
import Proofs.GoTieCliEncId
import Proofs.GoTieCliEncrypt
import Proofs.GoTieCliKeyFile
import Proofs.GoTieCliLazy
import Proofs.GoTieCliMain
import Proofs.GoTieCliModel
import Proofs.GoTieCliModes
import Proofs.GoTieCliPass
import Proofs.GoTieCliSegments
import Proofs.GoTieCodec
import Proofs.GoTieCtors
import Proofs.GoTieDecrypt
import Proofs.GoTieEncrypt
import Proofs.GoTieExec
import Proofs.GoTieFileRT
import Proofs.GoTieFmtStr
import Proofs.GoTieFormat
import Proofs.GoTieGenerate
import Proofs.GoTieKeyFile
import Proofs.GoTieKeygen
import Proofs.GoTieKeygenMain
import Proofs.GoTieKeygenModel
import Proofs.GoTieKeys
import Proofs.GoTieLazy
import Proofs.GoTieLines
import Proofs.GoTieLit
import Proofs.GoTieMarshal
import Proofs.GoTieNative
import Proofs.GoTieNonce
import Proofs.GoTiePipeline
import Proofs.GoTiePlugName
import Proofs.GoTiePluginBase
import Proofs.GoTiePluginCodec
import Proofs.GoTiePluginFail
import Proofs.GoTiePluginI
import Proofs.GoTiePluginR
import Proofs.GoTiePluginUI
import Proofs.GoTiePrims
import Proofs.GoTieRunes
import Proofs.GoTieScrypt
import Proofs.GoTieScryptCtor
import Proofs.GoTieSlicesEq
import Proofs.GoTieSmall
import Proofs.GoTieSsh
import Proofs.GoTieSshEnc
import Proofs.GoTieSshRsa
import Proofs.GoTieStreamEnv
import Proofs.GoTieStreamNew
import Proofs.GoTieStreamR
import Proofs.GoTieStreamRT
import Proofs.GoTieStreamW
import Proofs.GoTieTape
import Proofs.GoTieUnwrap
import Proofs.GoTieWitnessA
import Proofs.GoTieWitnessArmor
import Proofs.GoTieWitnessB
import Proofs.GoTieWitnessFile
import Proofs.GoTieWitnessMarshal
import Proofs.GoTieWitnessPlugin
import Proofs.GoTieWitnessRecFile
import Proofs.GoTieWitnessRecip
import Proofs.GoTieWitnessStream
import Proofs.GoTieWrap
import Proofs.GoTieWrapLabels
import Proofs.GoTieWriteStanza
import Proofs.Ite
