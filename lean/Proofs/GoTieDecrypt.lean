/-
  age.Decrypt as it stands in the source (age.go, translated in AgeModel/Extracted/Funcs.lean): the
  "no identities" test, `format.Parse`, the identity loop, the nil-key test that produces
  `NoIdentityMatchError` (identified here by its type and the number of causes it carries), the
  header MAC comparison, the 16-byte nonce, and only then the payload reader. `Identity.Unwrap`,
  `headerMAC`, `streamKey`, `stream.NewReader`, `format.DecodeString` are parameters; `DecryptEnv`
  says what is assumed of them. For every file and identity list the translated `Decrypt` returns
  what the model's `decryptInit` (AgeModel/File.lean) returns: the same error class with the same
  number of causes, or no reader and the very error the failing identity's `Unwrap` returned, or
  the reader made from the same stream key and payload. So `Props.C03.mac_gate`,
  `Props.C04.no_match_structure`, `reader_requires_key` and the "identities are consulted in order
  and none after the first that opens the file" clause of C01 are about the source text.
-/
import AgeModel.GoSem
import AgeModel.File
import AgeModel.Extracted.Funcs
import Proofs.GoTieFormat
import Proofs.GoTieUnwrap
namespace AgeModel
namespace GoTie
open Extracted

/-- the Go error value `Decrypt` returns for each error class of the model -/
def decryptErr : DecErr → Option Go.Err → Option Go.Err
  | .noIdentities, _ => some ⟨"age.Decrypt", 0, []⟩
  | .header, _ => some ⟨"age.Decrypt", 1, []⟩
  | .noMatch n, _ => some ⟨"age.NoIdentityMatchError", 0, [Int.ofNat n]⟩
  | .fatal _, e => e          -- the identity's own error, returned as it is
  | .badMAC, _ => some ⟨"age.Decrypt", 3, []⟩
  | .nonce, _ => some ⟨"age.Decrypt", 4, []⟩

/-- what is assumed of the abstract callees: they are the model's, for primitives `P` -/
structure DecryptEnv (P : Prims) (ι : Type) where
  D : Bytes → Go.M (Bytes × Option Go.Err)
  eD : Go.Err
  hD : DecodeIsModel D eD
  U : ι → List age_Stanza → Go.M (Bytes × Option Go.Err)
  /-- which model identity a Go identity value is -/
  idOf : ι → Identity
  /-- an identity answers as the model's does: a non-empty key, "incorrect identity", or another error;
      and an identity that answers 'incorrect identity' returns a nil key, as every identity of the
      module does — Decrypt relies on it: see `decrypt_loop2_spec` -/
  hU : ∀ i ss, ∃ r, U i (ss.map toGoStanza) = .ok r ∧ resClass r = (idOf i).unwrap P ss ∧
        (r.2 = none → r.1 ≠ []) ∧ (r.2 = age_ErrIncorrectIdentity → r.1 = [])
  mac : Bytes → format_Header → Go.M (Bytes × Option Go.Err)
  hMac : ∀ fk (h : Format.Header), mac fk (toGoHeader h) = .ok (headerMAC P fk h.stanzas, none)
  key : Bytes → Bytes → Go.M Bytes
  hKey : ∀ fk n, key fk n = .ok (streamKey P fk n)
  /-- `stream.NewReader(key, payload)`: the reader is identified with (key, payload) -/
  newReader : Bytes → Bytes → Go.M (Bytes × Option Go.Err)
  hNew : ∀ k p, newReader k p = .ok (k ++ p, none)

/-- the conversion `Decrypt` applies to each stanza of the parsed header (`format.Stanza` to `age.Stanza`) -/
def convStanza (s : format_Stanza) : age_Stanza := ⟨s.Type_, s.Args, s.Body⟩

theorem decrypt_loop1_eq : ∀ (fs : List format_Stanza) (acc : List age_Stanza),
    age_Decrypt_loop1 fs acc = .ok (.next (acc ++ fs.map convStanza))
  | [], acc => by simp only [age_Decrypt_loop1, List.map_nil, List.append_nil]; rfl
  | f :: fs, acc => by
    simp only [age_Decrypt_loop1, decrypt_loop1_eq fs, List.map_cons, List.append_assoc,
      List.singleton_append, convStanza]

theorem toGoHeader_stanzas (h : Format.Header) :
    (toGoHeader h).Recipients.map convStanza = h.stanzas.map toGoStanza := by
  simp only [toGoHeader, List.map_map]
  rfl

theorem decrypt_loop2_step {ι : Type} (U : ι → List age_Stanza → Go.M (Bytes × Option Go.Err))
    (st : List age_Stanza) (x : ι) (rest : List ι) (err : Option Go.Err)
    (enm : age_NoIdentityMatchError) (fk : Bytes) :
    age_Decrypt_loop2 U errorsIsEq st (x :: rest) err enm fk =
      U x st >>= fun r =>
        if r.2 = age_ErrIncorrectIdentity then
          age_Decrypt_loop2 U errorsIsEq st rest r.2 ⟨enm.Errors ++ [r.2]⟩ r.1
        else if r.2 = none then .ok (.next (r.2, enm, r.1)) else .ok (.ret ([], r.2)) := by
  simp only [age_Decrypt_loop2, errorsIsEq, Go.bind_ok, pure, Except.pure, beq_iff_eq, bne_iff_ne, ne_eq,
    ite_not]

theorem decrypt_loop2_prefix {P : Prims} {ι : Type} (E : DecryptEnv P ι) (ss : List Format.Stanza) (i : ι) (post : List ι)
    (hi : (E.idOf i).unwrap P ss ≠ .incorrect)
    (U' : ι → List age_Stanza → Go.M (Bytes × Option Go.Err)) :
    ∀ (pre : List ι), (∀ j, j ∈ pre ++ [i] → U' j = E.U j) → ∀ err enm fk,
      age_Decrypt_loop2 U' errorsIsEq (ss.map toGoStanza) (pre ++ i :: post) err enm fk =
      age_Decrypt_loop2 E.U errorsIsEq (ss.map toGoStanza) (pre ++ [i]) err enm fk
  | [], hU', err, enm, fk => by
    obtain ⟨r, hr, hc, _⟩ := E.hU i ss
    have hr' : U' i (ss.map toGoStanza) = .ok r := by rw [hU' i (by simp)]; exact hr
    have hne : r.2 ≠ age_ErrIncorrectIdentity := fun h => hi (hc ▸ resClass_of_incorrect h)
    simp only [List.nil_append, decrypt_loop2_step, hr', hr, Go.bind_ok, if_neg hne]
  | j :: pre, hU', err, enm, fk => by
    have ih := decrypt_loop2_prefix E ss i post hi U' pre (fun k hk => hU' k (by
      simp only [List.cons_append, List.mem_cons]; exact Or.inr hk))
    simp only [List.cons_append, decrypt_loop2_step, hU' j (by simp), ih]

theorem makeList_zero {α : Type} (z : α) : Go.makeList z (0 : Int) = .ok [] := rfl
theorem makeList_16 : Go.makeList (0 : UInt8) (16 : Int) = .ok (List.replicate 16 0) := rfl

abbrev DecLoopRes := Go.Loop (Option Go.Err × age_NoIdentityMatchError × Bytes) (Bytes × Option Go.Err)

/-- what the identity loop of the source leaves, for each outcome of the model's loop (`n`: the number of causes
    collected if nobody opened the file; `ids`: the identities still to consult, the first of them being number `c`
    of the whole list). On `.fatal idx` the loop returned, with no reader, the very error identity number `idx`
    answered -/
def decryptLoopSpec {ι : Type} (U : ι → Go.M (Bytes × Option Go.Err)) (ids : List ι) (c n : Nat) (l : DecLoopRes) :
    Except DecErr (Option Bytes) → Prop
  | .error (.fatal idx) => ∃ j r, c ≤ idx ∧ ids[idx - c]? = some j ∧ U j = .ok r ∧ r.2 ≠ none ∧
      r.2 ≠ age_ErrIncorrectIdentity ∧ l = .ret ([], r.2)
  | .error _ => False
  | .ok none => ∃ e enm', l = .next (e, enm', []) ∧ enm'.Errors.length = n
  | .ok (some k) => ∃ e enm', l = .next (e, enm', k) ∧ k ≠ []

theorem decryptLoopSpec_cons {ι : Type} (U : ι → Go.M (Bytes × Option Go.Err)) (i : ι) (ids : List ι) (c n : Nat)
    (l : DecLoopRes) (x : Except DecErr (Option Bytes)) (h : decryptLoopSpec U ids (c + 1) n l x) :
    decryptLoopSpec U (i :: ids) c n l x := by
  cases x with
  | error e =>
    cases e <;> simp only [decryptLoopSpec] at h ⊢
    obtain ⟨j, r, hc, hj, hrest⟩ := h
    refine ⟨j, r, by omega, ?_, hrest⟩
    rename_i idx
    have : idx - c = (idx - (c + 1)) + 1 := by omega
    rw [this, List.getElem?_cons_succ]
    exact hj
  | ok o => cases o <;> exact h

theorem decrypt_loop2_spec {P : Prims} {ι : Type} (E : DecryptEnv P ι) (ss : List Format.Stanza) :
    ∀ (ids : List ι) (err : Option Go.Err) (enm : age_NoIdentityMatchError) (nInc c : Nat),
      ∃ l, age_Decrypt_loop2 E.U errorsIsEq (ss.map toGoStanza) ids err enm [] = .ok l ∧
        decryptLoopSpec (fun j => E.U j (ss.map toGoStanza)) ids c
          (enm.Errors.length + countIncorrect P ss (ids.map E.idOf)) l
          (identityLoop P ss (ids.map E.idOf) nInc c).1
  | [], err, enm, nInc, c => ⟨.next (err, enm, []), rfl, err, enm, rfl, rfl⟩
  | i :: ids, err, enm, nInc, c => by
    obtain ⟨r, hr, hc, hne, hnil⟩ := E.hU i ss
    rw [decrypt_loop2_step, hr, Go.bind_ok]
    simp only [List.map_cons, identityLoop, countIncorrect, ← hc]
    by_cases h1 : r.2 = age_ErrIncorrectIdentity
    · simp only [if_pos h1, resClass_of_incorrect h1]
      rw [hnil h1]
      obtain ⟨l, hl, hs⟩ := decrypt_loop2_spec E ss ids r.2 ⟨enm.Errors ++ [r.2]⟩ (nInc + 1) (c + 1)
      refine ⟨l, hl, ?_⟩
      have hn : enm.Errors.length + (1 + countIncorrect P ss (ids.map E.idOf)) =
          (enm.Errors ++ [r.2]).length + countIncorrect P ss (ids.map E.idOf) := by
        rw [List.length_append, List.length_singleton]; omega
      rw [hn]; exact decryptLoopSpec_cons _ i ids c _ l _ hs
    · by_cases h2 : r.2 = none
      · simp only [if_neg h1, if_pos h2, resClass_of_none h2]
        exact ⟨_, rfl, r.2, enm, rfl, hne h2⟩
      · simp only [if_neg h1, if_neg h2, resClass_of_fatal h2 h1]
        exact ⟨_, rfl, i, r, Nat.le_refl c, by rw [Nat.sub_self]; rfl, hr, h2, h1, rfl⟩

theorem len_replicate16 : Go.len (List.replicate 16 (0 : UInt8)) = (16 : Int) := rfl

theorem dec_readFull_short (p : Bytes) (h : p.length < 16) :
    ((Go.io_ReadFullB p (16 : Int)).2.1 != none) = true := by
  have h16 : (16 : Int).toNat = 16 := rfl
  have hl : (p.take 16).length = p.length := by rw [List.length_take]; omega
  simp only [Go.io_ReadFullB, h16, hl]
  rw [if_neg (by omega)]
  split <;> rfl

theorem readFull_ok (p : Bytes) (h : ¬ p.length < 16) :
    Go.io_ReadFullB p (16 : Int) = (p.take 16, none, p.drop 16) := by
  have h16 : (16 : Int).toNat = 16 := rfl
  have hl : (p.take 16).length = 16 := by rw [List.length_take]; omega
  simp only [Go.io_ReadFullB, h16, hl, ↓reduceIte]

theorem decrypt_tie (P : Prims) {ι : Type} (E : DecryptEnv P ι) (file : Bytes) (ids : List ι) :
    ∃ res, age_Decrypt E.D E.U errorsIsEq E.mac E.newReader E.key file ids = .ok res ∧
      match (decryptInit P (ids.map E.idOf) file).1 with
      | .ok (k, payload) => res = (k ++ payload, none)
      | .error (.fatal idx) => ∃ hdr payload j r, Format.parse file = .ok (hdr, payload) ∧ ids[idx]? = some j ∧
          E.U j (hdr.stanzas.map toGoStanza) = .ok r ∧ r.2 ≠ none ∧ r.2 ≠ age_ErrIncorrectIdentity ∧ res = ([], r.2)
      | .error e => res = ([], decryptErr e none) := by
  cases ids with
  | nil => exact ⟨_, rfl, rfl⟩
  | cons i0 ids0 =>
    obtain ⟨res, hres, hm⟩ := parse_tie E.D E.eD E.hD file
    cases hp : Format.parse file with
    | error e =>
      rw [hp] at hm
      simp only at hm
      have hb : (res.2.2 != none) = true := by simpa using hm
      simp only [age_Decrypt, Go.len_beq_zero, hres, hb, bind, Except.bind, pure, Except.pure,
        decryptInit, hp, List.map_cons, List.isEmpty_cons, Bool.false_eq_true, ↓reduceIte]
      exact ⟨_, rfl, rfl⟩
    | ok p =>
      obtain ⟨hdr, payload⟩ := p
      rw [hp] at hm
      simp only at hm
      subst hm
      obtain ⟨l, hl, hs⟩ := decrypt_loop2_spec E hdr.stanzas (i0 :: ids0) none ⟨[]⟩ 0 0
      have he : (List.map E.idOf (i0 :: ids0)).isEmpty = false := rfl
      simp only [age_Decrypt, Go.len_beq_zero, List.isEmpty_cons, hres, bind, Except.bind, pure, Except.pure, makeList_zero,
        decrypt_loop1_eq, List.nil_append, toGoHeader_stanzas, hl, decryptInit, hp, he, Go.none_bne_none,
        Bool.false_eq_true, ↓reduceIte]
      generalize identityLoop P hdr.stanzas (List.map E.idOf (i0 :: ids0)) 0 0 = L at hs ⊢
      obtain ⟨a, c⟩ := L
      simp only [List.length_nil, Nat.zero_add] at hs
      cases a with
      | error e =>
        cases e <;> simp only [decryptLoopSpec] at hs
        obtain ⟨j, r, _, hj, hr, h1, h2, rfl⟩ := hs
        rw [Nat.sub_zero] at hj
        exact ⟨([], r.2), rfl, hdr, payload, j, r, rfl, hj, hr, h1, h2, rfl⟩
      | ok o =>
        cases o with
        | none =>
          obtain ⟨e, enm', rfl, hlen⟩ := hs
          exact ⟨_, rfl, by rw [← hlen]; rfl⟩
        | some k =>
          obtain ⟨e, enm', rfl, hk⟩ := hs
          have hk1 : (k == []) = false := by cases k with | nil => exact absurd rfl hk | cons _ _ => rfl
          have hk2 : k.isEmpty = false := by cases k with | nil => exact absurd rfl hk | cons _ _ => rfl
          have hM : (toGoHeader hdr).MAC = hdr.mac := rfl
          simp only [hk1, hk2, E.hMac, hM, makeList_16, len_replicate16, Go.none_bne_none, Go.bytes_Equal,
            Bool.false_eq_true, ↓reduceIte, streamNonceSize]
          by_cases hmac : headerMAC P k hdr.stanzas = hdr.mac
          · simp only [hmac, beq_self_eq_true, ne_eq, not_true_eq_false, Bool.not_true, Bool.false_eq_true,
              ↓reduceIte]
            by_cases hlen : payload.length < 16
            · simp only [dec_readFull_short payload hlen, hlen, ↓reduceIte]
              exact ⟨_, rfl, rfl⟩
            · have hw := Go.writeAt_fresh 16 (payload.take 16) (by rw [List.length_take]; omega)
              simp only [readFull_ok payload hlen, hw, E.hKey, E.hNew, hlen, Go.none_bne_none,
                Bool.false_eq_true, ↓reduceIte]
              exact ⟨_, rfl, rfl⟩
          · rw [beq_eq_false_iff_ne.mpr hmac, if_pos hmac]
            exact ⟨_, rfl, rfl⟩

/-- the identities are consulted in order and none after the first that does not answer
    "incorrect identity": whatever the later identities would do — fault included — is never
    asked for (`U'` is arbitrary outside `pre ++ [i]`) -/
theorem decrypt_consults_prefix (P : Prims) {ι : Type} (E : DecryptEnv P ι) (file : Bytes)
    (pre : List ι) (i : ι) (post : List ι) (hdr : Format.Header) (rest : Bytes)
    (hp : Format.parse file = .ok (hdr, rest))
    (hi : (E.idOf i).unwrap P hdr.stanzas ≠ .incorrect)
    (U' : ι → List age_Stanza → Go.M (Bytes × Option Go.Err))
    (hU' : ∀ j, j ∈ pre ++ [i] → U' j = E.U j) :
    age_Decrypt E.D U' errorsIsEq E.mac E.newReader E.key file (pre ++ i :: post) =
    age_Decrypt E.D E.U errorsIsEq E.mac E.newReader E.key file (pre ++ [i]) := by
  obtain ⟨res, hres, hm⟩ := parse_tie E.D E.eD E.hD file
  rw [hp] at hm
  simp only at hm
  subst hm
  have hne (post' : List ι) : (Go.len (pre ++ i :: post') == 0) = false := by
    rw [Go.len_beq_zero]; cases pre <;> rfl
  simp only [age_Decrypt, hne, hres, bind, Except.bind, pure, Except.pure, makeList_zero, decrypt_loop1_eq, List.nil_append, toGoHeader_stanzas]
  rw [decrypt_loop2_prefix E hdr.stanzas i post hi U' pre hU']

end GoTie
end AgeModel
