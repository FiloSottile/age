/-
  Proofs.TapeLayout — WHERE in the random tape each recipient's wrap runs.

  Encrypt draws the 16 bytes of the file key, then each recipient, in list order, draws `drawSize r` bytes.
  So the wrap of the recipient standing after `pre` runs on `tape.drop (16 + (pre.map drawSize).sum)`.
  `wrapAll_located` says of every recipient of an accepted list that it wrapped, on which tape, and that its labels
  sort to the one list all recipients share.

  A passphrase recipient's label is the hex of sixteen tape bytes; the last section shows that `hexLower` loses
  nothing, so equal labels are equal tape slices.
-/
import Proofs.FileEncrypt
namespace AgeModel
open Format

/-- bytes of the random tape each kind of recipient consumes -/
def drawSize : Recipient → Nat
  | .x25519 _ => 32 | .scrypt _ _ => 32 | .sshEd _ _ => 32 | .sshRsa _ _ => 32 | .custom _ _ => 0

/-- one recipient: a successful wrap consumed exactly the next `drawSize r` bytes
    of the tape and nothing else -/
theorem wrapOne_consumes (P : Prims) (r : Recipient) (fk tape : Bytes) (res : Option (List Stanza × List Bytes)) (t : Bytes)
    (h : wrapOne P r fk tape = .ok (res, t)) : ∃ used, tape = used ++ t ∧ used.length = drawSize r := by
  cases r with
  | x25519 _ | sshEd _ _ | sshRsa _ _ =>
    obtain ⟨eph, hd, _⟩ := draw32_wrap_ok h
    exact ⟨eph, (draw_spec hd).2, (draw_spec hd).1⟩
  | scrypt pw n =>
    obtain ⟨salt, lab, t1, hd, hd2, _⟩ := wrapOne_scrypt_ok h
    refine ⟨salt ++ lab, by rw [(draw_spec hd).2, (draw_spec hd2).2, List.append_assoc], ?_⟩
    rw [List.length_append, (draw_spec hd).1, (draw_spec hd2).1]; rfl
  | custom w l =>
    cases h
    exact ⟨[], rfl, rfl⟩

theorem wrapOne_rest (P : Prims) (r : Recipient) (fk tape : Bytes) (res : Option (List Stanza × List Bytes)) (t : Bytes)
    (h : wrapOne P r fk tape = .ok (res, t)) : t = tape.drop (drawSize r) := by
  obtain ⟨used, hu, hl⟩ := wrapOne_consumes P r fk tape res t h
  rw [hu, List.drop_left' hl]

/-- If the loop, started on the tape `tp`, runs to its end, then there is ONE sorted label
    list `l0` (the one already fixed on entry, if any) such that every recipient of the list — taken at its own place
    `rs = pre ++ r :: post` — wrapped successfully on `tp` less what the recipients before it consumed, and declared
    labels that sort to `l0`. -/
theorem wrapAll_located (P : Prims) (fk : Bytes) :
    ∀ (rs : List Recipient) (i : Nat) (tp : Bytes) (acc : List Stanza) (lb : Option (List Bytes)) (st : List Stanza) (t : Bytes),
      wrapAll P fk rs i tp acc lb = .ok (st, t) →
      ∃ l0 : List Bytes, (∀ x, lb = some x → l0 = x) ∧
        ∀ (pre : List Recipient) (r : Recipient) (post : List Recipient), rs = pre ++ r :: post →
          ∃ ss l t1, wrapOne P r fk (tp.drop (pre.map drawSize).sum) = .ok (some (ss, l), t1) ∧ sortLabels l = l0 := by
  intro rs
  induction rs with
  | nil =>
    intro i tp acc lb st t _
    exact ⟨lb.getD [], fun x hx => by rw [hx]; rfl, fun pre r post h => absurd h (by simp)⟩
  | cons r0 rs ih =>
    intro i tp acc lb st t h
    obtain ⟨ss0, l0, tp', hw0, hlb, hrec⟩ := wrapAll_cons_ok h
    obtain ⟨l1, hl1, hall⟩ := ih _ _ _ _ _ _ hrec
    cases hl1 _ rfl
    refine ⟨sortLabels l0, fun x hx => (hlb x hx).symm, ?_⟩
    intro pre r post hsplit
    cases pre with
    | nil => cases hsplit; exact ⟨ss0, l0, tp', hw0, rfl⟩
    | cons p pre' =>
      cases hsplit
      obtain ⟨ss, l, t1, hw, hl⟩ := hall pre' r post rfl
      rw [wrapOne_rest P _ fk tp _ tp' hw0, List.drop_drop] at hw
      exact ⟨ss, l, t1, by rwa [List.map_cons, List.sum_cons], hl⟩

/-- If Encrypt gets as far as a header, every recipient — taken at its own place
    `rs = pre ++ r :: post` — wrapped successfully on the REAL tape less the 16 bytes of the file key and less what the
    recipients before it consumed, and all the label lists, sorted, are one and the same list. -/
theorem encryptHeader_located (P : Prims) (tape : Bytes) (rs : List Recipient) (fk : Bytes) (st : List Stanza) (t : Bytes)
    (h : encryptHeader P tape rs = .ok (fk, st, t)) :
    ∃ l0 : List Bytes, ∀ (pre : List Recipient) (r : Recipient) (post : List Recipient), rs = pre ++ r :: post →
      ∃ ss l t1, wrapOne P r fk (tape.drop (16 + (pre.map drawSize).sum)) = .ok (some (ss, l), t1) ∧ sortLabels l = l0 := by
  obtain ⟨_, t0, hd0, hw⟩ := encryptHeader_fk h
  have ht0 : t0 = tape.drop 16 := (draw_eq hd0).2.2
  obtain ⟨l0, _, hall⟩ := wrapAll_located P fk rs 0 t0 [] none st t hw
  refine ⟨l0, ?_⟩
  intro pre r post hsplit
  obtain ⟨ss, l, t1, hw1, hl⟩ := hall pre r post hsplit
  rw [ht0, List.drop_drop] at hw1
  exact ⟨ss, l, t1, hw1, hl⟩

theorem wrapOne_label_scrypt_located (P : Prims) (pw : Bytes) (n : Nat) (fk tape : Bytes) (ss : List Stanza) (l : List Bytes) (t : Bytes)
    (h : wrapOne P (.scrypt pw n) fk tape = .ok (some (ss, l), t)) : l = [hexLower ((tape.drop 16).take 16)] := by
  obtain ⟨salt, lab, t1, hd, hd2, he⟩ := wrapOne_scrypt_ok h
  cases he
  rw [(draw_eq hd2).2.1, (draw_eq hd).2.2]; rfl

theorem encryptHeader_labels (P : Prims) (tape : Bytes) (rs : List Recipient) (fk : Bytes) (st : List Stanza) (t : Bytes)
    (h : encryptHeader P tape rs = .ok (fk, st, t)) :
    ∃ l0 : List Bytes, ∀ r ∈ rs, ∃ tp ss l t1, wrapOne P r fk tp = .ok (some (ss, l), t1) ∧ sortLabels l = l0 := by
  obtain ⟨l0, hall⟩ := encryptHeader_located P tape rs fk st t h
  refine ⟨l0, fun r hr => ?_⟩
  obtain ⟨pre, post, hsplit⟩ := List.append_of_mem hr
  exact ⟨_, hall pre r post hsplit⟩

/-! ### `hexLower` loses nothing -/

theorem hexLower_length (b : Bytes) : (hexLower b).length = 2 * b.length := by
  induction b with
  | nil => rfl
  | cons x xs ih => simp only [hexLower, List.flatMap_cons, List.length_append, List.length_cons, List.length_nil] at ih ⊢; omega

def hexNibble (n : Nat) : UInt8 := if n < 10 then (48 + n).toUInt8 else (87 + n).toUInt8

theorem hexLower_cons (x : UInt8) (xs : Bytes) :
    hexLower (x :: xs) = hexNibble (x.toNat / 16) :: hexNibble (x.toNat % 16) :: hexLower xs := rfl

def unhexNibble (c : UInt8) : Nat := if c.toNat < 58 then c.toNat - 48 else c.toNat - 87

theorem unhexNibble_hexNibble : ∀ n < 16, unhexNibble (hexNibble n) = n := by decide

def unhexLower : Bytes → Bytes
  | c :: d :: cs => UInt8.ofNat (unhexNibble c * 16 + unhexNibble d) :: unhexLower cs
  | _ => []

theorem unhexLower_hexLower : ∀ b : Bytes, unhexLower (hexLower b) = b
  | [] => rfl
  | x :: xs => by
    rw [hexLower_cons, unhexLower, unhexNibble_hexNibble _ (Nat.div_lt_of_lt_mul x.toNat_lt),
      unhexNibble_hexNibble _ (Nat.mod_lt _ (by decide)), Nat.div_add_mod', UInt8.ofNat_toNat, unhexLower_hexLower xs]

theorem hexLower_inj (a b : Bytes) (h : hexLower a = hexLower b) : a = b := by
  rw [← unhexLower_hexLower a, h, unhexLower_hexLower]

end AgeModel
