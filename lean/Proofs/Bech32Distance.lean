/-
  Proofs.Bech32Distance — from the kernel computation to the code fact:
  no non-zero error pattern of weight ≤ 4 within 58 symbols has zero syndrome
  (`noLowWeight4`: the BIP 173 design guarantee, for the lengths native age strings have).

  A pattern of weight ≤ 4 is a sum of at most four terms `Lpow k v`.  Dividing by
  the smallest power of `L` (`Lpow_eq_zero`: its kernel is trivial) leaves a symbol as
  last term, and scaling by a power of `A` makes the first symbol 1: what remains is
  excluded by `triple_ge` (Proofs/Bech32Sweep.lean).
-/
import Proofs.Bech32Sweep
import Proofs.Bech32Scalar
namespace AgeModel
namespace Bech32

theorem four_ne_zero {a b c d x y z w : Nat} (ha : a ≤ 57 + d) (hb : b < a) (hc : c < a) (hdb : d ≤ b) (hdc : d ≤ c)
    (hx1 : 1 ≤ x) (hx : x < 32) (hy : y < 32) (hz : z < 32) (hw : w < 32) :
    Lpow a x ^^^ Lpow b y ^^^ Lpow c z ^^^ Lpow d w ≠ 0 := by
  intro h
  have lt := Nat.xor_lt_two_pow (Nat.xor_lt_two_pow (Nat.xor_lt_two_pow (Lpow_lt (a - d) (lt30_of_lt32 hx))
    (Lpow_lt (b - d) (lt30_of_lt32 hy))) (Lpow_lt (c - d) (lt30_of_lt32 hz))) (lt30_of_lt32 hw)
  rw [Lpow_split (Nat.le_trans hdb (Nat.le_of_lt hb)) x, Lpow_split hdb y, Lpow_split hdc z, ← Lpow_xor, ← Lpow_xor,
    ← Lpow_xor] at h
  have := ge_of_normalised (fun y z => triple_ge (Nat.sub_le_of_le_add ha) (Nat.sub_lt_sub_right hdb hb)
    (Nat.sub_lt_sub_right hdc hc)) hx1 hx hy hz
  rw [xor_eq_zero (Lpow_eq_zero d lt h)] at this
  exact Nat.not_le_of_lt hw this

theorem termSum_ne_zero (ts : List (Nat × Nat)) (hok : TermsOK 58 ts) (hne : ts ≠ []) (hlen : ts.length ≤ 4) :
    termSum ts ≠ 0 := by
  have le57 {a d : Nat} (h : a < 58) : a ≤ 57 + d := Nat.le_trans (Nat.le_of_lt_succ h) (Nat.le_add_right 57 d)
  match ts, hok, hne, hlen with
  | [(a, x)], ⟨_, hx1, hx2, _⟩, _, _ =>
    intro h
    rw [termSum, termSum, Nat.xor_zero] at h
    exact Nat.ne_of_gt hx1 (Lpow_eq_zero a (lt30_of_lt32 hx2) h)
  | [(a, x), (b, y)], ⟨ha, hx1, hx2, hb, _, hy2, _⟩, _, _ =>
    have := four_ne_zero (c := b) (d := b) (z := 0) (w := 0) (le57 ha) hb hb (Nat.le_refl b) (Nat.le_refl b)
      hx1 hx2 hy2 (by decide) (by decide)
    simpa only [termSum, Lpow_zero, Nat.xor_zero] using this
  | [(a, x), (b, y), (c, z)], ⟨ha, hx1, hx2, hb, _, hy2, hc, _, hz2, _⟩, _, _ =>
    have := four_ne_zero (d := c) (w := 0) (le57 ha) hb (Nat.lt_trans hc hb) (Nat.le_of_lt hc) (Nat.le_refl c)
      hx1 hx2 hy2 hz2 (by decide)
    simpa only [termSum, Lpow_zero, Nat.xor_zero, Nat.xor_assoc] using this
  | [(a, x), (b, y), (c, z), (d, w)], ⟨ha, hx1, hx2, hb, _, hy2, hc, _, hz2, hd, _, hw2, _⟩, _, _ =>
    have := four_ne_zero (le57 ha) hb (Nat.lt_trans hc hb) (Nat.le_of_lt (Nat.lt_trans hd hc)) (Nat.le_of_lt hd)
      hx1 hx2 hy2 hz2 hw2
    simpa only [termSum, Nat.xor_zero, Nat.xor_assoc] using this
  | _ :: _ :: _ :: _ :: _ :: _, _, _, hl =>
    exact absurd (Nat.le_trans (Nat.le_add_left 5 _) hl) (by decide)

theorem noLowWeight4 : NoLowWeight 4 := by
  intro e hlen h32 hw hnz
  rw [synSum_eq_termSum]
  apply termSum_ne_zero
  · exact TermsOK_mono _ hlen (terms_ok e h32)
  · intro h
    obtain ⟨v, hv, hv0⟩ := hnz
    have : 0 < weight e := List.countP_pos_iff.mpr ⟨v, hv, by simpa using hv0⟩
    rw [← terms_length, h] at this
    exact Nat.lt_irrefl 0 this
  · rw [terms_length]; exact hw

end Bech32
end AgeModel
