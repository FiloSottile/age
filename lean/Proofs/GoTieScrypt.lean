/-
  Proofs.GoTieScrypt — the passphrase identity's guard, as it stands in the source.

  `(*ScryptIdentity).unwrap` and `(*ScryptIdentity).Unwrap` are TRANSLATED from scrypt.go on
  every run (AgeModel/Extracted/Funcs.lean; `age.multiUnwrap`, which `Unwrap` calls, is tied in
  Proofs/GoTieUnwrap.lean).
  Their callees outside the translated fragment — `format.DecodeString`, `scrypt.Key`,
  `aeadDecrypt`, `errors.Is` — are PARAMETERS of the translated definitions. The
  theorems say: whenever those parameters behave as the model's primitives do (explicit
  hypotheses), the translated functions answer what the model of AgeModel/Recipients.lean
  answers (`unwrapScrypt`, `multiUnwrap`, `Identity.unwrapLog (.scrypt …)`), for EVERY
  stanza list, passphrase and configured maximum; and — the part of C10/C14 that is about
  WORK — whenever the model derives no key (its key-derivation log is empty), the
  translated code returns its error WITHOUT EVER CALLING `scrypt.Key`: handed a
  `scrypt.Key` that faults when called, it still returns normally.
-/
import AgeModel.GoSem
import AgeModel.Recipients
import AgeModel.Extracted.Funcs
import Proofs.GoTieRunes
import Proofs.GoBuf
import Proofs.GoTieUnwrap
namespace AgeModel
namespace GoTie
open Extracted

theorem star_digits (s : List UInt8) : Go.reMatchHere true [⟨[(48,57)],true⟩] s = s.all Go.isDigit := by
  induction s with
  | nil => simp [Go.reMatchHere]
  | cons c s ih =>
    rw [Go.reMatchHere]
    simp [Go.reMatchHere, ih, Go.ReItem.has, Go.isDigit]

/-- the syntax test `unwrap` makes on the work factor: the source's `^[1-9][0-9]*$` -/
def wfSyntax (w : List UInt8) : Bool :=
  Go.regexp_MatchString [94, 91, 49, 45, 57, 93, 91, 48, 45, 57, 93, 42, 36] w

theorem wfSyntax_eq (w : List UInt8) : wfSyntax w =
    match w with
    | [] => false
    | d :: ds => (decide (49 ≤ d) && decide (d ≤ 57)) && ds.all Go.isDigit := by
  -- the pattern is closed: `regexp_MatchString` computes its items
  show Go.reMatchHere true [⟨[(49,57)],false⟩, ⟨[(48,57)],true⟩] w = _
  cases w with
  | nil => simp [Go.reMatchHere]
  | cons d ds =>
    rw [Go.reMatchHere.eq_def]
    simp [star_digits, Go.ReItem.has]

theorem digitsVal_fold_ge (ds : List UInt8) (acc : Nat) :
    acc ≤ ds.foldl (fun acc c => acc * 10 + (c.toNat - 48)) acc := by
  induction ds generalizing acc with
  | nil => simp
  | cons c cs ih =>
    simp only [List.foldl_cons]
    exact Nat.le_trans (by omega) (ih _)

theorem all_digit_eq (ds : List UInt8) :
    ds.all (fun c => decide (48 ≤ c.toNat) && decide (c.toNat ≤ 57)) = ds.all Go.isDigit := by
  congr 1

theorem parseWorkFactor_eq (w : List UInt8) :
    parseWorkFactor w =
      if wfSyntax w = true then
        (if Go.digitsVal w < 2 ^ 63 then some (Go.digitsVal w) else none)
      else none := by
  rw [wfSyntax_eq]
  cases w with
  | nil => simp [parseWorkFactor]
  | cons d ds =>
    simp only [parseWorkFactor, all_digit_eq, Go.digitsVal]
    simp [UInt8.le_iff_toNat_le, and_assoc]

theorem atoi_of_match (w : List UInt8)
    (h : wfSyntax w = true) :
    1 ≤ Go.digitsVal w ∧
    Go.strconv_Atoi w = if Go.digitsVal w < 2 ^ 63 then (Int.ofNat (Go.digitsVal w), none)
      else (9223372036854775807, some ⟨"strconv.Atoi", 1, []⟩) := by
  rw [wfSyntax_eq] at h
  cases w with
  | nil => simp at h
  | cons d ds =>
    simp only [Bool.and_eq_true, decide_eq_true_eq] at h
    obtain ⟨⟨h1, h2⟩, h3⟩ := h
    have h1n : 49 ≤ d.toNat := UInt8.le_iff_toNat_le.mp h1
    -- the first byte is a digit from 1 to 9, so it is neither sign
    have hsign : ∀ c : UInt8, c.toNat < 49 → (some d == some c) = false := fun c hc =>
      beq_eq_false_iff_ne.mpr fun e => by cases e; omega
    have hall : (d :: ds).all Go.isDigit = true := by
      rw [List.all_cons, h3, Bool.and_true, Go.isDigit, Bool.and_eq_true, decide_eq_true_eq, decide_eq_true_eq]
      exact ⟨UInt8.le_trans (by decide) h1, h2⟩
    refine ⟨Nat.le_trans (by omega) (digitsVal_fold_ge ds (0 * 10 + (d.toNat - 48))), ?_⟩
    unfold Go.strconv_Atoi
    simp only [List.head?_cons, hsign 43 (by decide), hsign 45 (by decide), Bool.false_eq_true, if_false, hall, List.isEmpty_cons, Bool.not_true, Bool.or_self]
    generalize Go.digitsVal (d :: ds) = v
    simp only [Int.ofNat_eq_natCast]
    by_cases hv : v < 2 ^ 63
    · rw [if_neg (by omega), if_neg (by omega), if_pos hv]
    · rw [if_pos (by omega), if_neg hv]
/-- the callees of `(*ScryptIdentity).unwrap`: `D` = `format.DecodeString` (`eD` its error), `K` =
    `scrypt.Key(password, salt, N, r, p, keyLen)`, `A` = `aeadDecrypt(key, size, ciphertext)` (a wrong size is
    the sentinel `errIncorrectCiphertextSize`, any other failure `eA`). `hne`: `unwrap` tests
    `== errIncorrectCiphertextSize` before `!= nil`, so the two must not be the same value. -/
structure ScryptEnv (P : Prims) where
  D : Bytes → Go.M (Bytes × Option Go.Err)
  K : Bytes → Bytes → Int → Int → Int → Int → Go.M (Bytes × Option Go.Err)
  A : Bytes → Int → Bytes → Go.M (Bytes × Option Go.Err)
  eD : Go.Err
  eA : Go.Err
  hD : ∀ a, D a = .ok (match Format.decodeString a with
                        | some b => (b, none)
                        | none => ([], some eD))
  hK : ∀ pw salt (logN : Nat), K pw salt ((2 : Int) ^ logN) 8 1 32 = .ok (P.scrypt pw salt logN, none)
  hA : ∀ k body, A k 16 body = .ok (match aeadDecryptSized P k 16 body with
                        | .key fk => (fk, none)
                        | .fatal => ([], age_errIncorrectCiphertextSize)
                        | .incorrect => ([], some eA))
  hne : some eA ≠ age_errIncorrectCiphertextSize

def scryptSiteErr (k : Nat) : Bytes × Option Go.Err := ([], some ⟨"age.(*ScryptIdentity).unwrap", k, []⟩)

/-- the part of `unwrap` after the `scrypt.Key` call, as a function of its answer -/
def scryptAfterKey (A : Bytes → Int → Bytes → Go.M (Bytes × Option Go.Err)) (body : Bytes)
    (t : Bytes × Option Go.Err) : Go.M (Bytes × Option Go.Err) :=
  if (t.2 != none) = true then pure (scryptSiteErr 7)
  else do
    let t4 ← A t.1 16 body
    if (t4.2 == age_errIncorrectCiphertextSize) = true then pure (scryptSiteErr 8)
    else if (t4.2 != none) = true then pure ([], age_ErrIncorrectIdentity)
    else pure (t4.1, none)

def scryptWfSite (w : Bytes) : Nat :=
  if wfSyntax w = true then 4 else 3

/-- what `unwrap` decides from the stanza alone, before any key is derived -/
inductive ScryptPlan (maxWF : Nat) where
  | incorrect
  | err (site : Nat)
  | derive (salt : Bytes) (logN : Nat) (h : logN ≤ maxWF)

def scryptPlan (maxWF : Nat) (s : Format.Stanza) : ScryptPlan maxWF :=
  if s.type ≠ tScrypt then .incorrect
  else match s.args with
    | [a, w] =>
      match Format.decodeString a with
      | none => .err 1
      | some salt =>
        if salt.length ≠ scryptSaltSize then .err 2
        else match parseWorkFactor w with
          | none => .err (scryptWfSite w)
          | some logN => if h : logN > maxWF then .err 5 else .derive salt logN (Nat.le_of_not_gt h)
    | _ => .err 0

theorem unwrapScrypt_plan (P : Prims) (pw : Bytes) (maxWF : Nat) (s : Format.Stanza) :
    unwrapScrypt P pw maxWF s =
      match scryptPlan maxWF s with
      | .incorrect => (.incorrect, [])
      | .err _ => (.fatal, [])
      | .derive salt logN _ => (aeadDecryptSized P (P.scrypt pw (scryptLabel ++ salt) logN) fileKeySize s.body, [logN]) := by
  obtain ⟨ty, args, body⟩ := s
  unfold unwrapScrypt scryptPlan
  by_cases ht : ty = tScrypt
  · rcases args with _ | ⟨a, _ | ⟨w, _ | ⟨x, rest⟩⟩⟩
    · simp only [ht, ne_eq, not_true_eq_false, ↓reduceIte]
    · simp only [ht, ne_eq, not_true_eq_false, ↓reduceIte]
    · simp only [ht, ne_eq, not_true_eq_false, ↓reduceIte]
      cases Format.decodeString a with
      | none => rfl
      | some salt =>
        by_cases hs : salt.length = scryptSaltSize
        · simp only [hs, not_true_eq_false, ↓reduceIte]
          cases parseWorkFactor w with
          | none => rfl
          | some logN => by_cases hm : logN > maxWF <;> simp only [hm, ↓reduceIte, ↓reduceDIte]
        · simp only [hs, not_false_eq_true, ↓reduceIte]
    · simp only [ht, ne_eq, not_true_eq_false, ↓reduceIte]
  · simp only [ht, ne_eq, not_false_eq_true, ↓reduceIte]

/-- the translated `unwrap` in closed form, for ANY `scrypt.Key` and `aeadDecrypt` -/
theorem scrypt_unwrap_closed (D : Bytes → Go.M (Bytes × Option Go.Err)) (eD : Go.Err)
    (hD : ∀ a, D a = .ok (match Format.decodeString a with
                        | some b => (b, none)
                        | none => ([], some eD)))
    (K : Bytes → Bytes → Int → Int → Int → Int → Go.M (Bytes × Option Go.Err))
    (A : Bytes → Int → Bytes → Go.M (Bytes × Option Go.Err))
    (pw : Bytes) (maxWF : Nat) (s : Format.Stanza) :
    age_ScryptIdentity_unwrap D K A ⟨pw, Int.ofNat maxWF⟩ (toGoStanza s) =
      match scryptPlan maxWF s with
      | .incorrect => .ok ([], age_ErrIncorrectIdentity)
      | .err k => .ok (scryptSiteErr k)
      | .derive salt logN _ => K pw (scryptLabel ++ salt) ((2 : Int) ^ logN) 8 1 32 >>= scryptAfterKey A s.body := by
  obtain ⟨ty, args, body⟩ := s
  rw [toGoStanza]
  unfold age_ScryptIdentity_unwrap scryptPlan
  by_cases ht : ty = tScrypt
  · rw [if_neg (not_not_intro ht)]
    refine (if_neg fun h => bne_iff_ne.mp h ht).trans ?_
    rcases args with _ | ⟨a, _ | ⟨w, _ | ⟨x, rest⟩⟩⟩
    · rfl
    · rfl
    · have hl : (Go.len [a, w] != 2) = false := rfl
      have h0 : Go.idx [a, w] 0 = .ok a := rfl
      have h1 : Go.idx [a, w] 1 = .ok w := rfl
      simp only [hl, Bool.false_eq_true, if_false, h0, h1, hD, Go.bind_ok]
      cases hdec : Format.decodeString a with
      | none => rfl
      | some salt =>
        by_cases hs : salt.length = 16
        · have hl2 : (Go.len salt != 16) = false := Go.len_bne_of_eq hs
          simp only [Go.none_bne_none, hl2, Bool.false_eq_true, if_false, scryptSaltSize, hs, ne_eq, not_true_eq_false]
          rw [parseWorkFactor_eq]
          simp only [← wfSyntax.eq_1]
          cases hm : wfSyntax w with
          | false =>
            simp only [Bool.not_false, if_true, Bool.false_eq_true, if_false, scryptWfSite, hm]; rfl
          | true =>
            obtain ⟨hge, hatoi⟩ := atoi_of_match w hm
            simp only [Bool.not_true, Bool.false_eq_true, if_false, if_true]
            by_cases hv : Go.digitsVal w < 2 ^ 63
            · rw [if_pos hv] at hatoi
              simp only [hatoi, Go.none_bne_none, Bool.false_eq_true, if_false, if_pos hv]
              generalize Go.digitsVal w = v at hge
              by_cases hmax : v > maxWF
              · have hd : decide (Int.ofNat v > Int.ofNat maxWF) = true := by
                  simp only [Int.ofNat_eq_natCast, decide_eq_true_eq]; omega
                simp only [hd, if_true, dif_pos hmax]; rfl
              · have hd : decide (Int.ofNat v > Int.ofNat maxWF) = false := by
                  simp only [Int.ofNat_eq_natCast, decide_eq_false_iff_not]; omega
                have hd0 : decide (Int.ofNat v ≤ 0) = false := by
                  simp only [Int.ofNat_eq_natCast, decide_eq_false_iff_not]; omega
                simp only [hd, hd0, Bool.false_eq_true, if_false, Go.shiftCount_ofNat, Go.bind_ok, Go.shlInt_one, dif_neg hmax]
                rfl
            · rw [if_neg hv] at hatoi
              have hn2 : (some (⟨"strconv.Atoi", 1, []⟩ : Go.Err) != none) = true := rfl
              simp only [hatoi, hn2, if_true, if_neg hv, scryptWfSite, hm]; rfl
        · have hl2 : (Go.len salt != 16) = true := Go.len_bne_of_ne hs
          simp only [Go.none_bne_none, hl2, Bool.false_eq_true, if_false, if_true, scryptSaltSize, hs, ne_eq, not_false_eq_true]; rfl
    · exact if_pos (Go.len_bne_of_ne (by simp only [List.length_cons]; omega))
  · rw [if_pos ht]
    exact if_pos (bne_iff_ne.mpr ht)

/-- what the native `unwrap`s do with the answer of `aeadDecrypt`: a wrong size is an error of the
    caller's own (`e`), any other failure is "incorrect identity" -/
theorem aead_answer (P : Prims) (E : ScryptEnv P) (k body : Bytes) {e : Bytes × Option Go.Err}
    (he : resClass e = .fatal) :
    ∃ r, (E.A k 16 body >>= fun t =>
        if (t.2 == age_errIncorrectCiphertextSize) = true then pure e
        else if (t.2 != none) = true then pure ([], age_ErrIncorrectIdentity)
        else pure (t.1, none)) = .ok r ∧
      resClass r = aeadDecryptSized P k 16 body := by
  rw [E.hA, Go.bind_ok]
  cases aeadDecryptSized P k 16 body with
  | key fk => exact ⟨_, rfl, resClass_of_none rfl⟩
  | fatal => exact ⟨e, if_pos (beq_self_eq_true _), he⟩
  | incorrect =>
    exact ⟨_, (if_neg (Bool.eq_false_iff.mp (beq_eq_false_iff_ne.mpr E.hne))).trans (if_pos (Go.some_bne_none _)),
      resClass_incorrect⟩

theorem scryptAfterKey_env (P : Prims) (E : ScryptEnv P) (k body : Bytes) :
    ∃ r, scryptAfterKey E.A body (k, none) = .ok r ∧ resClass r = aeadDecryptSized P k 16 body :=
  run_if_neg Bool.false_ne_true (aead_answer P E k body (resClass_site 8))

/-- the translated `unwrap` either answers without calling the KDF `K`, or calls it once with the model's arguments and
    goes on as `scryptAfterKey`; the `∀ K` in both cases is what `scrypt_unwrap_no_kdf` and `scrypt_unwrap_kdf_args`
    are read off -/
theorem scrypt_unwrap_cases (P : Prims) (E : ScryptEnv P) (pw : Bytes) (maxWF : Nat) (s : Format.Stanza) :
    ((unwrapScrypt P pw maxWF s).2 = [] ∧ ∃ r, resClass r = (unwrapScrypt P pw maxWF s).1 ∧
        ∀ K, age_ScryptIdentity_unwrap E.D K E.A ⟨pw, Int.ofNat maxWF⟩ (toGoStanza s) = .ok r)
    ∨ (∃ salt logN, (unwrapScrypt P pw maxWF s).2 = [logN] ∧ logN ≤ maxWF ∧
        (unwrapScrypt P pw maxWF s).1 = aeadDecryptSized P (P.scrypt pw (scryptLabel ++ salt) logN) 16 s.body ∧
        ∀ K, age_ScryptIdentity_unwrap E.D K E.A ⟨pw, Int.ofNat maxWF⟩ (toGoStanza s) =
          K pw (scryptLabel ++ salt) ((2 : Int) ^ logN) 8 1 32 >>= scryptAfterKey E.A s.body) := by
  rw [unwrapScrypt_plan]
  cases hp : scryptPlan maxWF s with
  | incorrect => exact .inl ⟨rfl, _, resClass_incorrect, fun K => by rw [scrypt_unwrap_closed _ E.eD E.hD, hp]⟩
  | err k => exact .inl ⟨rfl, scryptSiteErr k, resClass_site k, fun K => by rw [scrypt_unwrap_closed _ E.eD E.hD, hp]⟩
  | derive salt logN hle =>
    exact .inr ⟨salt, logN, rfl, hle, rfl, fun K => by rw [scrypt_unwrap_closed _ E.eD E.hD, hp]⟩

theorem scrypt_unwrap_tie (P : Prims) (E : ScryptEnv P) (pw : Bytes) (maxWF : Nat) (s : Format.Stanza) :
    ∃ r, age_ScryptIdentity_unwrap E.D E.K E.A ⟨pw, Int.ofNat maxWF⟩ (toGoStanza s) = .ok r ∧
      resClass r = (unwrapScrypt P pw maxWF s).1 := by
  rcases scrypt_unwrap_cases P E pw maxWF s with ⟨_, r, hr, hK⟩ | ⟨salt, logN, _, _, h1, hK⟩
  · exact ⟨r, hK _, hr⟩
  · obtain ⟨r, hr, hc⟩ := scryptAfterKey_env P E (P.scrypt pw (scryptLabel ++ salt) logN) s.body
    refine ⟨r, ?_, by rw [hc, h1]⟩
    rw [hK, E.hK, Go.bind_ok, hr]

/-- no key-derivation work unless the model logs it: with a `scrypt.Key` that FAULTS when
    called, the translated `unwrap` still returns normally whenever the model's log is empty
    (type mismatch, wrong arity, bad salt, non-canonical or too large work factor) -/
theorem scrypt_unwrap_no_kdf (P : Prims) (E : ScryptEnv P) (pw : Bytes) (maxWF : Nat) (s : Format.Stanza)
    (h : (unwrapScrypt P pw maxWF s).2 = []) :
    ∃ r, age_ScryptIdentity_unwrap E.D (fun _ _ _ _ _ _ => .error (.panic 99)) E.A ⟨pw, Int.ofNat maxWF⟩ (toGoStanza s) = .ok r ∧
      resClass r = (unwrapScrypt P pw maxWF s).1 := by
  rcases scrypt_unwrap_cases P E pw maxWF s with ⟨_, r, hr, hK⟩ | ⟨salt, logN, hl, _, _, _⟩
  · exact ⟨r, hK _, hr⟩
  · rw [h] at hl; cases hl

/-- … and when it does derive one, the cost parameter handed to `scrypt.Key` is `2^logN` with
    `logN ≤ maxWF` the logged factor (`r = 8`, `p = 1`, 32 bytes) -/
theorem scrypt_unwrap_kdf_args (P : Prims) (E : ScryptEnv P) (pw : Bytes) (maxWF : Nat) (s : Format.Stanza)
    (logN : Nat) (h : (unwrapScrypt P pw maxWF s).2 = [logN]) :
    logN ≤ maxWF ∧
    ∀ K', (∀ salt, K' pw salt ((2 : Int) ^ logN) 8 1 32 = E.K pw salt ((2 : Int) ^ logN) 8 1 32) →
      age_ScryptIdentity_unwrap E.D K' E.A ⟨pw, Int.ofNat maxWF⟩ (toGoStanza s) =
      age_ScryptIdentity_unwrap E.D E.K E.A ⟨pw, Int.ofNat maxWF⟩ (toGoStanza s) := by
  rcases scrypt_unwrap_cases P E pw maxWF s with ⟨hl, _⟩ | ⟨salt, logN', hl, hle, _, hK⟩
  · rw [h] at hl; cases hl
  · rw [h] at hl
    cases hl
    refine ⟨hle, fun K' hK' => ?_⟩
    rw [hK K', hK E.K, hK']

def scryptUnwrapErr : Bytes × Option Go.Err := ([], some ⟨"age.(*ScryptIdentity).Unwrap", 0, []⟩)

/-- the loop both passphrase identities (the library's and cmd/age's lazy one) run first; `n` is the header's
    length as the code computed it -/
theorem scryptAlone_loop {ρ : Type} (f : List age_Stanza → Go.M (Go.Loop Unit ρ)) (n : Int) (e : ρ)
    (hnil : f [] = .ok (.next ()))
    (hcons : ∀ x xs, f (x :: xs) =
      if (x.Type_ == [115, 99, 114, 121, 112, 116] && (n != 1)) = true then .ok (.ret e) else f xs)
    (ss : List Format.Stanza) :
    f (ss.map toGoStanza) =
      if (ss.any (fun s => s.type = tScrypt) && (n != 1)) = true then .ok (.ret e) else .ok (.next ()) := by
  rw [searchLoop_eq f _ e hnil hcons, List.any_map]
  have : (ss.any ((fun x : age_Stanza => x.Type_ == [115, 99, 114, 121, 112, 116] && (n != 1)) ∘ toGoStanza)) =
      (ss.any (fun s => s.type = tScrypt) && (n != 1)) := by
    induction ss with
    | nil => rfl
    | cons s ss ih =>
      rw [List.any_cons, List.any_cons, ih]
      show ((s.type == tScrypt && (n != 1)) || _) = _
      by_cases h : s.type = tScrypt <;> cases (n != 1) <;> simp [h]
  rw [this]
  split <;> rfl

theorem scrypt_Unwrap_loop (stanzas : List age_Stanza) (ss : List Format.Stanza) :
    age_ScryptIdentity_Unwrap_loop1 stanzas (ss.map toGoStanza) =
      if (ss.any (fun s => s.type = tScrypt) && (Go.len stanzas != 1)) = true then .ok (.ret scryptUnwrapErr)
      else .ok (.next ()) :=
  scryptAlone_loop _ _ _ rfl (fun _ _ => rfl) ss

theorem len_map_ne_one (ss : List Format.Stanza) :
    (Go.len (ss.map toGoStanza) != 1) = decide (ss.length ≠ 1) := by
  simp only [Go.len, List.length_map, Int.ofNat_eq_natCast]
  by_cases h : ss.length = 1
  · simp [h]
  · have : ((ss.length : Int) != 1) = true := by simp only [bne_iff_ne, ne_eq]; omega
    simp [this, h]

theorem multiUnwrapLog_fst (f : Format.Stanza → UnwrapResult × List Nat) (ss : List Format.Stanza) :
    (multiUnwrapLog f ss).1 = multiUnwrap (fun s => (f s).1) ss := by
  induction ss with
  | nil => rfl
  | cons s ss ih =>
    simp only [multiUnwrapLog, multiUnwrap]
    rcases hf : f s with ⟨r, l⟩
    cases r <;> simp [ih]

theorem scrypt_Unwrap_tie (P : Prims) (E : ScryptEnv P) (pw : Bytes) (maxWF : Nat) (ss : List Format.Stanza) :
    ∃ r, age_ScryptIdentity_Unwrap errorsIsEq E.D E.K E.A ⟨pw, Int.ofNat maxWF⟩ (ss.map toGoStanza) = .ok r ∧
      resClass r = (Identity.unwrapLog P (.scrypt pw maxWF) ss).1 := by
  simp only [age_ScryptIdentity_Unwrap, scrypt_Unwrap_loop, len_map_ne_one, Identity.unwrapLog]
  by_cases hc : ss.any (fun s => s.type = tScrypt) = true ∧ ss.length ≠ 1
  · have hb : (ss.any (fun s => s.type = tScrypt) && decide (ss.length ≠ 1)) = true := by
      simp only [Bool.and_eq_true, decide_eq_true_eq]; exact hc
    rw [if_pos hb, if_pos hc]
    exact ⟨scryptUnwrapErr, rfl, resClass_site 0⟩
  · have hb : ¬ (ss.any (fun s => s.type = tScrypt) && decide (ss.length ≠ 1)) = true := by
      simp only [Bool.and_eq_true, decide_eq_true_eq]; exact hc
    rw [if_neg hb, if_neg hc, multiUnwrapLog_fst]
    obtain ⟨r, hr, hcl⟩ := multiUnwrap_of_unwrap (scrypt_unwrap_tie P E pw maxWF) ss
    exact ⟨r, by rw [Go.bind_ok, hr]; rfl, hcl⟩

/-- a header in which a passphrase stanza is not alone is refused before anything else:
    no `DecodeString`, no `scrypt.Key`, no `aeadDecrypt` call (all three fault when called) -/
theorem scrypt_Unwrap_alone (pw : Bytes) (maxWF : Int) (ss : List Format.Stanza)
    (h : ss.any (fun s => s.type = tScrypt) = true) (hn : ss.length ≠ 1) :
    age_ScryptIdentity_Unwrap errorsIsEq (fun _ => .error (.panic 97)) (fun _ _ _ _ _ _ => .error (.panic 98))
      (fun _ _ _ => .error (.panic 99)) ⟨pw, maxWF⟩ (ss.map toGoStanza) =
      .ok ([], some ⟨"age.(*ScryptIdentity).Unwrap", 0, []⟩) := by
  have hb : (ss.any (fun s => s.type = tScrypt) && decide (ss.length ≠ 1)) = true := by
    simp only [Bool.and_eq_true, decide_eq_true_eq]; exact ⟨h, hn⟩
  simp only [age_ScryptIdentity_Unwrap, scrypt_Unwrap_loop, len_map_ne_one]
  rw [if_pos hb]
  rfl

end GoTie
end AgeModel
