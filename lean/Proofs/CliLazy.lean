/-
  Proofs.CliLazy — the two cases of the command line tool's passphrase identity (`CliIdent.lazyUnwrap`):
  a header that is one passphrase stanza, and every other header.
-/
import AgeModel.CliIdent
namespace AgeModel.CliIdent
open Format

theorem lazyUnwrap_lone (P : Prims) (ask : Option Bytes) (m : Nat) {s : Stanza} (hs : s.type = tScrypt) :
    lazyUnwrap P ask m [s] =
      match ask with
      | none => (.fatal, true)
      | some pw =>
        if !newScryptIdentityOK pw then (.fatal, true)
        else match (Identity.scrypt pw m).unwrap P [s] with
          | .incorrect => (.fatal, true)
          | r => (r, true) := by
  simp only [lazyUnwrap, List.length_singleton, ne_eq, not_true_eq_false, and_false, if_false, hs]
  rfl

theorem lazyUnwrap_not_lone (P : Prims) (ask : Option Bytes) (m : Nat) {ss : List Stanza}
    (h : ¬ ∃ s, ss = [s] ∧ s.type = tScrypt) :
    lazyUnwrap P ask m ss = (.fatal, false) ∨ lazyUnwrap P ask m ss = (.incorrect, false) := by
  by_cases hc : ss.any (fun s => s.type = tScrypt) ∧ ss.length ≠ 1
  · exact .inl (if_pos hc)
  · refine .inr ((if_neg hc).trans ?_)
    match ss, h with
    | [], _ => rfl
    | [s], h => exact if_pos fun hs => h ⟨s, rfl, hs⟩
    | _ :: _ :: _, _ => rfl

end AgeModel.CliIdent
