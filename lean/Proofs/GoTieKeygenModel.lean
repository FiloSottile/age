/-
  Proofs.GoTieKeygenModel — the translated `convert` and `generate` of age-keygen REFINE the
  command-line model of Props/C15 (AgeModel/Cli.lean): with the outside world read as the model's
  process state (`Cli.Proc`), a destination as the model's `KDest`, and `fmt.Fprintf(out, …)` as
  ONE `Cli.kwrite` of the formatted text (success iff the model's write succeeds), the translated
  `-y` loop IS `Cli.kwriteLines` over the recipient lines — same final process state, and it ends
  the process (exit site 3) exactly where the model's loop stops at a failed write — and the
  translated `generate` IS `kwriteLines` of the one key-file text. So `keygen_exit0_iff` and the
  other theorems of Props/C15 about `krun`'s writing phase speak about the loop in the source.
-/
import AgeModel.Cli
import Proofs.GoTieKeygen
import Proofs.GoBind
namespace AgeModel
namespace GoTie
open Extracted Cli

/-- `fmt.Fprintf(out, "%s\n", line)` read in the model: one `kwrite` of the line and its newline -/
def kFprintfLine (eW : Go.Err) (out : KDest) (_fmt : Bytes) (rc : Bytes) (p : Proc) : Go.M (Int × Option Go.Err × Proc) :=
  let r := kwrite out p (rc ++ [10])
  .ok (if r.2 then Int.ofNat (rc.length + 1) else 0, if r.2 then none else some eW, r.1)

theorem keygen_convert_loop_refines {ι : Type} (eW : Go.Err) (isX : ι → Bool) (rcOf : ι → Bytes) (out : KDest) (ids : List ι)
    (hX : ∀ id ∈ ids, isX id = true) : ∀ (p : Proc),
    keygen_convert_loop1 isX (fun id t => .ok (rcOf id, t)) (kFprintfLine eW) out ids p =
      match kwriteLines out p (ids.map fun id => rcOf id ++ [10]) with
      | (p', true) => .ok (.next p')
      | (_, false) => .error (.panic 1003) := by
  induction ids with
  | nil => intro p; rfl
  | cons id rest ih =>
    intro p
    rw [keygen_convert_loop_cons, if_pos (hX id List.mem_cons_self), Go.bind_ok, kFprintfLine, Go.bind_ok,
      List.map_cons, kwriteLines]
    rcases kwrite out p (rcOf id ++ [10]) with ⟨p1, _ | _⟩
    · rfl
    · exact ih (fun i hi => hX i (List.mem_cons_of_mem _ hi)) p1

/-- `age-keygen -y`, writing phase: the translated `convert` against the model's `kwriteLines` -/
theorem keygen_convert_refines {ι : Type} (eW : Go.Err) (rcOf : ι → Bytes) (ids : List ι) (hne : ids ≠ [])
    (inp : Bytes) (out : KDest) (p : Proc) :
    keygen_convert (fun _ t => .ok (ids, none, t)) (fun _ => true) (fun id t => .ok (rcOf id, t)) (kFprintfLine eW) inp out p =
      match kwriteLines out p (ids.map fun id => rcOf id ++ [10]) with
      | (p', true) => .ok p'
      | (_, false) => .error (.panic 1003) := by
  simp only [keygen_convert_eq, Go.bind_ok, bne_self_eq_false, Bool.false_eq_true, if_false, hne,
    keygen_convert_loop_refines eW (fun _ => true) rcOf out ids (fun _ _ => rfl) p]
  rcases kwriteLines out p (ids.map fun id => rcOf id ++ [10]) with ⟨p', _ | _⟩ <;> rfl

/-- the one `Fprintf` of `generate`, read in the model: one `kwrite` of the key-file text -/
def kFprintfKey {ι : Type} (eW : Go.Err) (text : Bytes) (out : KDest) (_fmt _ts _rc : Bytes) (_k : ι) (p : Proc) :
    Go.M (Int × Option Go.Err × Proc) :=
  let r := kwrite out p text
  .ok (if r.2 then Int.ofNat text.length else 0, if r.2 then none else some eW, r.1)

/-- `age-keygen` without `-y`, writing phase: the translated `generate` against `kwriteLines` of the one key-file text; the
    copy of the public key to standard error (whatever becomes of it) leaves the modelled state alone -/
theorem keygen_generate_refines {ι θ : Type} (eW : Go.Err) (text : Bytes) (k : ι) (fd : Int) (isTerm : Bool) (rc ts : Bytes)
    (now : θ) (e1 : Option Go.Err) (n1 : Int) (stderr out : KDest) (p : Proc) :
    keygen_generate (fun t => .ok (k, none, t)) (fun _ t => .ok (fd, t)) (fun _ t => .ok (isTerm, t)) stderr
        (fun _ t => .ok (rc, t)) (fun _ _ _ t => .ok (n1, e1, t)) (fun _ _ t => .ok (ts, t)) (fun t => .ok (now, t))
        (kFprintfKey eW text) out p =
      match kwriteLines out p [text] with
      | (p', true) => .ok p'
      | (_, false) => .error (.panic 1001) := by
  rw [keygen_generate_tie]
  simp only [generateModel, kFprintfKey, kwriteLines, bind, Except.bind, pure, Except.pure, bne_self_eq_false,
    Bool.false_eq_true, if_false]
  cases isTerm <;>
  · simp only [Bool.false_eq_true, if_false, if_true]
    cases hw : kwrite out p text with
    | mk p1 ok => cases ok <;> simp <;> rfl

end GoTie
end AgeModel
