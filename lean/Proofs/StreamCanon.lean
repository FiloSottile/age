/-
  Proofs.StreamCanon — for a key exactly one byte string decrypts cleanly to a
  given plaintext (uniqueness of the accepted chunking).
-/
import Proofs.StreamSpec
namespace AgeModel
namespace Stream

theorem open_len (A : AEAD) (hA : A.Correct) {k n c p} (h : A.openF k n c = some p) :
    c.length = p.length + A.T := by
  have := hA.open_unique k n c p h
  rw [this, hA.seal_len]

theorem own_chunking_aux (A : AEAD) (hA : A.Correct) (C : Nat) (hC : 0 < C) (k : Bytes) :
    ∀ (fuel : Nat) (i : Nat) (c out : Bytes),
      decFrom A C k false i c fuel = (out, .eof) → c = enc A C k i out ∧ (i = 0 ∨ out ≠ []) := by
  intro fuel
  induction fuel with
  | zero => intro i c out h; cases (Prod.mk.inj h).2
  | succ fuel ih =>
    intro i c out h
    have hT := hA.T_pos
    by_cases hs : c.length < C + A.T
    · -- a short rest: only the final chunk, non-empty unless it is the first, ends cleanly
      rw [decFrom_short A C k false i c fuel hs, if_neg Bool.false_ne_true] at h
      by_cases h0 : c.length = 0
      · rw [if_pos h0] at h; cases (Prod.mk.inj h).2
      rw [if_neg h0] at h
      by_cases he : i ≠ 0 ∧ c.length = A.T
      · rw [if_pos he] at h; cases (Prod.mk.inj h).2
      rw [if_neg he] at h
      cases hop : A.openF k (nonce i true) c with
      | none => rw [hop] at h; cases (Prod.mk.inj h).2
      | some p =>
        rw [hop] at h
        cases (Prod.mk.inj h).1
        have hl := open_len A hA hop
        refine ⟨by rw [enc_short A C k i out (by omega)]; exact hA.open_unique _ _ _ _ hop, ?_⟩
        by_cases hi : i = 0
        · exact Or.inl hi
        · exact Or.inr fun hp => he ⟨hi, by rw [hl, hp]; exact Nat.zero_add _⟩
    · have htl : (c.take (C + A.T)).length = C + A.T := by rw [List.length_take]; omega
      cases hop : A.openF k (nonce i false) (c.take (C + A.T)) with
      | some p =>
        -- a non-final chunk: the rest is the canonical encryption of a non-empty remainder
        rw [decFrom_full_some A C k false i c fuel hs hop] at h
        obtain ⟨hrest, hne⟩ := ih (i+1) (c.drop (C + A.T)) _ (Prod.ext rfl (Prod.mk.inj h).2)
        cases (Prod.mk.inj h).1
        have hq := hne.resolve_left (Nat.succ_ne_zero i)
        have hl := open_len A hA hop
        refine ⟨?_, Or.inr fun h => hq (List.append_eq_nil_iff.mp h).2⟩
        rw [enc_cons_chunk A C hC k i p _ (by omega) hq, ← hrest, ← hA.open_unique _ _ _ _ hop, List.take_append_drop]
      | none =>
        cases hop' : A.openF k (nonce i true) (c.take (C + A.T)) with
        | none => rw [decFrom_full_fail A C k false i c fuel hs hop hop'] at h; cases (Prod.mk.inj h).2
        | some p =>
          rw [decFrom_full_last A C k false i c fuel hs hop hop'] at h
          by_cases hd : (c.drop (C + A.T)).length = 0
          · -- a full final chunk with nothing after it
            rw [if_pos hd] at h
            cases (Prod.mk.inj h).1
            have hl := open_len A hA hop'
            have hc : c.take (C + A.T) = c := List.take_of_length_le (by rw [List.length_drop] at hd; omega)
            refine ⟨?_, Or.inr (List.ne_nil_of_length_pos (by omega))⟩
            rw [enc_short A C k i out (by omega), ← hA.open_unique _ _ _ _ hop', hc]
          · rw [if_neg hd] at h; cases (Prod.mk.inj h).2

theorem accepts_only_own_chunking (A : AEAD) (hA : A.Correct) (C : Nat) (hC : 0 < C) (k c out : Bytes)
    (h : decrypt A C k c = (out, .eof)) : c = encrypt A C k out :=
  (own_chunking_aux A hA C hC k _ 0 c out h).1

end Stream
end AgeModel
