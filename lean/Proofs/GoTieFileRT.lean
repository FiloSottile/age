/-
  Proofs.GoTieFileRT — Encrypt then Decrypt, stated about the two translated functions.

  `code_file_roundtrip` composes `encrypt_tie` and `decrypt_tie` with the model's facts about what
  `Encrypt` writes and what `Decrypt` makes of an intact header: when the translated `age.Encrypt`
  has run on an empty destination that takes every write, the destination holds header ‖ nonce and
  the returned writer seals under the stream key K derived from the file key and that nonce; and
  for EVERY byte string `c` written after it, the translated `age.Decrypt` over the destination's
  bytes followed by `c` — with any identity list in which the first identity that does not answer
  "incorrect identity" opens the file key — returns a reader under the SAME key K over exactly `c`.
  With `code_stream_roundtrip` (the translated stream writer and reader under one key return what
  was written) that is the whole pipeline of C01 at the level of the source text.
-/
import Proofs.GoTieEncrypt
import Proofs.GoTieDecrypt
import Proofs.FileWrite
import Proofs.FileEncrypt
namespace AgeModel
namespace GoTie
open Extracted Format Stream

theorem code_file_roundtrip (P : Prims) (hP : P.Correct) {ρ δ ω ι : Type}
    (EE : EncryptEnv P DstSpec.perfect ρ δ ω) (DE : DecryptEnv P ι)
    (d : δ) (hd : (EE.absD d).acc = []) (rs : List ρ) (tape : Bytes)
    (hrs : ∀ r ∈ rs.map EE.recOf, r.ProducesWF P)
    (fk : Bytes) (stanzas : List Stanza) (t nonce t' : Bytes)
    (hh : encryptHeader P tape (rs.map EE.recOf) = .ok (fk, stanzas, t))
    (hn : draw streamNonceSize t = some (nonce, t'))
    (pre post : List ι) (id : ι)
    (hpre : ∀ i ∈ pre, (DE.idOf i).unwrap P stanzas = .incorrect) (hid : (DE.idOf id).unwrap P stanzas = .key fk) :
    ∃ res, age_Encrypt EE.nilW (tapeRead EE.eRand) EE.W EE.mac EE.marshalF EE.write EE.newWriter EE.key d rs tape = .ok res ∧
      res.2.1 = none ∧ res.1 = EE.mkW (streamKey P fk nonce) res.2.2.1 ∧ res.2.2.2 = t' ∧
      (EE.absD res.2.2.1).acc = headerBytes P fk stanzas ++ nonce ∧
      ∀ c : Bytes, age_Decrypt DE.D DE.U errorsIsEq DE.mac DE.newReader DE.key ((EE.absD res.2.2.1).acc ++ c) (pre ++ id :: post) =
        .ok (streamKey P fk nonce ++ c, none) := by
  obtain ⟨res, hrun, hres⟩ := encrypt_tie P EE d rs tape
  obtain ⟨w, d2, hinit⟩ := encryptInit_neverFails DstSpec.perfect_neverFails P tape (rs.map EE.recOf) EE.hdrSegs (EE.absD d)
    fk stanzas t nonce t' hh hn
  rw [hinit] at hres
  obtain ⟨h1, h2, h3, h4, _⟩ := hres
  obtain ⟨fk', stanzas', t0, nonce', hh', hn', hacc, _, _⟩ := encryptInit_ok P tape (rs.map EE.recOf) EE.hdrSegs (EE.absD d) d2 w _ t' hinit
  rw [hh] at hh'
  simp only [Except.ok.injEq, Prod.mk.injEq] at hh'
  obtain ⟨rfl, rfl, rfl⟩ := hh'
  rw [hn] at hn'
  simp only [Option.some.injEq, Prod.mk.injEq] at hn'
  obtain ⟨rfl, _⟩ := hn'
  rw [hd, List.nil_append] at hacc
  have hacc' : (EE.absD res.2.2.1).acc = headerBytes P fk stanzas ++ nonce := by rw [h3]; exact hacc
  refine ⟨res, hrun, h2, h1, h4, hacc', ?_⟩
  intro c
  obtain ⟨hfk, t1, _, hw⟩ := encryptHeader_fk hh
  have hwf : ∀ s ∈ stanzas, s.WF := wrapAll_wf P fk hfk (rs.map EE.recOf) 0 t1 [] none stanzas t hrs (by simp) hw
  have hfk' : fk ≠ [] := by intro e; rw [e] at hfk; simp [fileKeySize] at hfk
  have hnl : nonce.length = streamNonceSize := (draw_spec hn).1
  obtain ⟨r, hdec, hr⟩ := decrypt_tie P DE ((EE.absD res.2.2.1).acc ++ c) (pre ++ id :: post)
  have hmodel := decryptInit_header_rest P hP fk stanzas (nonce ++ c) hwf hfk' (pre.map DE.idOf) (post.map DE.idOf) (DE.idOf id)
    (by intro i hi; obtain ⟨j, hj, rfl⟩ := List.mem_map.mp hi; exact hpre j hj) hid
  have hlen : ¬ (nonce ++ c).length < streamNonceSize := by rw [List.length_append]; omega
  rw [if_neg hlen] at hmodel
  have hmap : (pre ++ id :: post).map DE.idOf = pre.map DE.idOf ++ DE.idOf id :: post.map DE.idOf := by simp
  rw [hacc', List.append_assoc, hmap, hmodel] at hr
  simp only at hr
  rw [hdec, hr]
  have e1 : (nonce ++ c).take streamNonceSize = nonce := by rw [← hnl]; simp
  have e2 : (nonce ++ c).drop streamNonceSize = c := by rw [← hnl]; simp
  rw [e1, e2]

end GoTie
end AgeModel
