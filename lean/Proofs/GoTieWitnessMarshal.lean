/-
  Proofs.GoTieWitnessMarshal — an instance of the assumption structure of the header serialiser tie.
-/
import Proofs.GoTieMarshal
namespace AgeModel
namespace GoTie
open Extracted

/-- header marshalling: a destination that is the list of bytes written; an encoder that buffers its input
    and writes the wrapped raw base64 when it is closed -/
def MarshalEnv.witness : MarshalEnv Bytes Unit Bytes where
  absD d := d
  W d b := .ok (Int.ofNat b.length, none, d ++ b)
  hW d b := ⟨d ++ b, rfl, rfl⟩
  b64 := ()
  New _ d := .ok ([], d)
  Wr ww p d := .ok (Int.ofNat p.length, none, ww ++ p, d)
  Cl ww d := .ok (none, ww, d ++ Format.wrap (B64.encRaw ww))
  hEnc d body := ⟨[], d, rfl, rfl, Int.ofNat body.length, body, d, rfl, body, d ++ Format.wrap (B64.encRaw body), rfl, rfl⟩
  Enc _ m := .ok (B64.encRaw m)
  hE _ := rfl

end GoTie
end AgeModel
