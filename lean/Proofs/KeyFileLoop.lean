/-
  Helper lemmas for the key-file model: the line loop, for an arbitrary
  line verdict function `cls`.

  The loop consumes lines that are not fatal (`loop_append`) and stops at a
  fatal one (`loop_bad`, `loop_tooLong`); a list of lines either has no fatal
  line or splits at its first one (`first_true_split`). What the loop returns
  and what it logs follow from these.
-/
import Proofs.KeyFile
namespace AgeModel
namespace KeyFile

theorem first_true_split {α : Type} (f : α → Bool) (ls : List α) :
    (∀ x ∈ ls, f x = false) ∨
    ∃ pre x post, ls = pre ++ x :: post ∧ (∀ y ∈ pre, f y = false) ∧ f x = true := by
  cases h : ls.find? f with
  | none => exact .inl fun x hx => Bool.eq_false_iff.mpr (List.find?_eq_none.mp h x hx)
  | some x =>
    obtain ⟨hx, pre, post, hls, hpre⟩ := List.find?_eq_some_iff_append.mp h
    exact .inr ⟨pre, x, post, hls, fun y hy => by simpa using hpre y hy, hx⟩

theorem prefix_length_le {α : Type} (f : α → Bool) (pre rest : List α) (i : Nat) (x : α)
    (hpre : ∀ y ∈ pre, f y = false) (hi : (pre ++ rest)[i]? = some x) (hx : f x = true) :
    pre.length ≤ i := by
  apply Nat.le_of_not_lt
  intro h
  rw [List.getElem?_append_left h] at hi
  rw [hpre x (List.mem_of_getElem? hi)] at hx
  cases hx

theorem getElem?_split {α : Type} (ls : List α) (i : Nat) (x : α) (h : ls[i]? = some x) :
    ls = ls.take i ++ x :: ls.drop (i + 1) ∧ (ls.take i).length = i := by
  obtain ⟨hi, rfl⟩ := List.getElem?_eq_some_iff.mp h
  exact ⟨by rw [List.getElem_cons_drop, List.take_append_drop], List.length_take_of_le (Nat.le_of_lt hi)⟩

theorem getElem?_append_cons_length {α : Type} (pre post : List α) (x : α) :
    (pre ++ x :: post)[pre.length]? = some x := by
  rw [List.getElem?_append_right (Nat.le_refl _), Nat.sub_self]
  rfl

variable {Key : Type}

theorem finish_ok_iff (se : Bool) (ids ks : List Key) :
    finish se ids = .ok ks ↔ se = false ∧ ks = ids ∧ ks ≠ [] := by
  unfold finish
  cases se with
  | true => simp
  | false =>
    cases ids with
    | nil => simp
    | cons a as =>
      simp only [Bool.false_eq_true, if_false, List.isEmpty_cons, Except.ok.injEq, true_and]
      constructor
      · intro h; subst h; simp
      · intro h; exact h.1.symm

theorem finish_err_iff (se : Bool) (ids : List Key) (e : KeyFileErr) :
    finish se ids = .error e ↔ (se = true ∧ e = .scanErr) ∨ (se = false ∧ ids = [] ∧ e = .noKeys) := by
  unfold finish
  cases se with
  | true => simp; exact eq_comm
  | false =>
    cases ids with
    | nil => simp; exact eq_comm
    | cons a as => simp

theorem mem_ignoredNums_cons (cls : Bytes → LineRes Key) (l : Bytes) (ls : List Bytes) (n m : Nat) :
    m ∈ ignoredNums cls n (l :: ls) ↔ (cls l = .ignored ∧ m = n + 1) ∨ m ∈ ignoredNums cls (n + 1) ls := by
  rw [ignoredNums]
  cases cls l <;> simp

theorem mem_ignoredNums (cls : Bytes → LineRes Key) :
    ∀ (ls : List Bytes) (n m : Nat),
    m ∈ ignoredNums cls n ls ↔ ∃ i l, ls[i]? = some l ∧ cls l = .ignored ∧ m = n + i + 1 := by
  intro ls
  induction ls with
  | nil => intro n m; simp [ignoredNums]
  | cons l ls ih =>
    intro n m
    rw [← Nat.or_exists_add_one, mem_ignoredNums_cons, ih]
    simp only [List.getElem?_cons_zero, List.getElem?_cons_succ, Option.some.injEq, exists_eq_left',
      Nat.add_zero, Nat.add_right_comm n _ 1, Nat.add_assoc (n + 1)]

section loop
variable (cls : Bytes → LineRes Key) (se : Bool)

theorem fatal_iff (r : LineRes Key) : fatal r = true ↔ r = .bad ∨ r = .tooLong := by
  cases r <;> simp [fatal]

theorem loop_append (pre rest : List Bytes) (h : ∀ l ∈ pre, fatal (cls l) = false) :
    ∀ (n : Nat) (ids : List Key) (log : List Nat),
    loop cls se n (pre ++ rest) ids log =
      loop cls se (n + pre.length) rest (ids ++ pre.filterMap (fun l => keyOf (cls l)))
        (log ++ ignoredNums cls n pre) := by
  induction pre with
  | nil => intro n ids log; simp [ignoredNums]
  | cons p pre ih =>
    intro n ids log
    have hp := h p List.mem_cons_self
    have ih := ih (fun l hl => h l (List.mem_cons_of_mem _ hl)) (n + 1)
    rw [List.cons_append, loop, List.filterMap_cons, ignoredNums, List.length_cons, ← Nat.add_assoc,
      Nat.add_right_comm n _ 1]
    cases hc : cls p with
    | blank => exact ih ids log
    | key k => have := ih (ids ++ [k]) log; rwa [List.append_assoc] at this
    | ignored => have := ih ids (log ++ [n + 1]); rwa [List.append_assoc] at this
    | bad => rw [hc] at hp; cases hp
    | tooLong => rw [hc] at hp; cases hp

theorem loop_fine (ls : List Bytes) (h : ∀ l ∈ ls, fatal (cls l) = false) :
    loop cls se 0 ls [] [] =
      ⟨finish se (ls.filterMap (fun l => keyOf (cls l))), ignoredNums cls 0 ls⟩ := by
  have := loop_append cls se ls [] h 0 [] []
  rwa [List.append_nil, List.nil_append, List.nil_append] at this

theorem loop_bad (pre post : List Bytes) (l : Bytes) (h : ∀ l ∈ pre, fatal (cls l) = false)
    (hl : cls l = .bad) :
    loop cls se 0 (pre ++ l :: post) [] [] = ⟨.error (.atLine (pre.length + 1)), ignoredNums cls 0 pre⟩ := by
  simp only [loop_append cls se pre _ h, loop, hl, Nat.zero_add, List.nil_append]

theorem loop_tooLong (pre post : List Bytes) (l : Bytes) (h : ∀ l ∈ pre, fatal (cls l) = false)
    (hl : cls l = .tooLong) :
    loop cls se 0 (pre ++ l :: post) [] [] =
      ⟨.error (.lineTooLong (pre.length + 1)), ignoredNums cls 0 pre⟩ := by
  simp only [loop_append cls se pre _ h, loop, hl, Nat.zero_add, List.nil_append]

theorem loop_fatal (pre post : List Bytes) (l : Bytes) (h : ∀ l ∈ pre, fatal (cls l) = false)
    (hl : fatal (cls l) = true) :
    ∃ e, loop cls se 0 (pre ++ l :: post) [] [] = ⟨.error e, ignoredNums cls 0 pre⟩ ∧
      ((cls l = .bad ∧ e = .atLine (pre.length + 1)) ∨
       (cls l = .tooLong ∧ e = .lineTooLong (pre.length + 1))) := by
  rcases (fatal_iff _).mp hl with hl | hl
  · exact ⟨_, loop_bad cls se pre post l h hl, .inl ⟨hl, rfl⟩⟩
  · exact ⟨_, loop_tooLong cls se pre post l h hl, .inr ⟨hl, rfl⟩⟩

theorem loop_ok_iff (ls : List Bytes) (ks : List Key) :
    (loop cls se 0 ls [] []).res = .ok ks ↔
      se = false ∧ (∀ l ∈ ls, fatal (cls l) = false) ∧
      ks = ls.filterMap (fun l => keyOf (cls l)) ∧ ks ≠ [] := by
  rcases first_true_split (fun l => fatal (cls l)) ls with hfine | ⟨pre, l, post, rfl, hpre, hl⟩
  · rw [loop_fine cls se ls hfine, finish_ok_iff]
    exact and_congr_right fun _ => (and_iff_right hfine).symm
  · obtain ⟨e, he, _⟩ := loop_fatal cls se pre post l hpre hl
    rw [he]
    constructor
    · intro h; cases h
    · intro h
      rw [h.2.1 l (List.mem_append_right _ List.mem_cons_self)] at hl
      cases hl

theorem loop_err_iff (ls : List Bytes) (e : KeyFileErr) :
    (loop cls se 0 ls [] []).res = .error e ↔
      (∃ pre l post, ls = pre ++ l :: post ∧ (∀ l' ∈ pre, fatal (cls l') = false) ∧
        ((cls l = .bad ∧ e = .atLine (pre.length + 1)) ∨
         (cls l = .tooLong ∧ e = .lineTooLong (pre.length + 1)))) ∨
      ((∀ l ∈ ls, fatal (cls l) = false) ∧
        finish se (ls.filterMap (fun l => keyOf (cls l))) = .error e) := by
  constructor
  · intro h
    rcases first_true_split (fun l => fatal (cls l)) ls with hfine | ⟨pre, l, post, rfl, hpre, hl⟩
    · rw [loop_fine cls se ls hfine] at h
      exact .inr ⟨hfine, h⟩
    · obtain ⟨e', he, hx⟩ := loop_fatal cls se pre post l hpre hl
      rw [he] at h
      cases h
      exact .inl ⟨pre, l, post, rfl, hpre, hx⟩
  · rintro (⟨pre, l, post, rfl, hpre, ⟨hl, rfl⟩ | ⟨hl, rfl⟩⟩ | ⟨hfine, h⟩)
    · rw [loop_bad cls se pre post l hpre hl]
    · rw [loop_tooLong cls se pre post l hpre hl]
    · rw [loop_fine cls se ls hfine]
      exact h

theorem mem_skipped (ls : List Bytes) (m : Nat) (hm : m ∈ (loop cls se 0 ls [] []).skipped) :
    ∃ i l, ls[i]? = some l ∧ cls l = .ignored ∧ m = i + 1 := by
  have sub : ∃ pre rest, ls = pre ++ rest ∧ m ∈ ignoredNums cls 0 pre := by
    rcases first_true_split (fun l => fatal (cls l)) ls with hfine | ⟨pre, l, post, rfl, hpre, hl⟩
    · rw [loop_fine cls se ls hfine] at hm
      exact ⟨ls, [], (List.append_nil ls).symm, hm⟩
    · obtain ⟨e, he, _⟩ := loop_fatal cls se pre post l hpre hl
      rw [he] at hm
      exact ⟨pre, l :: post, rfl, hm⟩
  obtain ⟨pre, rest, rfl, hpre⟩ := sub
  obtain ⟨i, l, hi, hl, rfl⟩ := (mem_ignoredNums cls pre 0 m).mp hpre
  have hlt : i < pre.length := (List.getElem?_eq_some_iff.mp hi).1
  exact ⟨i, l, by rw [List.getElem?_append_left hlt]; exact hi, hl, by rw [Nat.zero_add]⟩

/-- once a fatal line is reached nothing else matters: not its content (only its
    kind), not what follows, not the scanner's final state -/
theorem loop_swap_fatal (se' : Bool) (l l' : Bytes) (post post' : List Bytes)
    (h : cls l = cls l') (hf : fatal (cls l) = true) :
    ∀ (pre : List Bytes) (n : Nat) (ids : List Key) (log : List Nat),
    loop cls se n (pre ++ l :: post) ids log = loop cls se' n (pre ++ l' :: post') ids log := by
  intro pre
  induction pre with
  | nil =>
    intro n ids log
    rcases (fatal_iff _).mp hf with hb | hb <;> simp only [List.nil_append, loop, ← h, hb]
  | cons p pre ih =>
    intro n ids log
    simp only [List.cons_append, loop]
    cases cls p <;> simp only [ih]

end loop

end KeyFile
end AgeModel
