/-
  Proofs.ToyPrims — the hypothesis structures are satisfiable: a toy primitive
  suite (no security whatsoever) meets `AEAD.Correct`, `AEAD.NonceSep` and
  `Prims.Correct`, so no theorem assuming them is vacuous. `AEAD.toy16` / `Prims.toy16`: the same with the
  16-byte tag of ChaCha20-Poly1305, for the assumption structures that fix the tag length.
-/
import AgeModel.Prims
namespace AgeModel

theorem toyTag_length (n : Bytes) : (toyTag n).length = 12 := by
  unfold toyTag; rw [List.length_take, List.length_append, List.length_replicate]; omega

theorem toyTag_inj (n n' : Bytes) (h : n.length = 12) (h' : n'.length = 12) (e : toyTag n = toyTag n') : n = n' := by
  unfold toyTag at e
  rw [List.take_append_of_le_length (by omega), List.take_append_of_le_length (by omega),
      List.take_of_length_le (by omega), List.take_of_length_le (by omega)] at e
  exact e

/-- the AEAD that appends `tag nonce` to the plaintext; `AEAD.toy` is `ofTag 12 toyTag`, `AEAD.toy16` is
    `ofTag 16 toyTag16` -/
def AEAD.ofTag (T : Nat) (tag : Bytes → Bytes) : AEAD where
  T := T
  sealF := fun _ n p => p ++ tag n
  openF := fun _ n c => if T ≤ c.length ∧ c.drop (c.length - T) = tag n then some (c.take (c.length - T)) else none

section ofTag
variable {T : Nat} {tag : Bytes → Bytes} (hlen : ∀ n, (tag n).length = T)
include hlen

theorem AEAD.ofTag_open_seal (k n n' p : Bytes) :
    (AEAD.ofTag T tag).openF k n' ((AEAD.ofTag T tag).sealF k n p) = if tag n = tag n' then some p else none := by
  have hl : (p ++ tag n).length - T = p.length := by rw [List.length_append, hlen]; omega
  show (if T ≤ (p ++ tag n).length ∧ (p ++ tag n).drop ((p ++ tag n).length - T) = tag n'
    then some ((p ++ tag n).take ((p ++ tag n).length - T)) else none) = _
  rw [hl, List.drop_left' rfl, List.take_left' rfl]
  have hT : T ≤ (p ++ tag n).length := by rw [List.length_append, hlen]; omega
  by_cases h : tag n = tag n'
  · rw [if_pos ⟨hT, h⟩, if_pos h]
  · rw [if_neg fun hc => h hc.2, if_neg h]

theorem AEAD.ofTag_correct (hT : 0 < T) : (AEAD.ofTag T tag).Correct where
  T_pos := hT
  seal_len := fun k n p => by
    show (p ++ tag n).length = p.length + T
    rw [List.length_append, hlen]
  open_seal := fun k n p => by rw [AEAD.ofTag_open_seal hlen, if_pos rfl]
  open_unique := by
    intro k n c p h
    have h' : (if T ≤ c.length ∧ c.drop (c.length - T) = tag n then some (c.take (c.length - T)) else none) = some p := h
    show c = p ++ tag n
    split at h'
    · rename_i hc
      rw [← Option.some.inj h', ← hc.2, List.take_append_drop]
    · cases h'

theorem AEAD.ofTag_nonceSep (hinj : ∀ n n', n.length = 12 → n'.length = 12 → tag n = tag n' → n = n') :
    (AEAD.ofTag T tag).NonceSep := by
  intro k n n' p hn hn' hne
  rw [AEAD.ofTag_open_seal hlen, if_neg fun h => hne (hinj n n' hn hn' h)]

end ofTag

theorem AEAD.toy_correct : AEAD.toy.Correct := AEAD.ofTag_correct toyTag_length (by decide)

theorem AEAD.toy_nonceSep : AEAD.toy.NonceSep := AEAD.ofTag_nonceSep toyTag_length toyTag_inj

/-- a lawful (and useless) primitive suite -/
def Prims.toy : Prims where
  aead := AEAD.toy
  hkdf := fun _ _ _ n => List.replicate n 0
  hmac := fun _ _ => List.replicate 32 0
  sha256 := fun _ => List.replicate 32 0
  x25519 := fun _ _ => some (List.replicate 32 0)
  basepoint := 9 :: List.replicate 31 0
  scrypt := fun _ _ _ => List.replicate 32 0
  oaepEnc := fun _ _ m _ => some m
  oaepDec := fun _ c _ => some c
  rsaPair := fun _ _ => True

/-- the other laws of `Prims.Correct` hold of `Prims.toy` whatever AEAD is put into it -/
theorem Prims.toy_with_correct (A : AEAD) (hA : A.Correct) : ({ Prims.toy with aead := A } : Prims).Correct where
  aead := hA
  dh_comm := by intros; rfl
  x25519_len := by intro a b c h; simp [Prims.toy] at h; subst h; simp
  sha256_len := by intro b; simp [Prims.toy]
  hmac_len := by intro k m; simp [Prims.toy]
  oaep := by intro pub priv _ seed m l c h; simp [Prims.toy] at h ⊢; exact h.symm

theorem Prims.toy_correct : Prims.toy.Correct := Prims.toy_with_correct _ AEAD.toy_correct

/-! the same suite with a 16-byte tag, as the wrappers of the source check for (`Overhead() == 16`) -/

/-- the toy AEAD with a 16-byte tag: the first 12 bytes of the nonce (zero padded), then four zero bytes -/
def toyTag16 (n : Bytes) : Bytes := toyTag n ++ [0, 0, 0, 0]

def AEAD.toy16 : AEAD where
  T := 16
  sealF := fun _ n p => p ++ toyTag16 n
  openF := fun _ n c =>
    if 16 ≤ c.length ∧ c.drop (c.length - 16) = toyTag16 n then some (c.take (c.length - 16)) else none

theorem toyTag16_length (n : Bytes) : (toyTag16 n).length = 16 := by
  unfold toyTag16; rw [List.length_append, toyTag_length]; rfl

theorem toyTag16_inj (n n' : Bytes) (h : n.length = 12) (h' : n'.length = 12) (e : toyTag16 n = toyTag16 n') : n = n' := by
  unfold toyTag16 at e
  exact toyTag_inj n n' h h' (List.append_cancel_right e)

theorem AEAD.toy16_correct : AEAD.toy16.Correct := AEAD.ofTag_correct toyTag16_length (by decide)

theorem AEAD.toy16_nonceSep : AEAD.toy16.NonceSep := AEAD.ofTag_nonceSep toyTag16_length toyTag16_inj

/-- `Prims.toy` with the 16-byte-tag AEAD -/
def Prims.toy16 : Prims := { Prims.toy with aead := AEAD.toy16 }

theorem Prims.toy16_correct : Prims.toy16.Correct := Prims.toy_with_correct _ AEAD.toy16_correct

theorem Prims.toy16_T : Prims.toy16.aead.T = 16 := rfl

end AgeModel
