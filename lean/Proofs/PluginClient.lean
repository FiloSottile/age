/-
  The clauses of C16 about `error`, unknown commands and the `ClientUI.handle`
  commands, which hold of both clients, stated once: for the read loop
  `run step` of any step function satisfying `ClientStep`, from any start state.
  (A message that is always fatal, a repeated message, the stream ending: these
  need less than `ClientStep` and are `run_halt_at`, `run_second_message`,
  `run_hard` of `Proofs.PluginRun`.)
-/
import Proofs.PluginStep
namespace AgeModel
namespace Plugin
namespace ClientStep

variable {σ S α : Type} {ui : UI σ} {dec : String → Option Bytes} {own : List String}
  {uiOf : S → σ} {setUi : S → σ → S} {step : S → Stanza → Step S α}
  (hc : ClientStep ui dec own uiOf setUi step) (s₀ : S)
include hc

/-- `error` reaching a listening client is acknowledged, then aborts with the plugin's text -/
theorem error_acked (pre : List Stanza) (m : Stanza) (post : List Stanza) (e₀ e : End)
    (hm : m.type = "error") (hl : (run step s₀ pre e₀).result = .error (.ended e₀)) :
    (run step s₀ (pre ++ m :: post) e).replies = (run step s₀ pre e₀).replies ++ [okS] ∧
    (run step s₀ (pre ++ m :: post) e).result = .error (.pluginError m.body) :=
  have h := run_halt_when_listening hc.noEndHalt s₀ pre e₀ hl m post e _ _ (hc.error _ m hm)
  ⟨h.2.1, h.1⟩

/-- conversely, the plugin's text is returned only for an `error` message reached while listening -/
theorem pluginError_only_from_error (msgs : List Stanza) (e : End) (t : Bytes)
    (h : (run step s₀ msgs e).result = .error (.pluginError t)) :
    ∃ pre m post, msgs = pre ++ m :: post ∧ m.type = "error" ∧ m.body = t ∧
      ∀ e₀, (run step s₀ pre e₀).result = .error (.ended e₀) ∧
        (run step s₀ msgs e).replies = (run step s₀ pre e₀).replies ++ [okS] := by
  refine run_pluginError (fun s m rs res t hs hr => ?_) s₀ msgs e t h
  rcases hc.halt_cases hs with ⟨ht, hrs, hres⟩ | ⟨_, _, hres⟩ | ⟨_, _, hres⟩
  · rw [hres] at hr; cases hr
    exact ⟨hrs, ht, rfl⟩
  · exact absurd (hr ▸ hard_pluginError t) hres
  · rw [hres] at hr; cases hr

/-- deleting the unknown commands deletes exactly the `unsupported` replies -/
theorem unknown_ignored (msgs : List Stanza) (e : End) :
    (run step s₀ (msgs.filter (fun m => decide (m.type ∈ knownCommands own))) e).replies =
      (run step s₀ msgs e).replies.filter (fun r => decide (r ≠ unsupportedS)) ∧
    (run step s₀ (msgs.filter (fun m => decide (m.type ∈ knownCommands own))) e).result =
      (run step s₀ msgs e).result ∧
    uiOf (run step s₀ (msgs.filter (fun m => decide (m.type ∈ knownCommands own))) e).state =
      uiOf (run step s₀ msgs e).state := by
  have h := run_filter (step := step) (fun m => decide (m.type ∈ knownCommands own)) unsupportedS
    (fun s m hk => hc.unknown s m (by simpa using hk))
    (fun s m s' r hk hs => hc.reply_ne_unsupported s s' m r (by simpa using hk) hs)
    hc.halt_no_unsupported s₀ msgs e
  exact ⟨h.1, h.2.1, congrArg uiOf h.2.2⟩

/-- an unknown command reaching a listening client: `unsupported`, no callback, go on -/
theorem unknown_answered (pre : List Stanza) (m : Stanza) (e₀ e : End) (hm : m.type ∉ knownCommands own)
    (hl : (run step s₀ pre e₀).result = .error (.ended e₀)) :
    (run step s₀ (pre ++ [m]) e).result = .error (.ended e) ∧
    (run step s₀ (pre ++ [m]) e).replies = (run step s₀ pre e₀).replies ++ [unsupportedS] ∧
    uiOf (run step s₀ (pre ++ [m]) e).state = uiOf (run step s₀ pre e₀).state :=
  have h := run_next_when_listening hc.noEndHalt s₀ pre e₀ hl m e _ _ (hc.unknown _ m hm)
  ⟨h.1, h.2.1, congrArg uiOf h.2.2⟩

/-- a `ClientUI.handle` command reaching a listening client, when `handle` replies:
    that reply is written, the UI state is the one `handle` returned, go on -/
theorem handled_reply (pre : List Stanza) (m : Stanza) (e₀ e : End) (hm : m.type ∈ uiCommands)
    (hl : (run step s₀ pre e₀).result = .error (.ended e₀)) (st' : σ) (r : Stanza)
    (hh : ui.handle dec (uiOf (run step s₀ pre e₀).state) m = .reply st' r) :
    (run step s₀ (pre ++ [m]) e).result = .error (.ended e) ∧
    (run step s₀ (pre ++ [m]) e).replies = (run step s₀ pre e₀).replies ++ [r] ∧
    uiOf (run step s₀ (pre ++ [m]) e).state = st' := by
  have hs := hc.handled_ui (run step s₀ pre e₀).state m hm
  rw [hh] at hs
  have h := run_next_when_listening hc.noEndHalt s₀ pre e₀ hl m e _ _ hs
  exact ⟨h.1, h.2.1, h.2.2 ▸ hc.uiOf_setUi _ _⟩

theorem dispatch_msg (pre : List Stanza) (m : Stanza) (e₀ e : End) (hm : m.type = "msg")
    (hl : (run step s₀ pre e₀).result = .error (.ended e₀)) :
    (run step s₀ (pre ++ [m]) e).result = .error (.ended e) ∧
    match ui.display with
    | none =>
      (run step s₀ (pre ++ [m]) e).replies = (run step s₀ pre e₀).replies ++ [failS] ∧
      uiOf (run step s₀ (pre ++ [m]) e).state = uiOf (run step s₀ pre e₀).state
    | some f =>
      (run step s₀ (pre ++ [m]) e).replies =
        (run step s₀ pre e₀).replies ++ [if (f (uiOf (run step s₀ pre e₀).state) m.body).2 then okS else failS] ∧
      uiOf (run step s₀ (pre ++ [m]) e).state = (f (uiOf (run step s₀ pre e₀).state) m.body).1 := by
  have hh := handle_msg ui dec (uiOf (run step s₀ pre e₀).state) m hm
  have hu : m.type ∈ uiCommands := by simp [uiCommands, hm]
  cases hd : ui.display with
  | none => rw [hd] at hh; exact hc.handled_reply s₀ pre m e₀ e hu hl _ _ hh
  | some f => rw [hd] at hh; exact hc.handled_reply s₀ pre m e₀ e hu hl _ _ hh

theorem dispatch_request (pre : List Stanza) (m : Stanza) (e₀ e : End)
    (hm : m.type = "request-secret" ∨ m.type = "request-public")
    (hl : (run step s₀ pre e₀).result = .error (.ended e₀)) :
    (run step s₀ (pre ++ [m]) e).result = .error (.ended e) ∧
    match ui.request with
    | none =>
      (run step s₀ (pre ++ [m]) e).replies = (run step s₀ pre e₀).replies ++ [failS] ∧
      uiOf (run step s₀ (pre ++ [m]) e).state = uiOf (run step s₀ pre e₀).state
    | some f =>
      (run step s₀ (pre ++ [m]) e).replies =
        (run step s₀ pre e₀).replies ++
          [match (f (uiOf (run step s₀ pre e₀).state) m.body (decide (m.type = "request-secret"))).2 with
           | none => failS
           | some v => okBody v] ∧
      uiOf (run step s₀ (pre ++ [m]) e).state =
        (f (uiOf (run step s₀ pre e₀).state) m.body (decide (m.type = "request-secret"))).1 := by
  have hh := handle_request ui dec (uiOf (run step s₀ pre e₀).state) m hm
  have hu : m.type ∈ uiCommands := by rcases hm with h | h <;> simp [uiCommands, h]
  cases hd : ui.request with
  | none => rw [hd] at hh; exact hc.handled_reply s₀ pre m e₀ e hu hl _ _ hh
  | some f =>
    simp only [hd] at hh
    refine hc.handled_reply s₀ pre m e₀ e hu hl _ _ (hh.trans ?_)
    split <;> simp only [*]

theorem dispatch_confirm (pre : List Stanza) (m : Stanza) (e₀ e : End) (hm : m.type = "confirm")
    (hl : (run step s₀ pre e₀).result = .error (.ended e₀)) (y : String) (yes no : Bytes)
    (hargs : (m.args = [y] ∧ no = []) ∨ (∃ n, m.args = [y, n] ∧ (ui.confirm ≠ none → dec n = some no)))
    (hy : ui.confirm ≠ none → dec y = some yes) :
    (run step s₀ (pre ++ [m]) e).result = .error (.ended e) ∧
    match ui.confirm with
    | none =>
      (run step s₀ (pre ++ [m]) e).replies = (run step s₀ pre e₀).replies ++ [failS] ∧
      uiOf (run step s₀ (pre ++ [m]) e).state = uiOf (run step s₀ pre e₀).state
    | some f =>
      (run step s₀ (pre ++ [m]) e).replies =
        (run step s₀ pre e₀).replies ++
          [match (f (uiOf (run step s₀ pre e₀).state) m.body yes no).2 with
           | none => failS
           | some c => okChoice c] ∧
      uiOf (run step s₀ (pre ++ [m]) e).state = (f (uiOf (run step s₀ pre e₀).state) m.body yes no).1 := by
  have hu : m.type ∈ uiCommands := by simp [uiCommands, hm]
  have hn : m.args.length = 1 ∨ m.args.length = 2 := by
    rcases hargs with ⟨h, _⟩ | ⟨n, h, _⟩ <;> simp [h]
  cases hd : ui.confirm with
  | none =>
    exact hc.handled_reply s₀ pre m e₀ e hu hl _ _ (handle_confirm_absent ui dec _ m hm hn hd)
  | some f =>
    have hsome : ui.confirm ≠ none := by rw [hd]; exact Option.some_ne_none f
    refine hc.handled_reply s₀ pre m e₀ e hu hl _ _ ?_
    rw [handle_confirm_present ui dec _ m hm hn f hd, confirmOptions_eq_some dec m.args y yes no (hy hsome)
      (hargs.imp id fun ⟨n, h, hn⟩ => ⟨n, h, hn hsome⟩)]
    rfl

/-- a `confirm` with a wrong number of arguments, or (when there is a Confirm
    callback) with an argument that does not decode: protocol error, no reply,
    no callback -/
theorem confirm_malformed (pre : List Stanza) (m : Stanza) (post : List Stanza) (e₀ e : End)
    (hm : m.type = "confirm") (hl : (run step s₀ pre e₀).result = .error (.ended e₀))
    (hbad : (m.args.length ≠ 1 ∧ m.args.length ≠ 2) ∨
            (ui.confirm ≠ none ∧ (m.args.length = 1 ∨ m.args.length = 2) ∧ ∃ a ∈ m.args, dec a = none)) :
    (run step s₀ (pre ++ m :: post) e).result = .error .protocol ∧
    (run step s₀ (pre ++ m :: post) e).replies = (run step s₀ pre e₀).replies ∧
    uiOf (run step s₀ (pre ++ m :: post) e).state = uiOf (run step s₀ pre e₀).state := by
  have hf : ui.handle dec (uiOf (run step s₀ pre e₀).state) m = .fatal := by
    rcases hbad with hn | ⟨hcf, hn, ha⟩
    · exact handle_confirm_argcount ui dec _ m hm hn
    · cases hd : ui.confirm with
      | none => exact absurd hd hcf
      | some f => rw [handle_confirm_present ui dec _ m hm hn f hd, confirmOptions_eq_none dec m.args ha]
  have hs := hc.handled_ui (run step s₀ pre e₀).state m (by simp [uiCommands, hm])
  rw [hf] at hs
  have h := run_halt_when_listening hc.noEndHalt s₀ pre e₀ hl m post e _ _ hs
  exact ⟨h.1, h.2.1.trans (List.append_nil _), congrArg uiOf h.2.2⟩

/-- prompts for a message or a value and unknown commands are answered one by
    one, and the client is listening afterwards -/
theorem all_answered (msgs : List Stanza) (e : End)
    (h : ∀ m ∈ msgs, m.type ∉ own ∧ m.type ≠ "error" ∧ m.type ≠ "done" ∧ m.type ≠ "confirm") :
    (run step s₀ msgs e).result = .error (.ended e) ∧ (run step s₀ msgs e).replies.length = msgs.length :=
  run_all_next (fun m => m.type ∉ own ∧ m.type ≠ "error" ∧ m.type ≠ "done" ∧ m.type ≠ "confirm")
    (fun s m hm => hc.harmless_next s m hm.1 hm.2.1 hm.2.2.1 hm.2.2.2) s₀ msgs h e

end ClientStep

/-- the hypothesis of `all_answered`, for both machines, from `harmless` -/
theorem harmless_handled {t : String} (h : harmless t) :
    t ∉ ["recipient-stanza", "labels"] ∧ t ∉ ["file-key"] ∧ t ≠ "error" ∧ t ≠ "done" ∧ t ≠ "confirm" := by
  simp only [harmless, List.mem_cons, List.not_mem_nil, or_false, not_or] at h
  simp only [List.mem_cons, List.not_mem_nil, or_false, not_or]
  exact ⟨⟨h.1, h.2.1⟩, h.2.2.1, h.2.2.2⟩

end Plugin
end AgeModel
