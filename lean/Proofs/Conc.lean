/-
  Proofs.Conc — lemmas for Props/C20: what a thread can observe is not changed
  by the steps of other threads, provided nobody writes a shared location.
-/
import AgeModel.Conc
namespace AgeModel.Conc

/-- what thread `i` can observe of a configuration: its own program counter and
    read history, the shared locations, and its private locations -/
def Sim (i : Nat) (c c' : Cfg) : Prop :=
  c.rest i = c'.rest i ∧ c.hist i = c'.hist i ∧
  (∀ n, c.store (.shared n) = c'.store (.shared n)) ∧
  (∀ n, c.store (.priv i n) = c'.store (.priv i n))

/-- `NoSharedWrite` and `WellScoped`, for the steps still to be executed -/
def Good (c : Cfg) : Prop :=
  (∀ j l f, Step.write l f ∈ c.rest j → ∀ n, l ≠ .shared n) ∧
  (∀ j st, st ∈ c.rest j → ∀ k n, st.loc? = some (.priv k n) → k = j)

theorem Good.init {P : Nat → Thread} (hW : NoSharedWrite P) (hS : WellScoped P) (s : Store) : Good (init P s) :=
  ⟨hW, hS⟩

theorem Sim.refl (i : Nat) (c : Cfg) : Sim i c c := ⟨rfl, rfl, fun _ => rfl, fun _ => rfl⟩

theorem Sim.trans {i : Nat} {a b c : Cfg} (h1 : Sim i a b) (h2 : Sim i b c) : Sim i a c :=
  ⟨h1.1.trans h2.1, h1.2.1.trans h2.2.1, fun n => (h1.2.2.1 n).trans (h2.2.2.1 n),
   fun n => (h1.2.2.2 n).trans (h2.2.2.2 n)⟩

theorem upd_same {α : Type} (f : Nat → α) (i : Nat) (a : α) : upd f i a i = a := by simp [upd]

theorem upd_other {α : Type} (f : Nat → α) (i j : Nat) (a : α) (h : j ≠ i) : upd f i a j = f j := by
  simp [upd, h]

theorem rest_step_subset (c : Cfg) (j k : Nat) (st : Step) (h : st ∈ (stepThread c j).rest k) : st ∈ c.rest k := by
  unfold stepThread at h
  split at h
  · exact h
  all_goals
    rename_i heq
    by_cases hk : k = j
    · subst hk
      simp only [upd_same] at h
      rw [heq]; exact List.mem_cons_of_mem _ h
    · simp only [upd_other _ _ _ _ hk] at h
      exact h

theorem good_step (c : Cfg) (j : Nat) (h : Good c) : Good (stepThread c j) :=
  ⟨fun k l f hm n => h.1 k l f (rest_step_subset c j k _ hm) n,
   fun k st hm k' n hl => h.2 k st (rest_step_subset c j k _ hm) k' n hl⟩

/-- a step of another thread is invisible to thread `i` -/
theorem step_other (c : Cfg) (i j : Nat) (h : Good c) (hne : j ≠ i) : Sim i (stepThread c j) c := by
  have hij : i ≠ j := fun e => hne e.symm
  unfold stepThread
  split
  · exact Sim.refl i c
  · exact ⟨upd_other _ _ _ _ hij, upd_other _ _ _ _ hij, fun _ => rfl, fun _ => rfl⟩
  · rename_i l f r heq
    have hmem : Step.write l f ∈ c.rest j := by rw [heq]; exact List.mem_cons_self
    refine ⟨upd_other _ _ _ _ hij, rfl, fun n => ?_, fun n => ?_⟩
    · have : Loc.shared n ≠ l := fun e => h.1 j l f hmem n e.symm
      simp [setLoc, this]
    · have : Loc.priv i n ≠ l := by
        intro e
        have := h.2 j _ hmem i n (by simp [Step.loc?, e])
        exact hne this.symm
      simp [setLoc, this]
  · exact ⟨upd_other _ _ _ _ hij, rfl, fun _ => rfl, fun _ => rfl⟩

/-- thread `i` takes the same step from two configurations it cannot tell apart -/
theorem step_same (c c' : Cfg) (i : Nat) (hs : Sim i c c')
    (hsc : ∀ st, st ∈ c.rest i → ∀ k n, st.loc? = some (.priv k n) → k = i) :
    Sim i (stepThread c i) (stepThread c' i) := by
  obtain ⟨hr, hh, hsh, hpr⟩ := hs
  unfold stepThread
  rw [← hr]
  split
  · exact ⟨hr, hh, hsh, hpr⟩
  · rename_i l r heq
    have hl : c.store l = c'.store l := by
      cases l with
      | shared n => exact hsh n
      | priv k n =>
        have : k = i := hsc _ (by rw [heq]; exact List.mem_cons_self) k n rfl
        subst this; exact hpr n
    refine ⟨by simp [upd_same], by simp [upd_same, hh, hl], hsh, hpr⟩
  · rename_i l f r heq
    refine ⟨by simp [upd_same], hh, fun n => ?_, fun n => ?_⟩
    · simp only [setLoc, hh, hsh n]
    · simp only [setLoc, hh, hpr n]
  · exact ⟨by simp [upd_same], hh, hsh, hpr⟩

/-- the simulation: running any schedule, thread `i` observes what it observes when
    only its own steps are run -/
theorem run_sim (i : Nat) (σ : List Nat) : ∀ (c c' : Cfg), Good c → Sim i c c' →
    Sim i (run c σ) (run c' (List.replicate (σ.count i) i)) := by
  induction σ with
  | nil => intro c c' _ hs; simpa [run] using hs
  | cons j σ ih =>
    intro c c' hg hs
    by_cases hj : j = i
    · subst hj
      simp only [List.count_cons_self, List.replicate_succ, run]
      exact ih _ _ (good_step c j hg) (step_same c c' j hs (fun st hm k n hl => hg.2 j st hm k n hl))
    · have hc : (j :: σ).count i = σ.count i := by
        rw [List.count_cons_of_ne]; exact hj
      rw [hc]
      simp only [run]
      exact ih _ _ (good_step c j hg) (Sim.trans (step_other c i j hg hj) hs)

theorem run_shared (σ : List Nat) : ∀ (c : Cfg), Good c → ∀ n, (run c σ).store (.shared n) = c.store (.shared n) := by
  induction σ with
  | nil => intro c _ n; rfl
  | cons j σ ih =>
    intro c hg n
    -- shared memory is part of what a thread other than `j` observes
    exact (ih _ (good_step c j hg) n).trans
      ((step_other c (j + 1) j hg (Nat.ne_of_lt (Nat.lt_succ_self j))).2.2.1 n)

end AgeModel.Conc
