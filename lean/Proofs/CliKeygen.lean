/-
  age-keygen: writing the result line by line is writing it at once (as far as
  the destination's final content and the success of the run go), and what a
  run does to its output.
-/
import Proofs.CliWorld
namespace AgeModel
namespace Cli

theorem kwriteLines_one (dest : KDest) (p : Proc) (l : Bytes) : kwriteLines dest p [l] = kwrite dest p l := by
  simp only [kwriteLines]
  split <;> exact Prod.ext rfl (by simp [*])

/-- for at least one line: with no line no write call is made at all, whereas even an empty
    write to a device that rejects every write fails -/
theorem kwriteLines_stdout (ls : List Bytes) : ∀ (p : Proc) (l : Bytes),
    kwriteLines .stdout p (l :: ls) = p.writeStdout (l ++ ls.flatten) := by
  induction ls with
  | nil =>
    intro p l
    rw [kwriteLines_one, List.flatten_nil, List.append_nil]
    rfl
  | cons l' ls ih =>
    intro p l
    have hk : kwrite .stdout p l = p.writeStdout l := rfl
    rw [kwriteLines, hk, List.flatten_cons, writeStdout_append, ih]
    by_cases h : (p.writeStdout l).2 = true
    · rw [if_pos h, if_pos h]
    · rw [if_neg h, if_neg h]
      exact Prod.ext rfl (by simp [h])

theorem FileAt.kwriteLines_cons {w : World} {t : Path} {m : Nat} (ls : List Bytes) :
    ∀ {c : Bytes} {p : Proc} (l : Bytes), FileAt w t m c p →
      FileAt w t m (c ++ (accept w.fsize c.length (l ++ ls.flatten)).1) (kwriteLines (.file t) p (l :: ls)).1 ∧
      (kwriteLines (.file t) p (l :: ls)).2 = (accept w.fsize c.length (l ++ ls.flatten)).2 := by
  induction ls with
  | nil =>
    intro c p l h
    rw [kwriteLines_one, List.flatten_nil, List.append_nil]
    exact h.writeFile l
  | cons l' ls ih =>
    intro c p l h
    obtain ⟨hf, hw⟩ := h.writeFile l
    rw [kwriteLines, List.flatten_cons]
    simp only [kwrite]
    cases hok : (accept w.fsize c.length l).2 with
    | true =>
      rw [accept_ok _ _ _ hok] at hf
      simp only [hw, hok, if_true]
      rw [accept_append_ok _ _ _ _ hok, ← List.append_assoc, ← List.length_append]
      exact ih l' hf
    | false =>
      simp only [hw, hok, Bool.false_eq_true, if_false]
      rw [accept_append_fail _ _ _ _ hok, hok]
      exact ⟨hf, rfl⟩

theorem FileAt.kwriteLines {w : World} {t : Path} {m : Nat} {c : Bytes} {p : Proc} (h : FileAt w t m c p)
    (hcap : ∀ L, w.fsize = some L → c.length ≤ L) (ls : List Bytes) :
    FileAt w t m (c ++ (accept w.fsize c.length ls.flatten).1) (kwriteLines (.file t) p ls).1 ∧
    (kwriteLines (.file t) p ls).2 = (accept w.fsize c.length ls.flatten).2 := by
  cases ls with
  | nil =>
    have : accept w.fsize c.length [] = ([], true) := by
      cases hf : w.fsize with
      | none => rfl
      | some L => simp [accept, hcap L hf]
    simpa [Cli.kwriteLines, this] using h
  | cons l ls => exact h.kwriteLines_cons ls l

theorem kwriteLines_file_emitted (t : Path) (ls : List Bytes) :
    ∀ p : Proc, (kwriteLines (.file t) p ls).1.emitted = p.emitted := by
  induction ls with
  | nil => exact fun _ => rfl
  | cons l ls ih =>
    intro p
    rw [kwriteLines]
    split
    · rw [ih]; exact writeFile_emitted p t l
    · exact writeFile_emitted p t l

theorem krun_invalid (a : KArgs) (w : World) (o : KOracle) (h : kargsValid a = false) :
    krun a w o = ⟨1, w, []⟩ := by
  simp [krun, h]

theorem krun_version (a : KArgs) (w : World) (o : KOracle) (hargs : kargsValid a = true) (hv : a.version = true) :
    krun a w o = printVersion w o.versionLine := by
  simp only [krun, hargs, hv, Bool.not_true, Bool.false_eq_true, if_false, if_true]

/-- the output path cannot be opened with O_EXCL (it exists, or its directory does not): nothing happens -/
theorem krun_uncreatable (a : KArgs) (w : World) (o : KOracle) (hv : a.version = false) (hout : a.output ≠ [])
    (hc : createExcl w a.output = none) : krun a w o = ⟨1, w, []⟩ := by
  cases hargs : kargsValid a with
  | false => exact krun_invalid a w o hargs
  | true => simp [krun, hargs, hv, hout, hc]

/-- `-o` names a path that does not exist yet (in an existing directory): nothing else changes -/
theorem krun_file (a : KArgs) (w : World) (o : KOracle) (hv : a.version = false) (hargs : kargsValid a = true)
    (hout : a.output ≠ []) (t : Path) (hr : resolve w a.output = some t) (hg : w.get t = .absent) :
    ∃ w', (∀ u, u ≠ t → w'.get u = w.get u) ∧
      match koperation a (kworld1 a w) o with
      | none => krun a w o = ⟨1, w', []⟩ ∧ w'.get t = .file [] (applyUmask 0o600 w.umask)
      | some segs =>
        krun a w o = ⟨if (accept w.fsize 0 segs.flatten).2 && !w.closeFails then 0 else 1, w', []⟩ ∧
        w'.get t = .file (accept w.fsize 0 segs.flatten).1 (applyUmask 0o600 w.umask) := by
  have hcr := createExcl_of_absent w a.output t hr hg
  have h0 := FileAt.set w t _ [] { w := w.set t (.file [] (applyUmask 0o600 w.umask)) } rfl
  simp only [kworld1, krun, hargs, hv, hout, hcr, Bool.not_true, Bool.false_eq_true, if_false]
  cases koperation a (w.set t (.file [] (applyUmask 0o600 w.umask))) o with
  | none => exact ⟨_, h0.frame, rfl, h0.node⟩
  | some segs =>
    obtain ⟨hf, hok⟩ := h0.kwriteLines (fun L _ => Nat.zero_le L) segs
    have he := kwriteLines_file_emitted t segs { w := w.set t (.file [] (applyUmask 0o600 w.umask)) }
    rw [List.nil_append, List.length_nil] at hf
    rw [List.length_nil] at hok
    refine ⟨_, hf.frame, ?_, hf.node⟩
    simp only [kfinish, hok]
    exact hf.close_result he _

/-- no `-o`: the lines go to standard output as the version line does under `-version` -/
theorem krun_stdout (a : KArgs) (w : World) (o : KOracle) (hv : a.version = false) (hargs : kargsValid a = true)
    (hout : a.output = []) :
    match koperation a w o with
    | none => krun a w o = ⟨1, w, []⟩
    | some segs => segs ≠ [] → krun a w o = printVersion w segs.flatten := by
  simp only [krun, hargs, hv, hout, Bool.not_true, Bool.false_eq_true, if_false, if_true]
  cases hop : koperation a w o with
  | none => rfl
  | some segs =>
    intro hne
    obtain ⟨l, ls, rfl⟩ := List.exists_cons_of_ne_nil hne
    simp only [kwriteLines_stdout, printVersion, List.flatten_cons, kfinish]
    split <;> rfl

theorem koperation_ne (a : KArgs) (w1 : World) (o : KOracle) (ho : o.WF) (segs : List Bytes)
    (h : koperation a w1 o = some segs) : segs ≠ [] := by
  unfold koperation at h
  dsimp only at h
  split at h
  · cases h
  · split at h
    · split at h
      · exact (ho.lines_ne segs h).1
      · cases h
    · cases h
      exact List.cons_ne_nil _ _

end Cli
end AgeModel
