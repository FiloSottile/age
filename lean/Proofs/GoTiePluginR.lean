/-
  Proofs.GoTiePluginR — `(*Recipient).WrapWithLabels`, see Proofs.GoTiePluginBase.

  The `switch` of the read loop is written out once (`rBody`, its end shared with `Unwrap`), its two own commands
  follow `recipientStep`, and `read_loop` puts this together with the code around the loop.
-/
import Proofs.GoTiePluginBase
import Proofs.GoBuf
namespace AgeModel
namespace GoTie
open Extracted Plugin

namespace PluginR

variable {S σ υ χ : Type}

theorem len_nlt2 {α} (a b : α) (l : List α) : ¬ Go.len (a :: b :: l) < 2 := by
  rw [len_eq, List.length_cons, List.length_cons]; omega
theorem idx0 {α} (a : α) (l : List α) : Go.idx (a :: l) 0 = .ok a := idx_zero a l
theorem idx1 {α} (a b : α) (l : List α) : Go.idx (a :: b :: l) 1 = .ok b := rfl
theorem slice2 {α} (a b : α) (l : List α) : Go.slice (a :: b :: l) 2 (Go.len (a :: b :: l)) = .ok l := by
  have h : (0:Int) ≤ 2 ∧ (2:Int) ≤ Go.len (a :: b :: l) ∧ Go.len (a :: b :: l) ≤ Int.ofNat (a :: b :: l).length := by
    simp only [len_eq, Int.ofNat_eq_natCast, List.length_cons]; omega
  have h2 : (Go.len (a :: b :: l)).toNat = (a :: b :: l).length := by
    simp only [len_eq, Int.toNat_natCast]
  simp only [Go.slice, h, and_self, if_true, h2, List.take_length]
  rfl

abbrev rSite (k : Nat) : Go.Err := ⟨"plugin.(*Recipient).WrapWithLabels", k, []⟩

def rRet (g : Option Go.Err) (c : χ) : List age_Stanza × Option (List Bytes) × Option Go.Err × Option χ :=
  ([], none, g, some c)

section loop
variable (E : PluginEnv S σ υ χ) (enc : Bytes) (idm : Bool) (err : Option Go.Err)

abbrev rLoop := plugin_Recipient_WrapWithLabels_loop1 E.W E.Close E.Rd E.Hd ⟨E.name, enc, E.u, idm⟩

/-- one iteration of the loop after the stanza `f` has been read -/
def rBody (fuel : Nat) (stanzas : List age_Stanza) (labels : Option (List Bytes)) (conn : χ) (sr' : σ)
    (f : format_Stanza) :
    Go.M (Go.Loop (List age_Stanza × Option (List Bytes) × Option Go.Err × χ × σ)
      (List age_Stanza × Option (List Bytes) × Option Go.Err × Option χ)) :=
  if f.Type_ = bs "recipient-stanza" then
    if Go.len f.Args < 2 then E.bail rRet (some (rSite 1)) conn
    else Go.idx f.Args 0 >>= fun i =>
      if (Go.strconv_Atoi i).2 = none then
        if (Go.strconv_Atoi i).1 = 0 then
          Go.idx f.Args 1 >>= fun t => Go.slice f.Args 2 (Go.len f.Args) >>= fun as =>
            E.send rRet conn "ok" fun c => rLoop E enc idm fuel (stanzas ++ [⟨t, as, f.Body⟩]) labels err c sr'
        else E.bail rRet (some (rSite 3)) conn
      else E.bail rRet (some (rSite 2)) conn
  else if f.Type_ = bs "labels" then
    if labels.isSome then E.bail rRet (some (rSite 4)) conn
    else E.send rRet conn "ok" fun c => rLoop E enc idm fuel stanzas (some f.Args) err c sr'
  else
    E.common rRet (rSite 5) (stanzas, labels, err, conn, sr') (fun c => rLoop E enc idm fuel stanzas labels err c sr')
      conn f

theorem rLoop_succ (fuel : Nat) (stanzas : List age_Stanza) (labels : Option (List Bytes)) (conn : χ) (sr : σ) :
    rLoop E enc idm (fuel + 1) stanzas labels err conn sr = E.Rd E.u E.name sr >>= fun t =>
      if t.2.1 = none then rBody E enc idm err fuel stanzas labels conn t.2.2 t.1 else E.bail rRet t.2.1 conn := by
  simp only [rLoop, plugin_Recipient_WrapWithLabels_loop1, rBody, PluginEnv.common, PluginEnv.send, PluginEnv.bail,
    rRet, ↓words, bne_iff_ne, ne_eq, ite_self, bind_pure_comp, beq_iff_eq, decide_eq_true_eq, reduceCtorEq,
    not_false_eq_true, ↓reduceIte, ite_not, Bool.not_eq_eq_eq_not, Bool.not_true]

def rFinish (s : RState S) : Except ClientErr RResult :=
  if s.stanzas = [] then .error .noStanzas else .ok (s.stanzas, s.labels)

abbrev rVars (s : RState S) (c : χ) (sr : σ) : List age_Stanza × Option (List Bytes) × Option Go.Err × χ × σ :=
  (s.stanzas.map goAS, s.labels.map (·.map bs), err, c, sr)

abbrev rL (fuel : Nat) (s : RState S) (c : χ) (sr : σ) :=
  rLoop E enc idm fuel (s.stanzas.map goAS) (s.labels.map (·.map bs)) err c sr

theorem rBody_follows (fuel : Nat) (s : RState S) (conn : χ) (sr' : σ) (m : Plugin.Stanza) (hU : E.uiOf conn = s.ui) :
    Follows E (·.ui) (Stops (rErrRel E) rFinish (rVars err) rRet) (fun s' c' => rL E enc idm err fuel s' c' sr') s conn
      (rBody E enc idm err fuel (s.stanzas.map goAS) (s.labels.map (·.map bs)) conn sr' (goFS m))
      (recipientStep E.ui E.dec s m) := by
  obtain ⟨ty, args, body⟩ := m
  have site : ∀ k, k ∈ [1, 2, 3, 4] →
      Follows E (·.ui) (Stops (rErrRel E) rFinish (rVars err) rRet) (fun s' c' => rL E enc idm err fuel s' c' sr') s conn
        (E.bail rRet (some (rSite k)) conn) (.halt [] (.error .protocol)) :=
    fun k hk => .bail (Or.inr ⟨k, hk, rfl⟩) hU
  simp only [rBody, recipientStep, goFS_type_eq]
  by_cases t1 : ty = "recipient-stanza"
  · simp only [if_pos t1, goFS]
    rcases args with _ | ⟨i, _ | ⟨t, as⟩⟩
    · exact site 1 (by simp)
    · exact site 1 (by simp)
    · simp only [List.map_cons, if_neg (len_nlt2 _ _ _), idx0, Go.bind_ok]
      cases hat : atoi i with
      | none =>
        simp only [if_neg (atoi_none i hat)]
        exact site 2 (by simp)
      | some n =>
        simp only [atoi_some i n hat, if_true]
        by_cases hn : n = 0
        · subst hn
          simp only [↓reduceIte, idx1, slice2, Go.bind_ok, ne_eq, not_true_eq_false]
          exact .send "ok" (by simp only [rL, List.map_append, List.map_cons, List.map_nil, goAS]) rfl hU
        · simp only [ne_eq, hn, not_false_eq_true, if_true]
          exact site 3 (by simp)
  by_cases t2 : ty = "labels"
  · simp only [if_neg t1, if_pos t2, goFS]
    cases hl : s.labels with
    | some l =>
      simp only [Option.map_some, Option.isSome_some, if_true]
      exact site 4 (by simp)
    | none =>
      simp only [Option.map_none, Option.isSome_none, Bool.false_eq_true, if_false]
      exact .send "ok" (by simp only [rL, Option.map_some]) rfl hU
  · simp only [if_neg t1, if_neg t2]
    -- elaborated before it meets the goal: matching the goal against the conclusion while `vars` and `cont`
    -- are still unknown is slow
    have h := common_follows E (·.ui) (rErrRel E) rFinish (rVars err) rRet (fun s' c' => rL E enc idm err fuel s' c' sr')
      (fun s st => { s with ui := st }) (rSite 5) s conn sr' ⟨ty, args, body⟩ (fun _ => ⟨rfl, rfl⟩) rfl (Or.inl rfl) hU
    exact h

end loop

def rAfter : Go.Loop (List age_Stanza × Option (List Bytes) × Option Go.Err × χ × σ)
    (List age_Stanza × Option (List Bytes) × Option Go.Err × Option χ) →
    List age_Stanza × Option (List Bytes) × Option Go.Err × Option χ
  | .ret v => v
  | .next (stanzas, labels, _, conn, _) =>
    if stanzas = [] then rRet (some (rSite 6)) conn else (stanzas, labels, none, some conn)

theorem wrap_eq (E : PluginEnv S σ υ χ) (identityMode : Bool) (encoding grease : String) (fileKey : Bytes) :
    ∃ c sr, E.absC c = recipientPhase1 identityMode encoding fileKey grease ∧ E.uiOf c = E.st0 ∧
      E.absS sr = (E.script.msgs, E.script.fin) ∧
      ∀ out, rLoop E (bs encoding) identityMode (E.rem sr + 1) [] none none c sr = .ok out →
        plugin_Recipient_WrapWithLabels E.Open E.W E.Close (bs grease) E.WB E.New E.Rd E.Hd E.rem
          ⟨E.name, bs encoding, E.u, identityMode⟩ fileKey = .ok (rAfter out) := by
  obtain ⟨c1, hW1, ha1, hu1⟩ := E.hW E.c0 (if identityMode then "add-identity" else "add-recipient") [encoding]
  obtain ⟨c2, hW2, ha2, hu2⟩ := E.hW c1 grease []
  obtain ⟨c3, hW3, ha3, hu3⟩ := E.hWB c2 "wrap-file-key" fileKey
  obtain ⟨c4, hW4, ha4, hu4⟩ := E.hW c3 "extension-labels" []
  obtain ⟨c5, hW5, ha5, hu5⟩ := E.hW c4 "done" []
  obtain ⟨sr, hN, hS⟩ := E.hNew c5
  refine ⟨c5, sr, by rw [ha5, ha4, ha3, ha2, ha1, E.h0.1]; rfl, by rw [hu5, hu4, hu3, hu2, hu1, E.h0.2], hS,
    fun out hout => ?_⟩
  simp only [rLoop] at hout
  cases identityMode <;>
  · simp only [Bool.false_eq_true, if_false, if_true, List.map_cons, List.map_nil] at hW1 hW2 hW4 hW5
    simp only [plugin_Recipient_WrapWithLabels, Go.bind_ok, pure, Except.pure, E.hOpen, ↓words, bne_self_eq_false,
      Bool.false_eq_true, ↓reduceIte, hW1, hW2, hW3, hW4, hW5, hN, hout]
    rcases out with ⟨stanzas, labels, err, conn', sr'⟩ | v
    · obtain ⟨e, hC⟩ := E.hClose conn'
      simp [rAfter, rRet, hC, Go.len_beq_zero]
      exact (apply_ite Except.ok _ _ _).symm
    · rfl

end PluginR

open PluginR in
theorem recipient_client_tie {S σ υ χ : Type} (E : PluginEnv S σ υ χ)
    (identityMode : Bool) (encoding grease : String) (fileKey : Bytes) :
    ∃ (res : List age_Stanza × Option (List Bytes) × Option Go.Err) (c : χ), plugin_Recipient_WrapWithLabels E.Open E.W E.Close (bs grease) E.WB E.New E.Rd E.Hd E.rem
        ⟨E.name, bs encoding, E.u, identityMode⟩ fileKey = .ok (res.1, res.2.1, res.2.2, some c) ∧
      let o := recipientClient E.ui E.dec E.st0 identityMode encoding fileKey grease E.script
      E.absC c = o.phase1 ++ o.replies ∧ E.uiOf c = o.ui ∧
      match o.result with
      | .ok (ss, ls) => res.1 = ss.map goAS ∧ res.2.1 = ls.map (·.map bs) ∧ res.2.2 = none
      | .error e => res.1 = [] ∧ res.2.1 = none ∧ rErrRel E e res.2.2 := by
  obtain ⟨c, sr, hA, hU, hS, hrun⟩ := wrap_eq E identityMode encoding grease fileKey
  obtain ⟨c', out, hout, ha, hu, hfin⟩ := read_loop E (fun fuel s => rLoop_succ E (bs encoding) identityMode none fuel _ _)
    (fun _ => rfl) (rBody_follows E (bs encoding) identityMode none) E.script.fin E.script.msgs (E.rem sr + 1)
    ⟨E.st0, [], none⟩ c sr hS (by rw [E.hRem, hS]; exact Nat.lt_succ_self _) hU
  rw [hA] at ha
  rw [hrun out hout]
  simp only [recipientClient]
  generalize run (recipientStep E.ui E.dec) ⟨E.st0, [], none⟩ E.script.msgs E.script.fin = t at ha hu hfin ⊢
  match out, hfin with
  | .ret v, ⟨e, g, hv, hres, hrel⟩ =>
    subst hv
    rw [hres]
    exact ⟨([], none, g), c', rfl, ha, hu, rfl, rfl, hrel⟩
  | .next a, ⟨sr', ha', hres⟩ =>
    subst ha'
    rw [hres]
    simp only [rAfter, rFinish, List.map_eq_nil_iff]
    by_cases hst : t.state.stanzas = []
    · rw [if_pos hst, if_pos hst]
      exact ⟨([], none, some (rSite 6)), c', rfl, ha, hu, rfl, rfl, rfl⟩
    · rw [if_neg hst, if_neg hst]
      exact ⟨(_, _, none), c', rfl, ha, hu, rfl, rfl, rfl⟩

end GoTie
end AgeModel
