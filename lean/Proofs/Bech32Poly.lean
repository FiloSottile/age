/-
  Proofs.Bech32Poly — algebra of `polymod`.

  `polymodStep chk v = L chk ^^^ v` with `L` XOR-linear, hence
  the fold is XOR-linear jointly in (start state, input list).  From that:
  the checksum `createChecksum` appends is the unique 6-symbol suffix that
  makes `verifyChecksum` true.
-/
import Proofs.Bech32Bits
namespace AgeModel
namespace Bech32

/-- the generator contribution selected by the 5 bits of `top` -/
def G (top : Nat) : Nat :=
  feed top 4 0x2a1462b3 (feed top 3 0x3d4233dd (feed top 2 0x1ea119fa (feed top 1 0x26508e6d (feed top 0 0x3b6a57b2 0))))

/-- the state transition without input -/
def L (chk : Nat) : Nat := ((chk &&& 0x1ffffff) <<< 5) ^^^ G (chk >>> 25)

theorem feed_eq (top i g c : Nat) : feed top i g c = c ^^^ feed top i g 0 := by
  unfold feed; split <;> simp

theorem feed_lt {top i g c : Nat} (hg : g < 2 ^ 30) (hc : c < 2 ^ 30) : feed top i g c < 2 ^ 30 := by
  unfold feed
  split
  · exact Nat.xor_lt_two_pow hc hg
  · exact hc

/-- the selected bit of `a ^^^ b` is the XOR of the selected bits, so a generator constant is fed
    for `a ^^^ b` exactly when it is fed for one of `a`, `b` -/
theorem feed_xor (a b i g : Nat) : feed (a ^^^ b) i g 0 = feed a i g 0 ^^^ feed b i g 0 := by
  unfold feed
  rw [Nat.shiftRight_xor_distrib, Nat.and_xor_distrib_right]
  have ha := Nat.and_one_is_mod (a >>> i)
  have hb := Nat.and_one_is_mod (b >>> i)
  rcases Nat.mod_two_eq_zero_or_one (a >>> i) with h | h <;> rcases Nat.mod_two_eq_zero_or_one (b >>> i) with h' | h' <;>
    simp [ha, hb, h, h']

theorem G_eq (top : Nat) : G top = feed top 0 0x3b6a57b2 0 ^^^ feed top 1 0x26508e6d 0 ^^^ feed top 2 0x1ea119fa 0 ^^^
    feed top 3 0x3d4233dd 0 ^^^ feed top 4 0x2a1462b3 0 := by
  unfold G
  rw [feed_eq _ 4, feed_eq _ 3, feed_eq _ 2, feed_eq _ 1]

theorem polymodStep_eq (chk : Nat) (v : UInt8) : polymodStep chk v = L chk ^^^ v.toNat := by
  simp only [polymodStep, L, G_eq]
  rw [feed_eq _ 4, feed_eq _ 3, feed_eq _ 2, feed_eq _ 1, feed_eq _ 0]
  ac_rfl

theorem G_lin (a b : Nat) : G (a ^^^ b) = G a ^^^ G b := by
  rw [G_eq, G_eq a, G_eq b, feed_xor, feed_xor, feed_xor, feed_xor, feed_xor]
  ac_rfl

theorem G_lt (top : Nat) : G top < 2 ^ 30 :=
  feed_lt (by decide) (feed_lt (by decide) (feed_lt (by decide) (feed_lt (by decide) (feed_lt (by decide) (by decide)))))

theorem top_lt {a : Nat} (ha : a < 2 ^ 30) : a >>> 25 < 32 := by
  rw [Nat.shiftRight_eq_div_pow]
  apply Nat.div_lt_of_lt_mul
  exact ha

theorem L_lt (chk : Nat) : L chk < 2 ^ 30 := by
  have : chk &&& 0x1ffffff < 2 ^ 25 := Nat.and_lt_two_pow chk (by decide)
  exact Nat.xor_lt_two_pow (by rw [Nat.shiftLeft_eq]; omega) (G_lt _)

theorem L_xor (a b : Nat) : L (a ^^^ b) = L a ^^^ L b := by
  unfold L
  rw [Nat.and_xor_distrib_right, Nat.shiftLeft_xor_distrib, Nat.shiftRight_xor_distrib, G_lin]
  ac_rfl

theorem L_zero : L 0 = 0 := by decide

theorem polymodStep_lt (chk : Nat) (v : UInt8) : polymodStep chk v < 2 ^ 30 := by
  rw [polymodStep_eq]
  apply Nat.xor_lt_two_pow (L_lt _)
  have := v.toNat_lt
  omega

theorem polymodStep_xor (a b : Nat) (x y : UInt8) :
    polymodStep (a ^^^ b) (x ^^^ y) = polymodStep a x ^^^ polymodStep b y := by
  rw [polymodStep_eq, polymodStep_eq, polymodStep_eq, L_xor, UInt8.toNat_xor]
  ac_rfl

theorem foldl_polymodStep_lt {s : Nat} (hs : s < 2 ^ 30) : ∀ (vs : Bytes), vs.foldl polymodStep s < 2 ^ 30
  | [] => hs
  | v :: vs => by
    rw [List.foldl_cons]
    exact foldl_polymodStep_lt (polymodStep_lt s v) vs

theorem polymod_lt (vs : Bytes) : polymod vs < 2 ^ 30 :=
  foldl_polymodStep_lt (by decide) vs

theorem polymod_append (a b : Bytes) : polymod (a ++ b) = b.foldl polymodStep (polymod a) :=
  List.foldl_append

def xorBytes (x y : Bytes) : Bytes := List.zipWith (· ^^^ ·) x y

theorem foldl_polymodStep_xor : ∀ (x y : Bytes) (a b : Nat), x.length = y.length →
    (xorBytes x y).foldl polymodStep (a ^^^ b) = x.foldl polymodStep a ^^^ y.foldl polymodStep b
  | [], [], _, _, _ => rfl
  | [], _ :: _, _, _, h => by simp at h
  | _ :: _, [], _, _, h => by simp at h
  | u :: x, v :: y, a, b, h => by
    simp only [xorBytes, List.zipWith_cons_cons, List.foldl_cons]
    rw [polymodStep_xor]
    exact foldl_polymodStep_xor x y _ _ (by simpa using h)

theorem shl_xor (s v n : Nat) (hv : v < 2 ^ n) : s <<< n ^^^ v = s * 2 ^ n + v := by
  rw [← Nat.div_add_mod (s <<< n ^^^ v) (2 ^ n), Nat.xor_div_two_pow, Nat.xor_mod_two_pow, Nat.shiftLeft_eq,
    Nat.mul_div_cancel _ (Nat.two_pow_pos n), Nat.mul_mod_left, Nat.div_eq_of_lt hv, Nat.mod_eq_of_lt hv, Nat.xor_zero,
    Nat.zero_xor, Nat.mul_comm]

theorem polymodStep_small {s n : Nat} (hs : s < 2 ^ n) (hn : n ≤ 25) (v : UInt8) (hv : v.toNat < 32) :
    polymodStep s v = s * 32 + v.toNat := by
  have hs : s < 2 ^ 25 := Nat.lt_of_lt_of_le hs (Nat.pow_le_pow_right (by decide) hn)
  rw [polymodStep_eq, L]
  have h1 : s >>> 25 = 0 := by rw [Nat.shiftRight_eq_div_pow]; exact Nat.div_eq_of_lt hs
  have h2 : s &&& 0x1ffffff = s := by
    rw [show 0x1ffffff = 2 ^ 25 - 1 from rfl, Nat.and_two_pow_sub_one_eq_mod, Nat.mod_eq_of_lt hs]
  have h3 : G 0 = 0 := by decide
  rw [h1, h2, h3, Nat.xor_zero, shl_xor _ _ 5 hv]

theorem base32_step_lt {s v n : Nat} (hs : s < 2 ^ n) (hv : v < 32) : s * 32 + v < 2 ^ (n + 5) := by
  rw [Nat.pow_add]
  omega

def pack6 (c0 c1 c2 c3 c4 c5 : Nat) : Nat := ((((c0 * 32 + c1) * 32 + c2) * 32 + c3) * 32 + c4) * 32 + c5

theorem foldl_zero_six (c0 c1 c2 c3 c4 c5 : UInt8) (h0 : c0.toNat < 32) (h1 : c1.toNat < 32) (h2 : c2.toNat < 32)
    (h3 : c3.toNat < 32) (h4 : c4.toNat < 32) (h5 : c5.toNat < 32) :
    [c0, c1, c2, c3, c4, c5].foldl polymodStep 0 =
      pack6 c0.toNat c1.toNat c2.toNat c3.toNat c4.toNat c5.toNat := by
  have b0 := base32_step_lt (s := 0) (n := 0) (by decide) h0
  have b1 := base32_step_lt b0 h1
  have b2 := base32_step_lt b1 h2
  have b3 := base32_step_lt b2 h3
  have b4 := base32_step_lt b3 h4
  simp only [List.foldl_cons, List.foldl_nil, pack6]
  rw [polymodStep_small (n := 0) (by decide) (by decide) c0 h0, polymodStep_small b0 (by decide) c1 h1,
    polymodStep_small b1 (by decide) c2 h2, polymodStep_small b2 (by decide) c3 h3,
    polymodStep_small b3 (by decide) c4 h4, polymodStep_small b4 (by decide) c5 h5, Nat.zero_mul, Nat.zero_add]

/-- appending six symbols instead of six zeros XORs their packed value into the result -/
theorem foldl_append_six (s : Nat) (c0 c1 c2 c3 c4 c5 : UInt8) (h0 : c0.toNat < 32) (h1 : c1.toNat < 32)
    (h2 : c2.toNat < 32) (h3 : c3.toNat < 32) (h4 : c4.toNat < 32) (h5 : c5.toNat < 32) :
    [c0, c1, c2, c3, c4, c5].foldl polymodStep s =
      ([0, 0, 0, 0, 0, 0] : Bytes).foldl polymodStep s ^^^ pack6 c0.toNat c1.toNat c2.toNat c3.toNat c4.toNat c5.toNat := by
  have h := foldl_polymodStep_xor [0, 0, 0, 0, 0, 0] [c0, c1, c2, c3, c4, c5] s 0 rfl
  rw [foldl_zero_six c0 c1 c2 c3 c4 c5 h0 h1 h2 h3 h4 h5] at h
  rw [← h]
  simp [xorBytes]

theorem base32_split {x d : Nat} (m : Nat) (hd : d < 32) : x * 32 + d = m ↔ x = m / 32 ∧ d = m % 32 := by
  omega

theorem pack6_eq_iff {c0 c1 c2 c3 c4 c5 m : Nat} (hm : m < 2 ^ 30) (h1 : c1 < 32) (h2 : c2 < 32) (h3 : c3 < 32)
    (h4 : c4 < 32) (h5 : c5 < 32) :
    pack6 c0 c1 c2 c3 c4 c5 = m ↔ c0 = m / 2 ^ 25 % 32 ∧ c1 = m / 2 ^ 20 % 32 ∧ c2 = m / 2 ^ 15 % 32 ∧
      c3 = m / 2 ^ 10 % 32 ∧ c4 = m / 2 ^ 5 % 32 ∧ c5 = m / 2 ^ 0 % 32 := by
  unfold pack6
  rw [base32_split _ h5, base32_split _ h4, base32_split _ h3, base32_split _ h2, base32_split _ h1,
    Nat.mod_eq_of_lt (Nat.div_lt_of_lt_mul hm : m / 2 ^ 25 < 32)]
  simp only [Nat.div_div_eq_div_mul, Nat.reduceMul, Nat.reducePow, Nat.div_one, and_assoc]

theorem length_six {α : Type} (l : List α) (h : l.length = 6) : ∃ a b c d e f, l = [a, b, c, d, e, f] := by
  match l, h with
  | [a, b, c, d, e, f], _ => exact ⟨a, b, c, d, e, f, rfl⟩

/-- `byte(x) & 31` is the lowest base-32 digit of `x` -/
theorem digit_toNat (x : Nat) : ((x % 256 &&& 31).toUInt8).toNat = x % 32 :=
  emit_toNat (t := 5) (by decide) (mask_eq_mod (by decide)) x

theorem digit_eq {c : UInt8} {x : Nat} (h : c.toNat = x % 32) : c = (x % 256 &&& 31).toUInt8 :=
  UInt8.toNat_inj.mp (by rw [digit_toNat, h])

/-- the state after the data part and six zero symbols; `createChecksum` spells out the base-32
    digits of this state with its lowest bit flipped -/
def zeroTail (hrp data : Bytes) : Nat :=
  ([0, 0, 0, 0, 0, 0] : Bytes).foldl polymodStep (polymod (hrpExpand hrp ++ data))

theorem zeroTail_xor_one_lt (hrp data : Bytes) : zeroTail hrp data ^^^ 1 < 2 ^ 30 :=
  Nat.xor_lt_two_pow (foldl_polymodStep_lt (polymod_lt _) _) (by decide)

theorem createChecksum_eq (hrp data : Bytes) :
    createChecksum hrp data =
      [(((zeroTail hrp data ^^^ 1) >>> 25) % 256 &&& 31).toUInt8, (((zeroTail hrp data ^^^ 1) >>> 20) % 256 &&& 31).toUInt8,
       (((zeroTail hrp data ^^^ 1) >>> 15) % 256 &&& 31).toUInt8, (((zeroTail hrp data ^^^ 1) >>> 10) % 256 &&& 31).toUInt8,
       (((zeroTail hrp data ^^^ 1) >>> 5) % 256 &&& 31).toUInt8, (((zeroTail hrp data ^^^ 1) >>> 0) % 256 &&& 31).toUInt8] := by
  simp only [createChecksum, zeroTail, polymod, List.foldl_append, List.map_cons, List.map_nil]

theorem createChecksum_length (hrp data : Bytes) : (createChecksum hrp data).length = 6 := by
  rw [createChecksum_eq]; rfl

theorem createChecksum_lt (hrp data : Bytes) : ∀ x ∈ createChecksum hrp data, x.toNat < 32 := by
  intro x hx
  simp only [createChecksum, List.mem_map] at hx
  obtain ⟨_, _, rfl⟩ := hx
  rw [digit_toNat]
  exact Nat.mod_lt _ (by decide)

theorem xor_eq_iff (a b c : Nat) : a ^^^ b = c ↔ b = a ^^^ c := by
  constructor
  · intro h; rw [← h, ← Nat.xor_assoc, Nat.xor_self, Nat.zero_xor]
  · intro h; rw [h, ← Nat.xor_assoc, Nat.xor_self, Nat.zero_xor]

theorem verify_six (hrp data : Bytes) {c0 c1 c2 c3 c4 c5 : UInt8} (hlt : ∀ x ∈ [c0, c1, c2, c3, c4, c5], x.toNat < 32) :
    verifyChecksum hrp (data ++ [c0, c1, c2, c3, c4, c5]) = true ↔
      pack6 c0.toNat c1.toNat c2.toNat c3.toNat c4.toNat c5.toNat = zeroTail hrp data ^^^ 1 := by
  simp only [verifyChecksum, ← List.append_assoc, beq_iff_eq]
  rw [polymod_append, foldl_append_six _ c0 c1 c2 c3 c4 c5 (hlt _ (by simp))
    (hlt _ (by simp)) (hlt _ (by simp)) (hlt _ (by simp)) (hlt _ (by simp)) (hlt _ (by simp))]
  exact xor_eq_iff _ _ _

theorem verify_createChecksum (hrp data : Bytes) :
    verifyChecksum hrp (data ++ createChecksum hrp data) = true := by
  have hlt := createChecksum_lt hrp data
  rw [createChecksum_eq] at hlt ⊢
  have hd : ∀ y, y % 32 < 32 := fun y => Nat.mod_lt _ (by decide)
  rw [verify_six hrp data hlt]
  simp only [digit_toNat, Nat.shiftRight_eq_div_pow]
  rw [pack6_eq_iff (zeroTail_xor_one_lt hrp data) (hd _) (hd _) (hd _) (hd _) (hd _)]
  exact ⟨rfl, rfl, rfl, rfl, rfl, rfl⟩

theorem verify_unique (hrp data c : Bytes) (hlen : c.length = 6) (hlt : ∀ x ∈ c, x.toNat < 32)
    (hv : verifyChecksum hrp (data ++ c) = true) : c = createChecksum hrp data := by
  obtain ⟨c0, c1, c2, c3, c4, c5, rfl⟩ := length_six c hlen
  rw [verify_six hrp data hlt, pack6_eq_iff (zeroTail_xor_one_lt hrp data) (hlt _ (by simp)) (hlt _ (by simp))
    (hlt _ (by simp)) (hlt _ (by simp)) (hlt _ (by simp))] at hv
  obtain ⟨d0, d1, d2, d3, d4, d5⟩ := hv
  simp only [createChecksum_eq, Nat.shiftRight_eq_div_pow]
  rw [← digit_eq d0, ← digit_eq d1, ← digit_eq d2, ← digit_eq d3, ← digit_eq d4, ← digit_eq d5]

end Bech32
end AgeModel
