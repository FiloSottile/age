/-
  Proofs.ArmorRead — `getLine` and the fuel-free body reader `body` with its unfolding equation;
  de-armoring the canonical armor of `b` yields `b` and a clean end.
-/
import AgeModel.Armor
import Proofs.B64Std
import Proofs.FormatLines
namespace AgeModel
namespace Armor
open Format (nl cr sp takeLine takeLine_app takeLine_eq wrap wrap_short wrap_app64)
open B64

theorem nl_not_mem_encStd (b : Bytes) : nl ∉ encStd b := encStd_not_mem b nl (by decide)
theorem cr_not_mem_encStd (b : Bytes) : cr ∉ encStd b := encStd_not_mem b cr (by decide)

theorem trimCR_of_not_mem {l : Bytes} (h : cr ∉ l) : trimCR l = l := by
  unfold trimCR
  cases hl : l.getLast? with
  | none => rfl
  | some c =>
    dsimp only
    have hc : c ∈ l := List.mem_of_getLast? hl
    have : c ≠ cr := fun e => h (e ▸ hc)
    simp [this]

theorem getLine_line (fail : Bool) (l r : Bytes) (hn : nl ∉ l) (hc : cr ∉ l) :
    getLine fail (l ++ nl :: r) = some (l, r) := by
  unfold getLine
  cases h : l ++ nl :: r with
  | nil => simp at h
  | cons x xs =>
    rw [← h, takeLine_app l r hn]
    simp [trimCR_of_not_mem hc]

theorem getLine_header (r : Bytes) : getLine false (header ++ nl :: r) = some (header, r) :=
  getLine_line false _ _ (by decide) (by decide)

theorem getLine_footer (r : Bytes) : getLine false (footer ++ nl :: r) = some (footer, r) :=
  getLine_line false _ _ (by decide) (by decide)

theorem getLine_enc (b r : Bytes) : getLine false (encStd b ++ nl :: r) = some (encStd b, r) :=
  getLine_line false _ _ (nl_not_mem_encStd b) (cr_not_mem_encStd b)

theorem header_allSpace : allSpace header = false := by decide

theorem encStd_ne_footer (x : Bytes) : encStd x ≠ footer := by
  intro e
  have : (45 : UInt8) ∈ encStd x := by rw [e]; decide
  exact encStd_not_mem x 45 (by decide) this

theorem classify_enc (x : Bytes) (h0 : 0 < x.length) (h48 : x.length ≤ 48) : classifyLine (encStd x) = .data x := by
  unfold classifyLine
  have hl := encStd_length x
  have h1 : ¬ (encStd x).length > 64 := by omega
  have h2 : ¬ (encStd x).length = 0 := by omega
  have h3 := Format.any_eq_or_false (cr_not_mem_encStd x) (nl_not_mem_encStd x)
  simp [encStd_ne_footer x, h1, h2, h3, decStd_encStd]

theorem drainOK_nil (W : Nat) (hW : 0 < W) : drainOK W false [] = true := by
  unfold drainOK; simp [allSpace]; omega

theorem getLine_len' {fail : Bool} {t l r : Bytes} (h : getLine fail t = some (l, r)) : r.length < t.length := by
  unfold getLine at h
  cases t with
  | nil => simp at h
  | cons x xs =>
    simp only at h
    cases htl : Format.takeLine (x :: xs) with
    | some q =>
      obtain ⟨l', r'⟩ := q
      simp only [htl, Option.some.injEq, Prod.mk.injEq] at h
      rw [← h.2]; exact Format.takeLine_len htl
    | none =>
      simp only [htl] at h
      split at h
      · simp at h
      · simp only [Option.some.injEq, Prod.mk.injEq] at h
        rw [← h.2]; simp

theorem readBody_fuel (W : Nat) (fail : Bool) : ∀ (f : Nat) (t : Bytes) (f' : Nat), t.length < f → t.length < f' →
    readBody W fail f t = readBody W fail f' t := by
  intro f
  induction f with
  | zero => intro t f' h; omega
  | succ f ih =>
    intro t f' h h'
    match f' with
    | 0 => omega
    | f'+1 =>
      unfold readBody
      cases hg : getLine fail t with
      | none => rfl
      | some p =>
        obtain ⟨line, rest⟩ := p
        have hlen := getLine_len' hg
        dsimp only
        cases classifyLine line with
        | bad => rfl
        | footer => rfl
        | data b =>
          dsimp only
          split
          · rfl
          · rw [ih rest f' (by omega) (by omega)]

/-- body reading from `t`, fuel-free -/
def body (W : Nat) (fail : Bool) (t : Bytes) : Bytes × AOut := readBody W fail (t.length + 1) t

theorem body_unfold (W : Nat) (fail : Bool) (t : Bytes) :
    body W fail t =
      match getLine fail t with
      | none => ([], .err)
      | some (line, rest) =>
        match classifyLine line with
        | .bad => ([], .err)
        | .footer => ([], if drainOK W fail rest then .eof else .err)
        | .data b =>
          if b.length < 48 then
            match getLine fail rest with
            | none => ([], .err)
            | some (l2, rest2) =>
              if l2 = footer then (b, if drainOK W fail rest2 then .eof else .err) else ([], .err)
          else (b ++ (body W fail rest).1, (body W fail rest).2) := by
  unfold body
  rw [readBody]
  cases hg : getLine fail t with
  | none => rfl
  | some p =>
    obtain ⟨line, rest⟩ := p
    dsimp only
    cases classifyLine line with
    | bad => rfl
    | footer => rfl
    | data b =>
      dsimp only
      split
      · rfl
      · have := getLine_len' hg
        rw [readBody_fuel W fail t.length rest (rest.length + 1) this (by omega)]

theorem body_footer {W : Nat} {fail : Bool} {t rest : Bytes} (hg : getLine fail t = some (footer, rest)) :
    body W fail t = ([], if drainOK W fail rest then .eof else .err) := by
  rw [body_unfold, hg]
  rfl

theorem body_data_last {W : Nat} {fail : Bool} {t line rest rest2 b : Bytes} (hg : getLine fail t = some (line, rest))
    (hc : classifyLine line = .data b) (hs : b.length < 48) (hg2 : getLine fail rest = some (footer, rest2)) :
    body W fail t = (b, if drainOK W fail rest2 then .eof else .err) := by
  rw [body_unfold, hg]
  simp only [hc, hs, hg2, if_true]

theorem body_data_more {W : Nat} {fail : Bool} {t line rest b : Bytes} (hg : getLine fail t = some (line, rest))
    (hc : classifyLine line = .data b) (hs : ¬ b.length < 48) :
    body W fail t = (b ++ (body W fail rest).1, (body W fail rest).2) := by
  rw [body_unfold, hg]
  simp only [hc, hs, if_false]

/-- the canonical armor after its BEGIN line: the body lines and the END line -/
def bodyText (b : Bytes) : Bytes :=
  wrap (encStd b) ++ (if (encStd b).length % 64 = 0 then [] else [nl]) ++ footer ++ [nl]

theorem armor_eq (b : Bytes) : armor b = header ++ nl :: bodyText b := by
  simp [armor, bodyText]

theorem bodyText_nil : bodyText [] = footer ++ nl :: [] := by
  simp [bodyText, encStd, wrap_short]

/-- a last line of fewer than 48 bytes; it may fill all 64 columns -/
theorem bodyText_short {b : Bytes} (h0 : 0 < b.length) (h : b.length < 48) :
    bodyText b = encStd b ++ nl :: (footer ++ nl :: []) := by
  have hl := encStd_length b
  unfold bodyText
  by_cases hlt : (encStd b).length < 64
  · have hmod : ¬ (encStd b).length % 64 = 0 := by omega
    rw [wrap_short hlt]
    simp [hmod]
  · have h64 : (encStd b).length = 64 := by omega
    have := wrap_app64 (x := encStd b) (y := []) h64
    rw [List.append_nil] at this
    rw [this, wrap_short (by simp)]
    simp [h64]

theorem bodyText_step {b : Bytes} (h : 48 ≤ b.length) :
    bodyText b = encStd (b.take 48) ++ nl :: bodyText (b.drop 48) := by
  obtain ⟨hw, hl⟩ := Format.wrap_enc48 encStd_append (fun a ha => by rw [encStd_length, ha]) h
  unfold bodyText
  rw [hw, hl, Nat.add_mod_left]
  simp

theorem chunk48_induction {P : Bytes → Prop} (short : ∀ b, b.length < 48 → P b)
    (step : ∀ b, 48 ≤ b.length → P (b.drop 48) → P b) (b : Bytes) : P b := by
  induction h : b.length using Nat.strongRecOn generalizing b with
  | _ n ih =>
    by_cases hb : b.length < 48
    · exact short b hb
    · exact step b (by omega) (ih _ (by rw [← h, List.length_drop]; omega) _ rfl)

theorem body_bodyText (W : Nat) (hW : 0 < W) (b : Bytes) : body W false (bodyText b) = (b, .eof) := by
  induction b using chunk48_induction with
  | short b hb =>
    by_cases h0 : b = []
    · subst h0
      rw [bodyText_nil, body_footer (getLine_footer []), drainOK_nil W hW]
      rfl
    · have hpos := List.length_pos_iff.mpr h0
      rw [bodyText_short hpos hb,
        body_data_last (getLine_enc b _) (classify_enc b hpos (by omega)) hb (getLine_footer []), drainOK_nil W hW]
      rfl
  | step b hb ih =>
    have ht := List.length_take_of_le hb
    rw [bodyText_step hb, body_data_more (getLine_enc _ _) (classify_enc _ (by omega) (by omega)) (by omega), ih,
      List.take_append_drop]

theorem read_armor (W : Nat) (hW : 0 < W) (b : Bytes) : read W false (armor b) = (b, .eof) := by
  unfold read
  rw [armor_eq, readLeading, getLine_header]
  simp only [header_allSpace, Bool.false_eq_true, if_false, if_true]
  exact body_bodyText W hW b

end Armor
end AgeModel
