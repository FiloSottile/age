/-
  Proofs.GoTieWitnessFile — instances of the assumption structures of the file-level ties
  (`headerMAC`, `Decrypt`, `Encrypt`), for the toy primitive suite with the 16-byte tag, and the
  concrete run the instance theorems of `Tie/C01` use.
-/
import Proofs.ToyPrims
import Proofs.GoTiePrims
import Proofs.GoTieDecrypt
import Proofs.GoTieEncrypt
namespace AgeModel

namespace GoTie
set_option linter.ambiguousOpen false
open Extracted Stream

/-- the HKDF reader is the 32 bytes it will deliver; the running HMAC is (key, bytes written so far) -/
def MacEnv.witness : MacEnv Prims.toy16 Bytes (Bytes × Bytes) where
  H s salt info := .ok (Prims.toy16.hkdf s salt info 32)
  R k _ := .ok (k, none, k)
  hHR s salt info := ⟨_, _, rfl, rfl⟩
  hLen s salt info := by simp [Prims.toy16, Prims.toy]
  absH := id
  N key := .ok (key, [])
  hN key := ⟨_, rfl, rfl⟩
  M gh h := .ok (none, (h.1, h.2 ++ Format.marshalNoMAC (fromGoHeader gh)))
  hM hdr h := ⟨_, rfl, by
    have := fromGoHeader_toGoHeader hdr
    simp only [toGoHeader] at this
    simp only [id, this]⟩
  S h _ := .ok (Prims.toy16.hmac h.1 h.2)
  hS _ := rfl

/-- an identity whose (impossible in Go) answer "a key, and it is empty" is read as another error -/
def sanitize (P : Prims) (i : Identity) : Identity :=
  .custom fun ss => match i.unwrap P ss with
    | .key [] => .fatal
    | r => r

theorem sanitize_unwrap (P : Prims) (i : Identity) (ss : List Format.Stanza) (h : i.unwrap P ss ≠ .key []) :
    (sanitize P i).unwrap P ss = i.unwrap P ss := by
  show (match i.unwrap P ss with | .key [] => UnwrapResult.fatal | r => r) = _
  split
  · rename_i h'; exact absurd h' h
  · rfl

theorem sanitize_ne (P : Prims) (i : Identity) (ss : List Format.Stanza) : (sanitize P i).unwrap P ss ≠ .key [] := by
  show (match i.unwrap P ss with | .key [] => UnwrapResult.fatal | r => r) ≠ _
  split
  · intro h; cases h
  · rename_i h; exact fun h' => h h'

/-- a Go identity value is a model identity; `idOf` reads the answer "an empty key" as another error
    (`sanitize`; it is the identity on every identity that never gives that answer: `sanitize_unwrap`) -/
def DecryptEnv.witness : DecryptEnv Prims.toy16 Identity where
  D a := .ok (match Format.decodeString a with
              | some b => (b, none)
              | none => ([], some ⟨"format.DecodeString", 0, []⟩))
  eD := ⟨"format.DecodeString", 0, []⟩
  hD _ := rfl
  U i gs := .ok (match (sanitize Prims.toy16 i).unwrap Prims.toy16 (gs.map fromGoStanza) with
                 | .key fk => (fk, none)
                 | .incorrect => ([], age_ErrIncorrectIdentity)
                 | .fatal => ([], some ⟨"age.Identity.Unwrap", 0, []⟩))
  idOf := sanitize Prims.toy16
  hU i ss := by
    refine ⟨_, rfl, ?_⟩
    rw [map_fromGoStanza]
    have hne := sanitize_ne Prims.toy16 i ss
    cases h : (sanitize Prims.toy16 i).unwrap Prims.toy16 ss with
    | key fk =>
      rw [h] at hne
      refine ⟨by simp [resClass], fun _ hfk => hne (by simp only at hfk; rw [hfk]), fun h' => by simp [age_ErrIncorrectIdentity] at h'⟩
    | incorrect => exact ⟨by simp [resClass, age_ErrIncorrectIdentity], fun h' => by simp [age_ErrIncorrectIdentity] at h', fun _ => rfl⟩
    | fatal => exact ⟨by simp [resClass, age_ErrIncorrectIdentity], fun h' => by simp at h', fun _ => rfl⟩
  mac fk gh := .ok (headerMAC Prims.toy16 fk (fromGoHeader gh).stanzas, none)
  hMac fk h := by rw [fromGoHeader_toGoHeader]
  key fk n := .ok (streamKey Prims.toy16 fk n)
  hKey _ _ := rfl
  newReader k p := .ok (k ++ p, none)
  hNew _ _ := rfl

/-- The concrete run the instance theorems of `Tie/C01` use: one X25519 recipient and a 64-byte tape; the header
    that `encryptHeader` makes is opened by the identity with secret `[1]` (the toy X25519 maps every secret to
    the same public key), as `DecryptEnv.witness` reads that identity. -/
theorem toy_header : ∃ fk st,
    encryptHeader Prims.toy16 (List.replicate 64 7) [Recipient.x25519 (List.replicate 32 0)] =
      .ok (fk, st, List.replicate 16 7) ∧
    (DecryptEnv.witness.idOf (Identity.x25519 [1])).unwrap Prims.toy16 st = .key fk := by
  obtain ⟨st, hh, hid⟩ : ∃ st, encryptHeader Prims.toy16 (List.replicate 64 7) [Recipient.x25519 (List.replicate 32 0)] =
        .ok (List.replicate 16 7, st, List.replicate 16 7) ∧
      (Identity.x25519 [1]).unwrap Prims.toy16 st = .key (List.replicate 16 7) :=
    ⟨_, rfl, by decide⟩
  exact ⟨_, st, hh, (sanitize_unwrap _ _ st (by rw [hid]; decide)).trans hid⟩

/-- the destination is the model's; `Header.Marshal` writes the header in one piece; for ANY writer-handle type and
    constructor (the handle `stream.NewWriter` returns is a parameter of the structure) -/
def EncryptEnv.witnessW (S : DstSpec) {ω : Type} (nilW : ω) (mkW : Bytes → Dst S → ω) : EncryptEnv Prims.toy16 S Recipient (Dst S) ω where
  eRand := ⟨"crypto/rand", 0, []⟩
  eWrap := ⟨"age.Recipient.Wrap", 0, []⟩
  eW := ⟨"dst: write failed", 0, []⟩
  nilW := nilW
  recOf := id
  W r fk tape := .ok (match wrapOne Prims.toy16 r fk tape with
        | .error () => ([], [], some ⟨"crypto/rand", 0, []⟩, tape)
        | .ok (none, t) => ([], [], some ⟨"age.Recipient.Wrap", 0, []⟩, t)
        | .ok (some (ss, l), t) => (ss.map toGoStanza, l, none, t))
  hW _ _ _ := rfl
  mac fk gh := .ok (headerMAC Prims.toy16 fk (gh.Recipients.map fromGoFStanza), none)
  hMac fk ss m := by simp only [map_fromGoFStanza]
  absD := id
  hdrSegs := []
  marshalF gh d := .ok ((if (writeAll d (segmentBy [] (Format.marshal (fromGoHeader gh)))).2 then none
                          else some ⟨"dst: write failed", 0, []⟩),
                        (writeAll d (segmentBy [] (Format.marshal (fromGoHeader gh)))).1)
  hMarshal h d := ⟨_, by rw [fromGoHeader_toGoHeader]; rfl, rfl⟩
  write d b := .ok ((b.length : Int), (if (d.write b).2 then none else some ⟨"dst: write failed", 0, []⟩), (d.write b).1)
  hWrite _ _ := ⟨_, _, rfl, rfl⟩
  key fk n := .ok (streamKey Prims.toy16 fk n)
  hKey _ _ := rfl
  mkW := mkW
  newWriter k d := .ok (mkW k d, none)
  hNew _ _ := rfl

/-- the writer is (key, destination), `none` the nil `*stream.Writer` returned with an error (ω is an `Option`: for a
    `DstSpec` whose state type is empty `Bytes × Dst S` has no element to serve as `nilW`) -/
def EncryptEnv.witness (S : DstSpec) : EncryptEnv Prims.toy16 S Recipient (Dst S) (Option (Bytes × Dst S)) :=
  EncryptEnv.witnessW S none (fun k d => some (k, d))

end GoTie
end AgeModel
