/-
  Proofs.GoTieSshRsa — the ssh-rsa recipient and identity, as they stand in the source.

  `(*RSARecipient).Wrap` and `(*RSAIdentity).unwrap` are TRANSLATED from agessh/agessh.go on every
  run; `rsa.EncryptOAEP`, `rsa.DecryptOAEP` and `sshFingerprint` are parameters (`RsaEnv`). The stanza
  is the model's `wrapSshRsa`; `unwrap` answers what `unwrapSshRsa` answers (another tag: "incorrect
  identity"; a decryption failure under the right tag: fatal).
-/
import AgeModel.GoSem
import AgeModel.Recipients
import AgeModel.File
import AgeModel.Extracted.Funcs
import Proofs.GoTieSsh
namespace AgeModel
namespace GoTie
open Extracted

/-- `π` is `ssh.PublicKey`, `β` and `γ` `*rsa.PublicKey` / `*rsa.PrivateKey` (`pubOf`, `privOf` their
    content); `wire`, `Fp` as in `SshEnv`; `EncO` = `rsa.EncryptOAEP(sha256, rand, pub, msg, label)` on a
    tape (it draws a 32-byte seed; `eRand`, `eEnc` its errors), `DecO` = `rsa.DecryptOAEP` (`eDec`). -/
structure RsaEnv (P : Prims) (π β γ : Type) where
  wire : π → Bytes
  Fp : π → Go.M Bytes
  hFp : ∀ k, Fp k = .ok (sshTag P (wire k))
  pubOf : β → Bytes
  privOf : γ → Bytes
  eRand : Go.Err
  eEnc : Go.Err
  eDec : Go.Err
  EncO : Bytes → β → Bytes → Bytes → Go.M (Bytes × Option Go.Err × Bytes)
  hEncO : ∀ tape k m l, EncO tape k m l = .ok (match draw 32 tape with
    | none => ([], some eRand, tape)
    | some (seed, t) => match P.oaepEnc (pubOf k) seed m l with
      | some c => (c, none, t)
      | none => ([], some eEnc, t))
  DecO : γ → Bytes → Bytes → Go.M (Bytes × Option Go.Err)
  hDecO : ∀ k c l, DecO k c l = .ok (match P.oaepDec (privOf k) c l with
    | some m => (m, none)
    | none => ([], some eDec))

theorem sshRsa_wrap_tie (P : Prims) {π β γ : Type} (E : RsaEnv P π β γ) (key : π) (pub : β) (fk tape : Bytes) :
    ∃ res, agessh_RSARecipient_Wrap E.Fp E.EncO ⟨key, pub⟩ fk tape = .ok res ∧
      match wrapOne P (.sshRsa (E.wire key) (E.pubOf pub)) fk tape with
      | .error () => res = ([], some E.eRand, tape)
      | .ok (some (ss, ls), t) => res = (ss.map toGoStanza, none, t) ∧ ls = []
      | .ok (none, t) => res = ([], some E.eEnc, t) := by
  simp only [agessh_RSARecipient_Wrap, ← oaepLabel.eq_1, E.hFp, E.hEncO, Go.bind_ok, wrapOne, wrapSshRsa]
  cases hd : draw 32 tape with
  | none => exact ⟨_, rfl, rfl⟩
  | some st =>
    obtain ⟨seed, t⟩ := st
    cases he : P.oaepEnc (E.pubOf pub) seed fk oaepLabel with
    | none => simp only [he]; exact ⟨_, rfl, rfl⟩
    | some c => simp only [he]; exact ⟨_, rfl, rfl, rfl⟩

theorem sshRsa_unwrap_tie (P : Prims) {π β γ : Type} (E : RsaEnv P π β γ) (key : π) (priv : γ) (s : Format.Stanza) :
    ∃ r, agessh_RSAIdentity_unwrap E.Fp E.DecO ⟨priv, key⟩ (toGoStanza s) = .ok r ∧
      resClass r = unwrapSshRsa P (E.wire key) (E.privOf priv) s := by
  obtain ⟨ty, args, body⟩ := s
  rw [toGoStanza]
  unfold agessh_RSAIdentity_unwrap unwrapSshRsa
  simp only [← oaepLabel.eq_1]
  by_cases ht : ty = tSshRsa
  · refine tie_if_neg (fun h => bne_iff_ne.mp h ht) (not_not_intro ht) ?_
    rcases args with _ | ⟨tag, _ | ⟨x, rest⟩⟩
    · exact ⟨_, rfl, resClass_site 0⟩
    · have hl : (Go.len [tag] != 1) = false := rfl
      have h0 : Go.idx [tag] 0 = .ok tag := rfl
      simp only [hl, Bool.false_eq_true, if_false, h0, E.hFp, Go.bind_ok]
      by_cases htag : tag = sshTag P (E.wire key)
      · refine tie_if_neg (fun h => bne_iff_ne.mp h htag) (not_not_intro htag) ?_
        simp only [E.hDecO, Go.bind_ok]
        cases hd : P.oaepDec (E.privOf priv) body oaepLabel with
        | none => exact ⟨_, rfl, resClass_site 1⟩
        | some m => exact ⟨_, rfl, resClass_of_none rfl⟩
      · exact ⟨_, if_pos (bne_iff_ne.mpr htag), resClass_incorrect.trans (if_pos htag).symm⟩
    · exact ⟨_, if_pos (Go.len_bne_of_ne (by simp only [List.length_cons]; omega)), resClass_site 0⟩
  · exact ⟨_, if_pos (bne_iff_ne.mpr ht), resClass_incorrect.trans (if_pos ht).symm⟩

theorem sshRsa_Unwrap_tie (P : Prims) {π β γ : Type} (E : RsaEnv P π β γ) (key : π) (priv : γ) (ss : List Format.Stanza) :
    ∃ r, agessh_RSAIdentity_Unwrap errorsIsEq E.Fp E.DecO ⟨priv, key⟩ (ss.map toGoStanza) = .ok r ∧
      resClass r = (Identity.unwrapLog P (.sshRsa (E.wire key) (E.privOf priv)) ss).1 := by
  obtain ⟨r, hr, hcl⟩ := multiUnwrap_of_unwrap (sshRsa_unwrap_tie P E key priv) ss
  exact ⟨r, by rw [agessh_RSAIdentity_Unwrap, agessh_multiUnwrap_eq, hr]; rfl, hcl⟩

end GoTie
end AgeModel
