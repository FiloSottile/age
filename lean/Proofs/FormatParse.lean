/-
  Proofs.FormatParse — the readers of the header parser, each in both directions: what it accepts is the
  canonical text of what it returns, and on the canonical text it returns the value. Body lines
  (`readBody`), one stanza (`readStanza`), the closing line (`readFooter`).
-/
import Proofs.FormatLines
namespace AgeModel
namespace Format
open B64

theorem nl_not_mem_encRaw (d : Bytes) : nl ∉ encRaw d := encRaw_not_mem d nl (by decide)

theorem decodeString_enc (b : Bytes) : decodeString (encRaw b) = some b := by
  unfold decodeString
  rw [any_eq_or_false (nl_not_mem_encRaw b) (encRaw_not_mem b cr (by decide))]
  simp [decRaw_encRaw]

theorem decodeString_canon {s b : Bytes} (h : decodeString s = some b) : s = encRaw b := by
  unfold decodeString at h
  split at h
  · simp at h
  · exact encRaw_decRaw s b h

theorem encRaw_length_48 {d : Bytes} (h : d.length = 48) : (encRaw d).length = 64 := by
  rw [encRaw_length, h]

theorem encRaw_length_lt {d : Bytes} (h : d.length < 48) : (encRaw d).length < 64 := by
  rw [encRaw_length]; omega

theorem readBody_canon : ∀ (fuel : Nat) (r acc body r' : Bytes),
    readBody fuel r acc = .ok (body, r') →
    ∃ d, body = acc ++ d ∧ r = wrap (encRaw d) ++ nl :: r' := by
  intro fuel
  induction fuel with
  | zero => intro r acc body r' h; simp [readBody] at h
  | succ fuel ih =>
    intro r acc body r' h
    unfold readBody at h
    split at h
    · simp at h
    · rename_i l r1 htl
      have ⟨hr, _⟩ := takeLine_eq htl
      split at h
      · simp at h
      · rename_i d hd
        have hl := decodeString_canon hd
        split at h
        · simp at h
        · split at h
          · rename_i hnot hlt
            simp only [Except.ok.injEq, Prod.mk.injEq] at h
            obtain ⟨rfl, rfl⟩ := h
            refine ⟨d, rfl, ?_⟩
            rw [wrap_short (encRaw_length_lt hlt), ← hl, hr]
          · rename_i hnot hnlt
            have h48 : d.length = 48 := by omega
            obtain ⟨d', hb, hr1⟩ := ih r1 (acc ++ d) body r' h
            refine ⟨d ++ d', by rw [hb, List.append_assoc], ?_⟩
            rw [encRaw_append d d' (by omega), wrap_app64 (encRaw_length_48 h48), ← hl, hr, hr1]
            simp

theorem readBody_last {d : Bytes} (hd : d.length < 48) (fuel : Nat) (acc r' : Bytes) :
    readBody (fuel + 1) (wrap (encRaw d) ++ nl :: r') acc = .ok (acc ++ d, r') := by
  have : ¬ d.length > 48 := by omega
  rw [readBody, wrap_short (encRaw_length_lt hd), takeLine_app _ _ (nl_not_mem_encRaw d)]
  simp [decodeString_enc, this, hd]

theorem readBody_full {d : Bytes} (hd : 48 ≤ d.length) (fuel : Nat) (acc r' : Bytes) :
    readBody (fuel + 1) (wrap (encRaw d) ++ nl :: r') acc =
      readBody fuel (wrap (encRaw (d.drop 48)) ++ nl :: r') (acc ++ d.take 48) := by
  rw [(wrap_enc48 encRaw_append (fun _ => encRaw_length_48) hd).1, readBody, List.append_assoc, List.cons_append,
    takeLine_app _ _ (nl_not_mem_encRaw _)]
  simp [decodeString_enc, List.length_take_of_le hd]

theorem readBody_wrap : ∀ (n : Nat) (d : Bytes), d.length < 48 * (n + 1) → ∀ (fuel : Nat) (acc r' : Bytes),
    n < fuel → readBody fuel (wrap (encRaw d) ++ nl :: r') acc = .ok (acc ++ d, r') := by
  intro n
  induction n with
  | zero =>
    intro d hd fuel acc r' hf
    obtain ⟨fuel, rfl⟩ : ∃ f, fuel = f + 1 := ⟨fuel - 1, by omega⟩
    exact readBody_last (by omega) fuel acc r'
  | succ n ih =>
    intro d hd fuel acc r' hf
    obtain ⟨fuel, rfl⟩ : ∃ f, fuel = f + 1 := ⟨fuel - 1, by omega⟩
    by_cases hlt : d.length < 48
    · exact readBody_last hlt fuel acc r'
    · rw [readBody_full (by omega), ih (d.drop 48) (by rw [List.length_drop]; omega) fuel _ r' (by omega),
        List.append_assoc, List.take_append_drop]

theorem wrap_length_ge (cs : Bytes) : cs.length ≤ (wrap cs).length := by
  induction h : cs.length using Nat.strongRecOn generalizing cs with
  | _ n ih =>
    by_cases hlt : cs.length < 64
    · rw [wrap_short hlt]; omega
    · rw [wrap]; simp only [hlt, dite_false, List.length_append, List.length_cons, List.length_take]
      have := ih (cs.drop 64).length (by rw [List.length_drop]; omega) (cs.drop 64) rfl
      rw [List.length_drop] at this
      omega

theorem readStanza_canon {r r' : Bytes} {s : Stanza} (h : readStanza r = .ok (s, r')) :
    r = marshalStanza s ++ r' ∧ s.WF := by
  unfold readStanza at h
  split at h
  · simp at h
  · rename_i l r1 htl
    have ⟨hr, hnl⟩ := takeLine_eq htl
    split at h
    · rename_i pre t args hsp
      split at h
      · rename_i hcond
        obtain ⟨hpre, hall⟩ := hcond
        split at h
        · simp at h
        · rename_i body r2 hbody
          simp only [Except.ok.injEq, Prod.mk.injEq] at h
          obtain ⟨rfl, rfl⟩ := h
          obtain ⟨d, hd, hr1⟩ := readBody_canon _ _ _ _ _ hbody
          simp only [List.nil_append] at hd
          subst hd
          have hjoin := joinSp_splitSp l
          rw [hsp, hpre, ← prefix_spaced] at hjoin
          simp only [List.all_cons, Bool.and_eq_true, List.all_eq_true] at hall
          refine ⟨?_, hall.1, hall.2⟩
          unfold marshalStanza
          dsimp only
          rw [hr, hr1, hjoin]
          simp
      · simp at h
    · simp at h

theorem readStanza_marshal (s : Stanza) (hs : s.WF) (r' : Bytes) :
    readStanza (marshalStanza s ++ r') = .ok (s, r') := by
  obtain ⟨ht, ha⟩ := hs
  unfold readStanza marshalStanza
  have hparts : ∀ p ∈ (stanzaPrefix :: s.type :: s.args), sp ∉ p ∧ nl ∉ p := by
    intro p hp
    simp only [List.mem_cons] at hp
    rcases hp with rfl | rfl | hp
    · decide
    · exact (validString_props ht).2
    · exact (validString_props (ha p hp)).2
  have hline : nl ∉ stanzaPrefix ++ spaced (s.type :: s.args) := by
    rw [prefix_spaced]
    exact joinSp_no_nl _ (fun p hp => (hparts p hp).2)
  have e : stanzaPrefix ++ spaced (s.type :: s.args) ++ [nl] ++ wrap (encRaw s.body) ++ [nl] ++ r'
      = (stanzaPrefix ++ spaced (s.type :: s.args)) ++ nl :: (wrap (encRaw s.body) ++ nl :: r') := by simp
  rw [e, takeLine_app _ _ hline]
  dsimp only
  rw [prefix_spaced, splitSp_joinSp _ (by simp) (fun p hp => (hparts p hp).1)]
  dsimp only
  have hall : (s.type :: s.args).all validString = true := by
    simp only [List.all_cons, Bool.and_eq_true, List.all_eq_true]
    exact ⟨ht, ha⟩
  simp only [hall, and_self, if_true]
  have hfuel : s.body.length / 48 < (wrap (encRaw s.body) ++ nl :: r').length + 1 := by
    have h1 := wrap_length_ge (encRaw s.body)
    have h2 := encRaw_length s.body
    simp only [List.length_append, List.length_cons]
    omega
  rw [readBody_wrap (s.body.length / 48) s.body (by omega) _ [] r' hfuel]
  simp

/-- the first three bytes of a marshalled stanza are `"-> "`, never `"---"` -/
theorem marshalStanza_take3 (s : Stanza) (r' : Bytes) :
    (marshalStanza s ++ r').take 3 ≠ footerPrefix ∧ 3 ≤ (marshalStanza s ++ r').length := by
  unfold marshalStanza
  simp only [spaced, stanzaPrefix]
  constructor
  · intro h
    have := congrArg (fun l => l[1]?) h
    simp [footerPrefix] at this
  · simp only [List.length_append, List.length_cons]
    omega

/-- the closing line for a MAC -/
def footerLine (mac : Bytes) : Bytes := footerPrefix ++ [sp] ++ encRaw mac ++ [nl]

theorem readFooter_canon {r r' mac : Bytes} (h : readFooter r = .ok (mac, r')) :
    r = footerLine mac ++ r' ∧ mac.length = 32 := by
  unfold footerLine
  unfold readFooter at h
  split at h
  · simp at h
  · rename_i l r1 htl
    have ⟨hr, _⟩ := takeLine_eq htl
    split at h
    · rename_i pre m hsp
      split at h
      · rename_i hpre
        split at h
        · rename_i mac' hdec
          split at h
          · rename_i hlen
            simp only [Except.ok.injEq, Prod.mk.injEq] at h
            obtain ⟨rfl, rfl⟩ := h
            have hm := decodeString_canon hdec
            have hjoin := joinSp_splitSp l
            rw [hsp, hpre, hm] at hjoin
            simp only [joinSp] at hjoin
            refine ⟨?_, hlen⟩
            rw [hr, ← hjoin]; simp
          · simp at h
        · simp at h
      · simp at h
    · simp at h

theorem readFooter_marshal (mac r' : Bytes) (hm : mac.length = 32) :
    readFooter (footerLine mac ++ r') = .ok (mac, r') := by
  unfold readFooter footerLine
  have hfp : sp ∉ footerPrefix ∧ nl ∉ footerPrefix := by decide
  have hline : nl ∉ footerPrefix ++ sp :: encRaw mac := by
    simp only [List.mem_append, List.mem_cons, not_or]
    exact ⟨hfp.2, by decide, nl_not_mem_encRaw mac⟩
  have e : footerPrefix ++ [sp] ++ encRaw mac ++ [nl] ++ r' = (footerPrefix ++ sp :: encRaw mac) ++ nl :: r' := by simp
  rw [e, takeLine_app _ _ hline]
  dsimp only
  rw [splitSp_app _ _ hfp.1, splitSp_nosp _ (encRaw_not_mem mac sp (by decide))]
  simp only [if_true, decodeString_enc, hm]

end Format
end AgeModel
