/-
  Proofs.ArmorCompose — the armor writer as the destination of another writer
  (Encrypt + the STREAM writer): what the armor writer has accepted so far is
  always what its own invariant speaks about.
-/
import Proofs.Reach
import Proofs.ArmorWrite
namespace AgeModel
open Format Stream Armor

/-- The armor writer over a destination `S'`, seen as a destination: its state is
    the writer, a call is `Write(b)`; `segF` decides how the text a call emits is
    split into writes to `S'` (theorems hold for every `segF`). A failing call is
    reported as "failed, nothing accepted" (how many bytes a failing armored
    Write reports is not used by any theorem). -/
def armorDst (S' : DstSpec) (segF : AWriter S' → Bytes → List Nat) : DstSpec where
  σ := AWriter S'
  step := fun a _ b =>
    match a.write b (segF a b) with
    | (a', none) => (a', none)
    | (a', some _) => (a', some 0)

variable {S' : DstSpec} {segF : AWriter S' → Bytes → List Nat}

def ArmorDstInv (acc0 : Bytes) (d : Dst (armorDst S' segF)) : Prop := AInv acc0 d.st d.acc

theorem armorDstInv_write (acc0 : Bytes) (d d' : Dst (armorDst S' segF)) (b : Bytes)
    (hI : ArmorDstInv acc0 d) (h : d.write b = (d', true)) : ArmorDstInv acc0 d' := by
  unfold Dst.write at h
  simp only [armorDst] at h
  generalize hw : AWriter.write d.st b (segF d.st b) = r at h
  obtain ⟨a', e⟩ := r
  cases e with
  | none =>
    injection h with h1 _
    rw [← h1]
    exact awrite_ok acc0 d.st a' d.acc b _ hI hw
  | some e =>
    injection h with _ h2
    exact absurd h2 (by decide)

def armorDst.fresh (d' : Dst S') : Dst (armorDst S' segF) := { acc := [], st := AWriter.new d' }

theorem armorDstInv_fresh (d' : Dst S') : ArmorDstInv d'.acc (armorDst.fresh (segF := segF) d') := AInv_new d'

end AgeModel
