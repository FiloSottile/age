/-
  Proofs.B64Std — padded strict base64 (armor): both directions, lengths, alphabet.
  Everything is reduced to the unpadded encoding: `encStd` is `encRaw` plus padding, and `decStd` runs
  `decRaw` on each quantum, the last one with its padding taken off.
-/
import Proofs.B64
namespace AgeModel
namespace B64

theorem pad_not_alpha (n : Nat) (h : n < 64) : alpha n ≠ pad := alpha_ne n h pad (by decide)

theorem unalpha_pad : unalpha pad = none := by decide

theorem encStd_cons3 (a b c : UInt8) (rest : Bytes) : encStd (a :: b :: c :: rest) = encRaw [a, b, c] ++ encStd rest :=
  rfl

/-- one `=` for each byte missing from the last quantum -/
theorem encStd_eq : ∀ b : Bytes, encStd b = encRaw b ++ List.replicate ((3 - b.length % 3) % 3) pad
  | a :: b :: c :: rest => by
    rw [encStd_cons3, encStd_eq rest, encRaw_cons3 a b c rest, List.append_assoc,
      show (a :: b :: c :: rest).length = rest.length + 3 from rfl, Nat.add_mod_right]
  | [a, b] => rfl
  | [a] => rfl
  | [] => rfl

theorem decStd_last (w x y z : UInt8) :
    decStd [w, x, y, z] =
      if y = pad ∧ z = pad then decRaw [w, x] else if z = pad then decRaw [w, x, y] else decRaw [w, x, y, z] :=
  rfl

theorem decStd_quad (w x y z r : UInt8) (rest : Bytes) :
    decStd (w :: x :: y :: z :: r :: rest) =
      (decRaw [w, x, y, z]).bind fun g => (decStd (r :: rest)).map (g ++ ·) := by
  simp only [decRaw, decStd, Option.bind_eq_bind, Option.pure_def, Option.bind_assoc, Option.bind_some,
    Option.map_eq_bind, List.cons_append, List.nil_append, Function.comp_def]

theorem decStd_append4 : ∀ (q : Bytes) (r : UInt8) (rest : Bytes), q.length = 4 →
    decStd (q ++ r :: rest) = (decRaw q).bind fun g => (decStd (r :: rest)).map (g ++ ·)
  | [w, x, y, z], r, rest, _ => decStd_quad w x y z r rest

theorem encStd_chars (b : Bytes) (c : UInt8) (h : c ∈ encStd b) : (∃ n, n < 64 ∧ c = alpha n) ∨ c = pad := by
  rw [encStd_eq, List.mem_append, List.mem_replicate] at h
  exact h.imp (encRaw_chars b c) (·.2)

theorem encStd_not_mem (b : Bytes) (c : UInt8) (hc : c ∈ ([10, 13, 32, 45] : List UInt8)) : c ∉ encStd b := by
  intro h
  rcases encStd_chars b c h with ⟨n, hn, he⟩ | rfl
  · exact alpha_ne n hn c ((by decide : [10, 13, 32, 45] ⊆ ([10, 13, 32, 61, 45] : List UInt8)) hc) he.symm
  · exact absurd hc (by decide)

theorem encStd_length (b : Bytes) : (encStd b).length = (b.length + 2) / 3 * 4 := by
  rw [encStd_eq, List.length_append, List.length_replicate, encRaw_length]
  omega

theorem encStd_append (a b : Bytes) (h : a.length % 3 = 0) : encStd (a ++ b) = encStd a ++ encStd b := by
  rw [encStd_eq, encStd_eq a, encStd_eq b, encRaw_append a b h, List.length_append, Nat.add_mod, h, Nat.zero_add,
    Nat.mod_mod, List.append_assoc]
  show encRaw a ++ _ = encRaw a ++ [] ++ _
  rw [List.append_nil]

theorem decStd_encStd : ∀ b : Bytes, decStd (encStd b) = some b
  | a :: b :: c :: d :: rest => by
    -- the encoding of `d :: rest` is non-empty, so this is not the last quantum
    obtain ⟨r, rs, he⟩ : ∃ r rs, encStd (d :: rest) = r :: rs := by
      match rest with
      | [] | [_] | _ :: _ :: _ => exact ⟨_, _, rfl⟩
    rw [encStd_cons3, he, decStd_append4 _ _ _ rfl, decRaw_encRaw3, ← he, decStd_encStd (d :: rest)]
    rfl
  | [a, b, c] => by
    have h3 := decRaw_encRaw3 a b c
    show decStd (encRaw [a, b, c]) = _
    simp only [encRaw] at h3 ⊢
    rw [decStd_last, if_neg, if_neg, h3]
    · exact pad_not_alpha _ (mod64_lt _)
    · exact fun h => pad_not_alpha _ (mod64_lt _) h.1
  | [a, b] => by
    have h2 := decRaw_encRaw2 a b
    show decStd (encRaw [a, b] ++ [pad]) = _
    simp only [encRaw, List.cons_append, List.nil_append] at h2 ⊢
    rw [decStd_last, if_neg, if_pos rfl, h2]
    exact fun h => pad_not_alpha _ (mod64_lt _) h.1
  | [a] => by
    have h1 := decRaw_encRaw1 a
    show decStd (encRaw [a] ++ [pad, pad]) = _
    simp only [encRaw, List.cons_append, List.nil_append] at h1 ⊢
    rw [decStd_last, if_pos ⟨rfl, rfl⟩, h1]
  | [] => rfl

/-- whatever decodes is the canonical padded encoding of the result -/
theorem encStd_decStd : ∀ (s b : Bytes), decStd s = some b → s = encStd b
  | [], b, h => by cases h; rfl
  | [_], b, h => by simp [decStd] at h
  | [_, _], b, h => by simp [decStd] at h
  | [_, _, _], b, h => by simp [decStd] at h
  | [w, x, y, z], b, h => by
    rw [decStd_last] at h
    split at h
    · rename_i hp
      obtain ⟨a, rfl, e⟩ := encRaw_decRaw2 h
      show [w, x, y, z] = encRaw [a] ++ [pad, pad]
      rw [← e, hp.1, hp.2]
      rfl
    split at h
    · rename_i hz
      obtain ⟨a, b, rfl, e⟩ := encRaw_decRaw3 h
      show [w, x, y, z] = encRaw [a, b] ++ [pad]
      rw [← e, hz]
      rfl
    · obtain ⟨a, b, c, rfl, e⟩ := encRaw_decRaw4 h
      exact e
  | w :: x :: y :: z :: r :: rest, b, h => by
    rw [decStd_quad] at h
    simp only [Option.bind_eq_some_iff, Option.map_eq_some_iff] at h
    obtain ⟨g, hg, r', hr, rfl⟩ := h
    obtain ⟨a, b, c, rfl, e⟩ := encRaw_decRaw4 hg
    show [w, x, y, z] ++ r :: rest = encRaw [a, b, c] ++ encStd r'
    rw [e, encStd_decStd (r :: rest) r' hr]

end B64
end AgeModel
