/-
  Proofs.GoTieLit — string constants of the source as byte lists. The translator prints a Go string
  constant as a list of bytes; the hand-written side of the ties of cmd/age and cmd/age-keygen writes
  `"…".toUTF8.toList`. Core's `ByteArray.toList` is a loop by well-founded recursion, which the
  kernel unfolds slowly; it is the list of the underlying array, and in that form a constant is
  compared by evaluation. Likewise `SpecConsts.codes` of a literal is read off its characters (`codes_eq`).
-/
import AgeModel.SpecConsts
namespace AgeModel
namespace GoTie

theorem byteArray_toList_loop (bs : ByteArray) (n : Nat) : ∀ (i : Nat) (r : List UInt8), n = bs.data.size - i →
    ByteArray.toList.loop bs i r = r.reverse ++ bs.data.toList.drop i := by
  induction n with
  | zero =>
    intro i r h
    have hi : ¬ i < bs.size := fun h' => by have : i < bs.data.size := h'; omega
    rw [ByteArray.toList.loop.eq_1, if_neg hi, List.drop_of_length_le (by rw [Array.length_toList]; omega), List.append_nil]
  | succ n ih =>
    intro i r h
    have hi : i < bs.size := show i < bs.data.size by omega
    have hd : bs.data.toList.drop i = bs.get! i :: bs.data.toList.drop (i + 1) := by
      rw [List.drop_eq_getElem_cons (by rw [Array.length_toList]; exact hi), Array.getElem_toList]
      congr 1
      exact (getElem!_pos bs.data i hi).symm
    rw [ByteArray.toList.loop.eq_1, if_pos hi, ih _ _ (by omega), List.reverse_cons, List.append_assoc, hd]
    rfl

theorem byteArray_toList (bs : ByteArray) : bs.toList = bs.data.toList := by
  rw [ByteArray.toList, byteArray_toList_loop bs _ 0 [] rfl]
  rfl

end GoTie

/-- For a string literal `hs` is `rfl` (Lean reads the literal as `String.ofList` of its characters)
    and `hb` evaluates `Char.toNat` on each of them; no UTF-8 coding is evaluated. -/
theorem SpecConsts.codes_eq {s : String} {l : List Char} {bs : List Nat} (hs : s = String.ofList l)
    (hb : l.map Char.toNat = bs) : SpecConsts.codes s = bs := by
  rw [SpecConsts.codes, hs, String.toList_ofList, hb]

end AgeModel
