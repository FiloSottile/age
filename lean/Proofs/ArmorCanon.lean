/-
  Proofs.ArmorCanon — whatever text the de-armoring reader accepts through to a
  clean end consists, line for line (a line = up to LF, minus one CR), of optional
  whitespace-only lines, then exactly the lines of the canonical armor of the
  decoded bytes, then only whitespace; and what those lines of the canonical armor are (`lines_armor`).
-/
import Proofs.ArmorRead
namespace AgeModel
namespace Armor
open Format (nl cr sp takeLine takeLine_len)
open B64

/-- the line view of a text: what successive `getLine` calls return -/
def linesOf : Nat → Bytes → List Bytes
  | 0, _ => []
  | fuel+1, t =>
    match getLine false t with
    | none => []
    | some (l, r) => l :: linesOf fuel r

theorem linesOf_fuel : ∀ (f : Nat) (t : Bytes) (f' : Nat), t.length < f → t.length < f' → linesOf f t = linesOf f' t := by
  intro f
  induction f with
  | zero => intro t f' h; omega
  | succ f ih =>
    intro t f' h h'
    match f' with
    | 0 => omega
    | f'+1 =>
      unfold linesOf
      cases hg : getLine false t with
      | none => rfl
      | some p =>
        obtain ⟨l, r⟩ := p
        dsimp only
        have := getLine_len' hg
        rw [ih r f' (by omega) (by omega)]

def lines (t : Bytes) : List Bytes := linesOf (t.length + 1) t

theorem lines_cons {t l r : Bytes} (h : getLine false t = some (l, r)) : lines t = l :: lines r := by
  unfold lines
  rw [linesOf, h]
  dsimp only
  have := getLine_len' h
  rw [linesOf_fuel t.length r (r.length + 1) this (by omega)]

/-- the 48-byte pieces of `b` (the last one shorter, none for the empty string) -/
def chunks48 : Nat → Bytes → List Bytes
  | 0, _ => []
  | fuel+1, b => if b = [] then [] else b.take 48 :: chunks48 fuel (b.drop 48)

/-- the body lines of the canonical armor -/
def bodyLines (b : Bytes) : List Bytes := (chunks48 (b.length + 1) b).map encStd

theorem chunks48_fuel : ∀ (f : Nat) (b : Bytes) (f' : Nat), b.length < f → b.length < f' → chunks48 f b = chunks48 f' b := by
  intro f
  induction f with
  | zero => intro b f' h; omega
  | succ f ih =>
    intro b f' h h'
    match f' with
    | 0 => omega
    | f'+1 =>
      unfold chunks48
      split
      · rfl
      · rename_i hne
        have hpos : 0 < b.length := List.length_pos_iff.mpr hne
        rw [ih (b.drop 48) f' (by rw [List.length_drop]; omega) (by rw [List.length_drop]; omega)]

theorem bodyLines_cons (d rest : Bytes) (h48 : d.length = 48) : bodyLines (d ++ rest) = encStd d :: bodyLines rest := by
  unfold bodyLines
  rw [chunks48]
  have hne : d ++ rest ≠ [] := List.append_ne_nil_of_left_ne_nil (List.ne_nil_of_length_pos (by omega)) _
  simp only [hne, if_false, List.map_cons]
  rw [List.take_left' h48, List.drop_left' h48,
    chunks48_fuel _ rest (rest.length + 1) (by rw [List.length_append]; omega) (by omega)]

theorem bodyLines_short (d : Bytes) (h0 : d ≠ []) (h48 : d.length ≤ 48) : bodyLines d = [encStd d] := by
  unfold bodyLines
  rw [chunks48]
  simp only [h0, if_false, List.map_cons]
  rw [List.take_of_length_le h48, List.drop_of_length_le h48]
  cases d.length <;> rfl

theorem bodyLines_nil : bodyLines [] = [] := by simp [bodyLines, chunks48]

theorem classify_data {line b : Bytes} (h : classifyLine line = .data b) : line = encStd b ∧ b ≠ [] ∧ b.length ≤ 48 := by
  unfold classifyLine at h
  split at h
  · cases h
  split at h
  · cases h
  rename_i hlen
  split at h
  · cases h
  rename_i h0
  split at h
  · cases h
  split at h
  · rename_i b' hd
    cases h
    have he := encStd_decStd line b hd
    have := encStd_length b
    rw [← he] at this
    refine ⟨he, ?_, by omega⟩
    rintro rfl
    exact h0 (by rw [he]; rfl)
  · cases h

theorem classify_footer {line : Bytes} (h : classifyLine line = .footer) : line = footer := by
  unfold classifyLine at h
  by_cases hf : line = footer
  · exact hf
  · rw [if_neg hf] at h
    split at h
    · cases h
    split at h
    · cases h
    split at h
    · cases h
    split at h <;> cases h

/-- the part of the text after the END line may hold only white space, fewer than `W` bytes -/
def TrailOK (W : Nat) (rest : Bytes) : Prop := rest.length < W ∧ allSpace rest = true

theorem drainOK_spec {W : Nat} {rest : Bytes} (h : drainOK W false rest = true) : TrailOK W rest := by
  unfold drainOK at h
  simp only [Bool.false_eq_true, false_and, if_false, Bool.and_eq_true, decide_eq_true_eq] at h
  have hlen : rest.length < W := by
    apply Nat.lt_of_not_le
    intro hge
    have : (rest.take W).length = W := by rw [List.length_take]; omega
    exact h.2 this
  exact ⟨hlen, by rw [List.take_of_length_le (by omega)] at h; exact h.1⟩

/-- If the body reader accepts (clean end), the lines from
    here on are exactly the canonical body lines of the decoded bytes, then the END
    line, and what follows it is only white space. -/
theorem readBody_canon (W : Nat) : ∀ (fuel : Nat) (t b : Bytes), readBody W false fuel t = (b, .eof) →
    ∃ rest, lines t = bodyLines b ++ footer :: lines rest ∧ TrailOK W rest := by
  intro fuel
  induction fuel with
  | zero => intro t b h; simp [readBody] at h
  | succ fuel ih =>
    intro t b h
    unfold readBody at h
    cases hg : getLine false t with
    | none => simp [hg] at h
    | some p =>
      obtain ⟨line, rest⟩ := p
      simp only [hg] at h
      cases hc : classifyLine line with
      | bad => simp [hc] at h
      | footer =>
        simp only [hc] at h
        split at h
        · rename_i hd
          simp only [Prod.mk.injEq, and_true] at h
          subst h
          exact ⟨rest, by rw [lines_cons hg, classify_footer hc, bodyLines_nil]; rfl, drainOK_spec hd⟩
        · simp at h
      | data d =>
        simp only [hc] at h
        obtain ⟨hline, hdne, hd48⟩ := classify_data hc
        split at h
        · rename_i hshort
          cases hg2 : getLine false rest with
          | none => simp [hg2] at h
          | some p2 =>
            obtain ⟨l2, rest2⟩ := p2
            simp only [hg2] at h
            split at h
            · rename_i hf
              split at h
              · rename_i hd
                simp only [Prod.mk.injEq, and_true] at h
                subst h
                refine ⟨rest2, ?_, drainOK_spec hd⟩
                rw [lines_cons hg, lines_cons hg2, hline, hf, bodyLines_short d hdne hd48]
                rfl
              · simp at h
            · simp at h
        · rename_i hnshort
          have hd48' : d.length = 48 := by omega
          generalize hr : readBody W false fuel rest = r at h
          obtain ⟨b2, o2⟩ := r
          simp only [Prod.mk.injEq] at h
          obtain ⟨hb, ho⟩ := h
          subst ho
          obtain ⟨rest', hl, htr⟩ := ih rest b2 hr
          refine ⟨rest', ?_, htr⟩
          rw [lines_cons hg, hl, ← hb, bodyLines_cons d b2 hd48', hline]
          rfl

/-- The lines consumed before the body are whitespace-only
    lines followed by the BEGIN line. -/
theorem readLeading_canon (W : Nat) : ∀ (fuel : Nat) (t : Bytes) (removed : Nat) (rest : Bytes),
    readLeading W false fuel t removed = some rest →
    ∃ pre, (∀ l ∈ pre, allSpace l = true) ∧ lines t = pre ++ header :: lines rest := by
  intro fuel
  induction fuel with
  | zero => intro t removed rest h; simp [readLeading] at h
  | succ fuel ih =>
    intro t removed rest h
    unfold readLeading at h
    cases hg : getLine false t with
    | none => simp [hg] at h
    | some p =>
      obtain ⟨line, r⟩ := p
      simp only [hg] at h
      split at h
      · rename_i hsp
        split at h
        · simp at h
        · obtain ⟨pre, hpre, hl⟩ := ih r _ rest h
          refine ⟨line :: pre, ?_, by rw [lines_cons hg, hl]; rfl⟩
          intro l hl'
          simp only [List.mem_cons] at hl'
          rcases hl' with rfl | hl'
          · exact hsp
          · exact hpre l hl'
      · split at h
        · rename_i hh
          simp only [Option.some.injEq] at h
          subst h
          exact ⟨[], by simp, by rw [lines_cons hg, hh]; rfl⟩
        · simp at h

theorem read_canon (W : Nat) (t b : Bytes) (h : read W false t = (b, .eof)) :
    ∃ pre rest, (∀ l ∈ pre, allSpace l = true) ∧ TrailOK W rest ∧
      lines t = pre ++ header :: (bodyLines b ++ footer :: lines rest) := by
  unfold read at h
  cases hl : readLeading W false (t.length + 1) t 0 with
  | none => simp [hl] at h
  | some r =>
    simp only [hl] at h
    obtain ⟨pre, hpre, hlines⟩ := readLeading_canon W _ t 0 r hl
    obtain ⟨rest, hb, htr⟩ := readBody_canon W _ r b h
    exact ⟨pre, rest, hpre, htr, by rw [hlines, hb]⟩

theorem lines_nil : lines [] = [] := by simp [lines, linesOf, getLine]

theorem lines_bodyText (b : Bytes) : lines (bodyText b) = bodyLines b ++ [footer] := by
  have hfoot : lines (footer ++ nl :: []) = [footer] := by rw [lines_cons (getLine_footer []), lines_nil]
  induction b using chunk48_induction with
  | short b hb =>
    by_cases h0 : b = []
    · subst h0
      rw [bodyText_nil, hfoot, bodyLines_nil]
      rfl
    · rw [bodyText_short (List.length_pos_iff.mpr h0) hb, lines_cons (getLine_enc b _), hfoot,
        bodyLines_short b h0 (by omega)]
      rfl
  | step b hb ih =>
    rw [bodyText_step hb, lines_cons (getLine_enc _ _), ih]
    conv => rhs; rw [← List.take_append_drop 48 b, bodyLines_cons _ _ (List.length_take_of_le hb)]
    rfl

/-- the canonical armor, line by line: BEGIN, the body lines, END -/
theorem lines_armor (b : Bytes) : lines (armor b) = header :: (bodyLines b ++ [footer]) := by
  rw [armor_eq, lines_cons (getLine_header _), lines_bodyText]

end Armor
end AgeModel
