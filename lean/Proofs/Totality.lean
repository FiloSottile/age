/-
  Proofs.Totality — the fuel-bounded loops of the model never run out of fuel
  (so "fuel" is never an observable outcome) and never reach an explicit panic.
-/
import Proofs.StreamReaderTop
import Proofs.FormatTop
namespace AgeModel

namespace Stream

/-- an outcome the Go code can really end in: not the model's fuel running out, not a panic -/
def Outcome.benign : Outcome → Bool
  | .fuel | .panic _ => false
  | _ => true

theorem Outcome.benign_spec {o : Outcome} (h : o.benign = true) : o ≠ .fuel ∧ ∀ n, o ≠ .panic n := by
  cases o <;> simp [Outcome.benign] at h ⊢

theorem benign_ite {c : Prop} [Decidable c] {a b : Bytes × Outcome} (ha : c → a.2.benign = true) (hb : ¬ c → b.2.benign = true) :
    (if c then a else b).2.benign = true :=
  iteInduction (motive := fun x : Bytes × Outcome => x.2.benign = true) ha hb

theorem benign_match {o : Option Bytes} {f : Bytes → Bytes × Outcome} {b : Bytes × Outcome}
    (hf : ∀ p, (f p).2.benign = true) (hb : b.2.benign = true) :
    (match o with | some p => f p | none => b).2.benign = true := by
  cases o
  · exact hb
  · exact hf _

theorem decFrom_benign (A : AEAD) (C : Nat) (hE : 0 < C + A.T) (k : Bytes) (sf : Bool) :
    ∀ (fuel i : Nat) (c : Bytes), c.length < fuel → (decFrom A C k sf i c fuel).2.benign = true := by
  intro fuel
  induction fuel with
  | zero => intro i c h; omega
  | succ fuel ih =>
    intro i c h
    unfold decFrom
    refine benign_ite (fun _ => ?_) (fun hE' => ?_)
    · exact benign_ite (fun _ => rfl) fun _ => benign_ite (fun _ => rfl) fun _ => benign_ite (fun _ => rfl) fun _ =>
        benign_match (fun _ => rfl) rfl
    · exact benign_match (fun _ => ih _ _ (by rw [List.length_drop]; omega))
        (benign_match (fun _ => benign_ite (fun _ => by cases sf <;> rfl) fun _ => rfl) rfl)
/-- with fuel beyond the input length the Spec reader never reports `fuel`, and it never panics -/
theorem decFrom_outcome (A : AEAD) (C : Nat) (hE : 0 < C + A.T) (k : Bytes) (sf : Bool) :
    ∀ (fuel i : Nat) (c : Bytes), c.length < fuel →
      (decFrom A C k sf i c fuel).2 ≠ .fuel ∧ ∀ n, (decFrom A C k sf i c fuel).2 ≠ .panic n :=
  fun fuel i c h => Outcome.benign_spec (decFrom_benign A C hE k sf fuel i c h)

end Stream

namespace Format

theorem readBody_no_fuel : ∀ (fuel : Nat) (r acc : Bytes), r.length < fuel → readBody fuel r acc ≠ .error .fuel := by
  intro fuel
  induction fuel with
  | zero => intro r acc h; omega
  | succ fuel ih =>
    intro r acc h
    unfold readBody
    split
    · simp
    · rename_i l r' htl
      have := takeLine_len htl
      split
      · simp
      · split
        · simp
        · split
          · simp
          · exact ih r' _ (by omega)

theorem readStanza_no_fuel (r : Bytes) : readStanza r ≠ .error .fuel := by
  unfold readStanza
  split
  · simp
  · rename_i l r' htl
    split
    · split
      · have := readBody_no_fuel (r'.length + 1) r' [] (by omega)
        split
        · rename_i e he; intro hc; simp only [Except.error.injEq] at hc; subst hc; exact this he
        · simp
      · simp
    · simp

theorem readStanza_len {r r' : Bytes} {s : Stanza} (h : readStanza r = .ok (s, r')) : r'.length < r.length := by
  have := (readStanza_canon h).1
  rw [this]
  have := marshalStanza_length_pos s
  simp only [List.length_append]; omega

theorem readFooter_no_fuel (r : Bytes) : readFooter r ≠ .error .fuel := by
  unfold readFooter
  split
  · simp
  · split
    · split
      · split
        · split <;> simp
        · simp
      · simp
    · simp

theorem readStanzas_no_fuel : ∀ (fuel : Nat) (r : Bytes) (acc : List Stanza), r.length < fuel →
    readStanzas fuel r acc ≠ .error .fuel := by
  intro fuel
  induction fuel with
  | zero => intro r acc h; omega
  | succ fuel ih =>
    intro r acc h
    unfold readStanzas
    split
    · simp
    · split
      · split
        · rename_i e he; intro hc; simp only [Except.error.injEq] at hc; subst hc; exact readFooter_no_fuel r he
        · simp
      · split
        · rename_i e he; intro hc; simp only [Except.error.injEq] at hc; subst hc; exact readStanza_no_fuel r he
        · rename_i s r' hs
          exact ih r' _ (by have := readStanza_len hs; omega)

/-- **The header parser is total and its fuel is always sufficient**: on every byte
    string it returns a header with the unread rest, or one of the format errors. -/
theorem parse_no_fuel (b : Bytes) : parse b ≠ .error .fuel := by
  unfold parse
  split
  · simp
  · split
    · exact readStanzas_no_fuel _ _ _ (by omega)
    · simp

end Format
end AgeModel
