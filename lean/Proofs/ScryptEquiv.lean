/-
  Proofs.ScryptEquiv — Decrypt depends on each identity only through its Unwrap
  function; two passphrases that the key derivation does not tell apart are the
  same identity (used by the C04 findings K1 and K2).
-/
import AgeModel.File
namespace AgeModel
open Format

/-- two identities that answer alike on every stanza list (and hand back an empty key the same way) -/
def SameUnwrap (P : Prims) (i j : Identity) : Prop := (∀ ss, i.unwrap P ss = j.unwrap P ss) ∧ i.emptyNonNil = j.emptyNonNil

section
variable {P : Prims} {i j : Identity} (h : SameUnwrap P i j) (ss : List Stanza) (pre post : List Identity)
include h

theorem identityLoop_replace : ∀ a c,
    identityLoop P ss (pre ++ i :: post) a c = identityLoop P ss (pre ++ j :: post) a c := by
  induction pre with
  | nil => intro a c; simp only [List.nil_append, identityLoop, h.1 ss]
  | cons _ _ ih => intro a c; simp only [List.cons_append, identityLoop, ih]

theorem countIncorrect_replace :
    countIncorrect P ss (pre ++ i :: post) = countIncorrect P ss (pre ++ j :: post) := by
  induction pre with
  | nil => simp only [List.nil_append, countIncorrect, h.1 ss]
  | cons _ _ ih => simp only [List.cons_append, countIncorrect, ih]

theorem endsNonNil_replace :
    endsNonNil P ss (pre ++ i :: post) = endsNonNil P ss (pre ++ j :: post) := by
  induction pre with
  | nil => simp only [List.nil_append, endsNonNil, h.1 ss, h.2]
  | cons _ _ ih => simp only [List.cons_append, endsNonNil, ih]

theorem decryptInit_replace (file : Bytes) :
    decryptInit P (pre ++ i :: post) file = decryptInit P (pre ++ j :: post) file := by
  have he : ∀ x, (pre ++ x :: post).isEmpty = false := fun x => by cases pre <;> rfl
  simp only [decryptInit, he, identityLoop_replace h, countIncorrect_replace h, endsNonNil_replace h]

end

theorem scryptIdentity_same (P : Prims) (pw pw' : Bytes) (m : Nat)
    (hP : ∀ salt n, P.scrypt pw' salt n = P.scrypt pw salt n) :
    SameUnwrap P (.scrypt pw' m) (.scrypt pw m) := by
  refine ⟨fun ss => ?_, rfl⟩
  have : unwrapScrypt P pw' m = unwrapScrypt P pw m := by
    funext s
    simp only [unwrapScrypt, hP]
  simp only [Identity.unwrap, Identity.unwrapLog, this]

end AgeModel
