/-
  age.Encrypt as it stands in the source (age.go, translated in AgeModel/Extracted/Funcs.lean), with
  `crypto/rand` made an explicit tape (an extra parameter, handed back: `rand.Read(buf)` draws
  `len(buf)` bytes from it) and the destination an explicit state. The recipient's
  `Wrap`/`WrapWithLabels` (through `wrapWithLabels`), `headerMAC`, `Header.Marshal`, `dst.Write`,
  `streamKey`, `stream.NewWriter` are parameters; `EncryptEnv` says what is assumed of them. For
  every recipient list, tape and destination the translated `Encrypt` does what the model's
  `encryptInit` (AgeModel/File.lean) does: the same tape left over (so the same draws in the same
  order: file key, each recipient's in list order, nonce — `Props.C06.tape_linear` is about the
  source text), the same destination state (so `Props.C11.refusal_writes_nothing` and
  `Props.C13.encrypt_failure_no_writer` are), the same refusals (labels compared as sorted lists
  against the first recipient's, a failing wrap with its index), the writer made from the same key.
-/
import AgeModel.GoSem
import AgeModel.File
import AgeModel.Extracted.Funcs
import Proofs.GoTieSlicesEq
import Proofs.GoTieTape
import Proofs.GoTieFormat
import Proofs.GoTieUnwrap
namespace AgeModel
namespace GoTie
open Extracted Stream

/-- which Go errors Encrypt may return for each error class of the model -/
def encErrRel (eRand : Go.Err) : EncErr → Option Go.Err → Prop
  | .noRecipients, g => g = some ⟨"age.Encrypt", 0, []⟩
  | .rand, g => g = some eRand ∨ ∃ i, g = some ⟨"age.Encrypt", 1, [i]⟩
  | .wrap i, g => g = some ⟨"age.Encrypt", 1, [Int.ofNat i]⟩
  | .incompatible, g => g = some ⟨"age.Encrypt", 2, []⟩
  | .dst, g => g = some ⟨"age.Encrypt", 4, []⟩ ∨ g = some ⟨"age.Encrypt", 5, []⟩

structure EncryptEnv (P : Prims) (S : DstSpec) (ρ δ ω : Type) where
  eRand : Go.Err
  eWrap : Go.Err
  eW : Go.Err
  nilW : ω
  recOf : ρ → Recipient
  W : ρ → Bytes → Bytes → Go.M (List age_Stanza × List Bytes × Option Go.Err × Bytes)
  /-- a recipient's wrap: the model's `wrapOne` — the stanzas, the labels, the tape left over -/
  hW : ∀ r fk tape, W r fk tape = .ok (match wrapOne P (recOf r) fk tape with
        | .error () => ([], [], some eRand, tape)
        | .ok (none, t) => ([], [], some eWrap, t)
        | .ok (some (ss, l), t) => (ss.map toGoStanza, l, none, t))
  mac : Bytes → format_Header → Go.M (Bytes × Option Go.Err)
  hMac : ∀ fk (ss : List Format.Stanza) m, mac fk ⟨ss.map toGoFStanza, m⟩ = .ok (headerMAC P fk ss, none)
  absD : δ → Dst S
  hdrSegs : List Nat
  marshalF : format_Header → δ → Go.M (Option Go.Err × δ)
  /-- `Header.Marshal(dst)`: the model's header bytes written to the destination in some split -/
  hMarshal : ∀ (h : Format.Header) d, ∃ d', marshalF (toGoHeader h) d =
        .ok ((if (writeAll (absD d) (segmentBy hdrSegs (Format.marshal h))).2 then none else some eW), d') ∧
      absD d' = (writeAll (absD d) (segmentBy hdrSegs (Format.marshal h))).1
  write : δ → Bytes → Go.M (Int × Option Go.Err × δ)
  hWrite : ∀ d b, ∃ n d', write d b = .ok (n, (if ((absD d).write b).2 then none else some eW), d') ∧
      absD d' = ((absD d).write b).1
  key : Bytes → Bytes → Go.M Bytes
  hKey : ∀ fk n, key fk n = .ok (streamKey P fk n)
  mkW : Bytes → δ → ω
  newWriter : Bytes → δ → Go.M (ω × Option Go.Err)
  hNew : ∀ k d, newWriter k d = .ok (mkW k d, none)

theorem bytesLe_eq : ∀ a b, Go.bytesLe a b = bytesLe a b
  | [], _ => rfl
  | _ :: _, [] => rfl
  | a :: as, b :: bs => by
    simp only [Go.bytesLe, bytesLe, bytesLe_eq as bs]

theorem insertSorted_eq (x : Bytes) : ∀ l, Go.insertSorted x l = insertLabel x l
  | [] => rfl
  | y :: ys => by
    simp only [Go.insertSorted, insertLabel, bytesLe_eq, insertSorted_eq x ys]

theorem sort_Strings_eq : ∀ l, Go.sort_Strings l = sortLabels l
  | [] => rfl
  | x :: xs => by
    simp only [Go.sort_Strings, sortLabels, insertSorted_eq, sort_Strings_eq xs]

theorem encrypt_loop2_eq {δ τ ω : Type} (tape : τ) (dst : δ) :
    ∀ (ss : List Format.Stanza) (hdr : format_Header),
      age_Encrypt_loop2 (ω := ω) tape dst (ss.map toGoStanza) hdr =
        .ok (.next { hdr with Recipients := hdr.Recipients ++ ss.map toGoFStanza })
  | [], hdr => by
    simp only [List.map, age_Encrypt_loop2, List.append_nil]; rfl
  | s :: ss, hdr => by
    simp only [List.map, age_Encrypt_loop2]
    rw [encrypt_loop2_eq tape dst ss]
    simp only [toGoStanza, toGoFStanza, List.append_assoc, List.singleton_append]

section steps
variable {δ ρ ω : Type} (nilW : ω)
  (W : ρ → Bytes → Bytes → Go.M (List age_Stanza × List Bytes × Option Go.Err × Bytes))
  (d : δ) (fk : Bytes) (r : ρ) (rs : List ρ) (k : Int) (tape : Bytes) (hdr : format_Header)
  (labels : List Bytes)

theorem encrypt_loop1_step_err {ss : List age_Stanza} {l : List Bytes} {e : Go.Err} {t : Bytes}
    (hW : W r fk tape = .ok (ss, l, some e, t)) :
    age_Encrypt_loop1 nilW W d fk (r :: rs) k tape hdr labels =
      .ok (.ret (nilW, some ⟨"age.Encrypt", 1, [k]⟩, d, t)) := by
  simp only [age_Encrypt_loop1, hW, bind, Except.bind]
  rfl

theorem encrypt_loop1_step_ok {ss : List Format.Stanza} {l : List Bytes} {t : Bytes}
    (hW : W r fk tape = .ok (ss.map toGoStanza, l, none, t)) :
    age_Encrypt_loop1 nilW W d fk (r :: rs) k tape hdr labels =
      if k = 0 then
        age_Encrypt_loop1 nilW W d fk rs (k + 1) t
          { hdr with Recipients := hdr.Recipients ++ ss.map toGoFStanza } (sortLabels l)
      else if labels = sortLabels l then
        age_Encrypt_loop1 nilW W d fk rs (k + 1) t
          { hdr with Recipients := hdr.Recipients ++ ss.map toGoFStanza } labels
      else .ok (.ret (nilW, some ⟨"age.Encrypt", 2, []⟩, d, t)) := by
  simp only [age_Encrypt_loop1, hW, bind, Except.bind, encrypt_loop2_eq, sort_Strings_eq,
    slicesEqual_tie, Go.none_bne_none, Bool.false_eq_true, ↓reduceIte, List.nil_append, beq_iff_eq,
    Bool.not_eq_true', decide_eq_false_iff_not, ite_not, pure, Except.pure]
end steps

def encryptLoopRel {δ ω : Type} (eRand : Go.Err) (nilW : ω) (d : δ) :
    Except EncErr (List Format.Stanza × Bytes) →
    Go.Loop (Bytes × format_Header × List Bytes) (ω × Option Go.Err × δ × Bytes) → Prop
  | .ok (stanzas, t'), .next (t, hdr, _) => t = t' ∧ hdr = ⟨stanzas.map toGoFStanza, []⟩
  | .error e, .ret (w, g, d', _) => w = nilW ∧ d' = d ∧ encErrRel eRand e g
  | _, _ => False

theorem encrypt_loop1_eq (P : Prims) {S : DstSpec} {ρ δ ω : Type} (E : EncryptEnv P S ρ δ ω)
    (d : δ) (fk : Bytes) :
    ∀ (rs : List ρ) (i : Nat) (tape : Bytes) (acc : List Format.Stanza) (labels : List Bytes)
      (lo : Option (List Bytes)), (lo = none ↔ i = 0) → (∀ l0, lo = some l0 → labels = l0) →
      ∃ out, age_Encrypt_loop1 E.nilW E.W d fk rs (Int.ofNat i) tape ⟨acc.map toGoFStanza, []⟩ labels
          = .ok out ∧
        encryptLoopRel E.eRand E.nilW d (wrapAll P fk (rs.map E.recOf) i tape acc lo) out
  | [], i, tape, acc, labels, lo, _, _ => ⟨_, rfl, rfl, rfl⟩
  | r :: rs, i, tape, acc, labels, lo, h1, h2 => by
    have hW := E.hW r fk tape
    simp only [List.map, wrapAll]
    cases hw : wrapOne P (E.recOf r) fk tape with
    | error u =>
      cases u
      rw [hw] at hW
      exact ⟨_, encrypt_loop1_step_err _ _ _ _ _ _ _ _ _ _ hW, rfl, rfl, Or.inr ⟨_, rfl⟩⟩
    | ok v =>
      obtain ⟨o, t⟩ := v
      rw [hw] at hW
      cases o with
      | none => exact ⟨_, encrypt_loop1_step_err _ _ _ _ _ _ _ _ _ _ hW, rfl, rfl, rfl⟩
      | some sl =>
        obtain ⟨ss, l⟩ := sl
        have hi : Int.ofNat (i + 1) = Int.ofNat i + 1 := rfl
        rw [encrypt_loop1_step_ok _ _ _ _ _ _ _ _ _ _ hW]
        cases lo with
        | none =>
          have i0 : i = 0 := h1.1 rfl
          subst i0
          have ih := encrypt_loop1_eq P E d fk rs 1 t (acc ++ ss) (sortLabels l) (some (sortLabels l))
            (by simp) (by intro l0 h; cases h; rfl)
          rw [List.map_append] at ih
          exact ih
        | some l0 =>
          have hl := h2 l0 rfl
          subst hl
          have i0 : i ≠ 0 := fun h => by simpa using h1.2 h
          have i0' : Int.ofNat i ≠ 0 := by simpa using i0
          rw [if_neg i0']
          by_cases hl : labels = sortLabels l
          · have ih := encrypt_loop1_eq P E d fk rs (i + 1) t (acc ++ ss) labels (some labels)
              (by simp) (by intro l0 h; cases h; rfl)
            rw [List.map_append, hi] at ih
            simpa only [if_pos hl] using ih
          · simp only [if_neg hl]
            exact ⟨_, rfl, rfl, rfl, rfl⟩

theorem encrypt_tie (P : Prims) {S : DstSpec} {ρ δ ω : Type} (E : EncryptEnv P S ρ δ ω)
    (d : δ) (rs : List ρ) (tape : Bytes) :
    ∃ res, age_Encrypt E.nilW (tapeRead E.eRand) E.W E.mac E.marshalF E.write E.newWriter E.key d rs tape = .ok res ∧
      match encryptInit P tape (rs.map E.recOf) E.hdrSegs (E.absD d) with
      | (.ok (w, k, t'), d2) =>
          res.1 = E.mkW k res.2.2.1 ∧ res.2.1 = none ∧ E.absD res.2.2.1 = d2 ∧ res.2.2.2 = t' ∧ w = Stream.Writer.new d2
      | (.error e, d2) => res.1 = E.nilW ∧ encErrRel E.eRand e res.2.1 ∧ E.absD res.2.2.1 = d2 := by
  cases rs with
  | nil => exact ⟨_, rfl, rfl, rfl, rfl⟩
  | cons r rs' =>
    generalize hrs : r :: rs' = rs
    have hne : (Go.len rs == (0:Int)) = false := by subst hrs; rfl
    have hemp : (rs.map E.recOf).isEmpty = false := by subst hrs; rfl
    have h16 : fileKeySize = 16 := rfl
    have h16' : streamNonceSize = 16 := rfl
    unfold age_Encrypt encryptInit encryptHeader
    simp only [hne, hemp, Go.make16, Go.len_make16, h16, h16', bind, Except.bind, pure, Except.pure]
    cases hd : draw 16 tape with
    | none =>
      rw [tapeRead_none E.eRand hd]
      exact ⟨_, rfl, rfl, Or.inl rfl, rfl⟩
    | some bt =>
      obtain ⟨fk, t⟩ := bt
      obtain ⟨out, hout, hrel⟩ := encrypt_loop1_eq P E d fk rs 0 t [] [] none (by simp) (by intro l0 h; cases h)
      -- each callee's answer is put in by `rw` before `simp only` reduces the `match` on it:
      -- rewriting it under `simp` is slow to check
      rw [tapeRead_some E.eRand hd]
      simp only [Go.none_bne_none, Bool.false_eq_true, ↓reduceIte, Go.writeAt_fresh 16 fk (draw_length hd)]
      rw [show age_Encrypt_loop1 E.nilW E.W d fk rs 0 t ⟨[], []⟩ [] = .ok out from hout]
      cases hwa : wrapAll P fk (rs.map E.recOf) 0 t [] none with
      | error e =>
        rw [hwa] at hrel
        cases out with
        | next s => exact hrel.elim
        | ret v =>
          obtain ⟨w, g, d', t2⟩ := v
          obtain ⟨rfl, rfl, hg⟩ := hrel
          exact ⟨_, rfl, rfl, hg, rfl⟩
      | ok st =>
        obtain ⟨stanzas, t'⟩ := st
        rw [hwa] at hrel
        cases out with
        | ret v => exact hrel.elim
        | next s =>
          obtain ⟨t2, hdr, labels'⟩ := s
          obtain ⟨rfl, rfl⟩ := hrel
          obtain ⟨d', hM, hd'⟩ := E.hMarshal ⟨stanzas, headerMAC P fk stanzas⟩ d
          simp only [E.hMac, Go.none_bne_none, Bool.false_eq_true, ↓reduceIte]
          rw [show E.marshalF ⟨stanzas.map toGoFStanza, headerMAC P fk stanzas⟩ d = _ from hM]
          cases hwr : writeAll (E.absD d) (segmentBy E.hdrSegs
              (Format.marshal { stanzas := stanzas, mac := headerMAC P fk stanzas })) with
          | mk d1 b =>
          rw [hwr] at hd'
          simp only at hd'
          cases b with
          | false => exact ⟨_, rfl, rfl, Or.inl rfl, hd'⟩
          | true =>
            simp only [Go.none_bne_none, Bool.false_eq_true, ↓reduceIte]
            cases hn : draw 16 t2 with
            | none =>
              rw [tapeRead_none E.eRand hn]
              exact ⟨_, rfl, rfl, Or.inl rfl, hd'⟩
            | some nt =>
              obtain ⟨nonce, t3⟩ := nt
              obtain ⟨n, d'', hWr, hd''⟩ := E.hWrite d' nonce
              rw [tapeRead_some E.eRand hn]
              simp only [Go.none_bne_none, Bool.false_eq_true, ↓reduceIte, Go.writeAt_fresh 16 nonce (draw_length hn),
                E.hKey, E.hNew]
              rw [hWr, hd']
              rw [hd'] at hd''
              cases hw2 : d1.write nonce with
              | mk d2 b2 =>
              rw [hw2] at hd''
              simp only at hd''
              cases b2 with
              | false => exact ⟨_, rfl, rfl, Or.inr rfl, hd''⟩
              | true => exact ⟨_, rfl, rfl, rfl, hd'', rfl, hd'' ▸ rfl⟩

end GoTie
end AgeModel
