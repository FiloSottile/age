/-
  Proofs.GoTieCliMain — `main` of cmd/age/age.go from the flag-conflict `switch` to its end, as it
  stands in the source.

  Translated on every run (`funcSpec.startAt`: flag parsing, `-version` and the "too many arguments"
  hints are outside the fragment; one explicit outside state; `errorf` / `errorWithHint` are exit
  sites; the three `defer`s that stand inside branches run at the end exactly when their branch was
  taken). The flag switch IS the model's `Cli.flagCheck` (`main_run_flags`); what follows it is cut into
  pieces (`mainRest`, `mainIn`, `mainOut`, `mainMode`, the deferred calls `mainEnd1..3`) and a run is followed
  through them. Against the model of Props/C15 (`Cli.flagCheck`, `Cli.prepare`):
  * every flag conflict the model names ends the process at the corresponding site, before anything
    is looked at, opened or started (`main_flagCheck`);
  * an input that cannot be opened ends it before the output is looked at (`main_openInput`);
  * an output whose absolute path is that of an `-i` file, an `-R` file or the input is refused
    BEFORE the output is opened: `newLazyOpener` is never reached (`main_sameFile`);
  * binary output is not sent to a terminal (`main_binaryToTerminal`);
  * otherwise exactly one of the four mode functions is called, chosen as the model says, on an
    output that is the lazy opener when `-o` names a file — `main` then returns only if that opener's
    `Close` reports success —, standard output, or the buffer copied to it at the end
    (`main_dispatch_file`, `main_dispatch_stdout`, `main_dispatch_buffered`).
-/
import AgeModel.Cli
import AgeModel.Extracted.Funcs
import Proofs.GoBuf
namespace AgeModel
namespace GoTie
open Extracted Cli

/-- everything `main` calls -/
structure MainEnv (ζ τ : Type) where
  nilZ : ζ
  AP : Bytes → τ → Go.M (Bytes × τ)
  stdin : ζ
  stdout : ζ
  Arg : Int → τ → Go.M (Bytes × τ)
  Open : Bytes → τ → Go.M (ζ × Option Go.Err × τ)
  SetStdin : Bool → τ → Go.M τ
  Fd : ζ → τ → Go.M (Int × τ)
  IsT : Int → τ → Go.M (Bool × τ)
  BufIn : ζ → τ → Go.M (ζ × Option Go.Err × τ)
  NL : Bytes → τ → Go.M (ζ × τ)
  same : ζ → ζ → Bool
  bufV : ζ
  DP : ζ → ζ → τ → Go.M τ
  DNP : List main_identityFlag → ζ → ζ → τ → Go.M τ
  EP : ζ → ζ → Bool → τ → Go.M τ
  ENP : List Bytes → List Bytes → List main_identityFlag → ζ → ζ → Bool → τ → Go.M τ
  Cp : ζ → ζ → τ → Go.M (Int × Option Go.Err × τ)
  WCl : ζ → τ → Go.M (Option Go.Err × τ)
  FCl : ζ → τ → Go.M (Option Go.Err × τ)

/-- the translated `main` under an environment -/
def MainEnv.run {ζ τ : Type} (E : MainEnv ζ τ) (outFlag : Bytes) (d e p a : Bool) (rs rfs : List Bytes)
    (ids : List main_identityFlag) (t0 : τ) : Go.M τ :=
  main_main E.nilZ E.AP E.stdin E.stdout E.Arg E.Open E.SetStdin E.Fd E.IsT E.BufIn E.NL E.same E.bufV E.DP E.DNP E.EP E.ENP
    E.Cp E.WCl E.FCl outFlag d e p a rs rfs ids t0

/-- a `-i` / `-j` flag as `flag.Func` recorded it -/
def main_toFlag : IdKind × Bytes → main_identityFlag
  | (.i, v) => ⟨[105], v⟩
  | (.j, v) => ⟨[106], v⟩

/-- the exit site of each flag conflict (`flagCheck` returns none of the other classes) -/
def main_flagSite : ErrClass → Nat
  | .encDec => 0 | .armorDec => 1 | .passDec => 2 | .recDec => 3 | .recFileDec => 4
  | .idNoEncrypt => 5 | .missingRecipients => 6 | .passRec => 7 | .passRecFile => 8 | .passId => 9
  | _ => 99

section
variable {ζ τ : Type} (E : MainEnv ζ τ) (a : Args)

/-- the deferred `f.Close()` of the input -/
def mainEnd1 (d1 : Bool) (f : ζ) (t : τ) : Go.M τ :=
  if d1 then do
    let c ← E.FCl f t
    pure c.2
  else pure t

/-- the deferred, checked `Close` of the lazy opener -/
def mainEnd2 (d1 : Bool) (f : ζ) (d2 : Bool) (f2 : ζ) (t : τ) : Go.M τ :=
  if d2 then do
    let c ← E.WCl f2 t
    if c.1 != none then throw (Go.Fault.panic 1014) else mainEnd1 E d1 f c.2
  else mainEnd1 E d1 f t

/-- the deferred copy of the buffered output -/
def mainEnd3 (d1 : Bool) (f : ζ) (d2 : Bool) (f2 : ζ) (d3 : Bool) (buf : ζ) (t : τ) : Go.M τ :=
  if d3 then do
    let c ← E.Cp E.stdout buf t
    mainEnd2 E d1 f d2 f2 c.2.2
  else mainEnd2 E d1 f d2 f2 t

/-- the final `switch` -/
def mainMode (d1 : Bool) (f : ζ) (d2 : Bool) (f2 : ζ) (d3 : Bool) (buf : ζ) (inp out : ζ) (t : τ) : Go.M τ :=
  if (a.decrypt && (Go.len (a.identities.map main_toFlag) == (0 : Int))) then do
    let t' ← E.DP inp out t
    mainEnd3 E d1 f d2 f2 d3 buf t'
  else if a.decrypt then do
    let t' ← E.DNP (a.identities.map main_toFlag) inp out t
    mainEnd3 E d1 f d2 f2 d3 buf t'
  else if a.passphrase then do
    let t' ← E.EP inp out a.armor t
    mainEnd3 E d1 f d2 f2 d3 buf t'
  else do
    let t' ← E.ENP a.recipients a.recipientsFiles (a.identities.map main_toFlag) inp out a.armor t
    mainEnd3 E d1 f d2 f2 d3 buf t'

/-- standard output is a terminal: is the input one too? -/
def mainOutT (d1 : Bool) (f : ζ) (inp : ζ) (t : τ) : Go.M τ := do
  let t19 ← E.Fd E.stdin t
  let t20 ← E.IsT t19.1 t19.2
  let l ← (if E.same inp E.stdin then pure t20.1 else pure false : Go.M Bool)
  if l then mainMode E a d1 f false E.nilZ true E.bufV inp E.bufV t20.2
  else mainMode E a d1 f false E.nilZ false E.nilZ inp E.stdout t20.2

def mainOut (d1 : Bool) (f : ζ) (iu : List Bytes) (inp : ζ) (t : τ) : Go.M τ :=
  if (a.output != ([] : List UInt8)) && (a.output != ([45] : List UInt8)) then do
    let r ← main_main_loop3 E.AP a.output iu t
    match r with
    | .ret v => pure v
    | .next t' => do
      let o ← E.NL a.output t'
      mainMode E a d1 f true o.1 false E.nilZ inp o.1 o.2
  else do
    let t17 ← E.Fd E.stdout t
    let t18 ← E.IsT t17.1 t17.2
    if t18.1 then
      if a.output != ([45] : List UInt8) then
        if a.decrypt then mainOutT E a d1 f inp t18.2
        else if !a.armor then throw (Go.Fault.panic 1013)
        else mainOutT E a d1 f inp t18.2
      else mainOutT E a d1 f inp t18.2
    else mainMode E a d1 f false E.nilZ false E.nilZ inp E.stdout t18.2

def mainIn (iu : List Bytes) (t : τ) : Go.M τ := do
  let t7 ← E.Arg 0 t
  if (t7.1 != ([] : List UInt8)) && (t7.1 != ([45] : List UInt8)) then do
    let t8 ← E.AP t7.1 t7.2
    let t9 ← E.Open t7.1 t8.2
    if t9.2.1 != none then throw (Go.Fault.panic 1010)
    else mainOut E a true t9.1 (iu ++ [t8.1]) t9.1 t9.2.2
  else do
    let t' ← E.SetStdin true t7.2
    let t10 ← E.Fd E.stdin t'
    let t11 ← E.IsT t10.1 t10.2
    let l ← (if a.decrypt then pure t11.1 else pure false : Go.M Bool)
    if l then do
      let t12 ← E.BufIn E.stdin t11.2
      if t12.2.1 != none then throw (Go.Fault.panic 1011)
      else mainOut E a false E.nilZ iu t12.1 t12.2.2
    else mainOut E a false E.nilZ iu E.stdin t11.2

def mainRest (t : τ) : Go.M τ := do
  let r1 ← main_main_loop1 E.AP (a.identities.map main_toFlag) t []
  match r1 with
  | .ret v => pure v
  | .next (t', iu) => do
    let r2 ← main_main_loop2 E.AP a.recipientsFiles t' iu
    match r2 with
    | .ret v => pure v
    | .next (t'', iu') => mainIn E a iu' t''

def mainAfterFlags (t : τ) : Option ErrClass → Go.M τ
  | some err => .error (.panic (1000 + main_flagSite err))
  | none => mainRest E a t
end

section
variable {ζ τ : Type} (E : MainEnv ζ τ) (a : Args)

theorem main_run_eq (t0 : τ) :
    E.run a.output a.decrypt a.encrypt a.passphrase a.armor a.recipients a.recipientsFiles (a.identities.map main_toFlag) t0 =
      if a.decrypt then
        if a.encrypt then .error (.panic 1000)
        else if a.armor then .error (.panic 1001)
        else if a.passphrase then .error (.panic 1002)
        else if decide (Go.len a.recipients > 0) then .error (.panic 1003)
        else if decide (Go.len a.recipientsFiles > 0) then .error (.panic 1004)
        else mainRest E a t0
      else
        if (decide (Go.len (a.identities.map main_toFlag) > 0) && !a.encrypt) then .error (.panic 1005)
        else if (Go.len a.recipients + Go.len a.recipientsFiles + Go.len (a.identities.map main_toFlag) == 0 && !a.passphrase) then
          .error (.panic 1006)
        else if (decide (Go.len a.recipients > 0) && a.passphrase) then .error (.panic 1007)
        else if (decide (Go.len a.recipientsFiles > 0) && a.passphrase) then .error (.panic 1008)
        else if (decide (Go.len (a.identities.map main_toFlag) > 0) && a.passphrase) then .error (.panic 1009)
        else mainRest E a t0 := by
  rfl

theorem main_len_pos_eq {α : Type} (l : List α) : decide (Go.len l > 0) = !l.isEmpty := by
  cases l with
  | nil => rfl
  | cons x xs => exact decide_eq_true (Go.len_cons_pos x xs)

theorem main_len_sum_eq {α β γ : Type} (l1 : List α) (l2 : List β) (l3 : List γ) :
    (Go.len l1 + Go.len l2 + Go.len l3 == 0) = (l1.isEmpty && l2.isEmpty && l3.isEmpty) := by
  rw [Bool.eq_iff_iff]
  simp only [beq_iff_eq, Bool.and_eq_true, List.isEmpty_iff, ← List.length_eq_zero_iff, Go.len, Int.ofNat_eq_natCast]
  omega

/-- the translated flag switch is the model's `flagCheck`: the same tests in the same order, each conflict at its site -/
theorem main_run_flags (t0 : τ) :
    E.run a.output a.decrypt a.encrypt a.passphrase a.armor a.recipients a.recipientsFiles (a.identities.map main_toFlag) t0 =
      mainAfterFlags E a t0 (flagCheck a) := by
  rw [main_run_eq]
  simp only [main_len_pos_eq, main_len_sum_eq, List.isEmpty_map]
  unfold flagCheck
  simp only [apply_ite (mainAfterFlags E a t0)]
  rfl
end

/-- the model's flag check, on the source: whatever the environment, a conflict the model names ends the process at its
    site -/
theorem main_flagCheck {ζ τ : Type} (E : MainEnv ζ τ) (a : Args) (err : ErrClass) (h : flagCheck a = some err) (t0 : τ) :
    E.run a.output a.decrypt a.encrypt a.passphrase a.armor a.recipients a.recipientsFiles (a.identities.map main_toFlag) t0 =
      .error (.panic (1000 + main_flagSite err)) := by
  rw [main_run_flags, h]
  rfl

/-- `absPath` as a function (it does not touch the outside state) -/
def main_pureAP {τ : Type} (ap : Bytes → Bytes) : Bytes → τ → Go.M (Bytes × τ) := fun b t => .ok (ap b, t)

/-- the names whose files the run reads, as `main` collects them -/
def main_inUse (ap : Bytes → Bytes) (ids : List (IdKind × Bytes)) (rfs : List Bytes) (inputName : Bytes) : List Bytes :=
  ((ids.filter fun f => f.1 = .i).map fun f => ap f.2) ++ rfs.map ap ++
    (if inputName ≠ [] ∧ inputName ≠ [45] then [ap inputName] else [])

theorem main_loop1_eq {τ : Type} (ap : Bytes → Bytes) (ids : List (IdKind × Bytes)) (t : τ) (acc : List Bytes) :
    main_main_loop1 (main_pureAP ap) (ids.map main_toFlag) t acc =
      .ok (.next (t, acc ++ ((ids.filter fun f => f.1 = .i).map fun f => ap f.2))) := by
  induction ids generalizing acc with
  | nil => simp [main_main_loop1, pure, Except.pure]
  | cons x xs ih =>
    obtain ⟨k, v⟩ := x
    cases k
    · simp [main_main_loop1, main_toFlag, main_pureAP, Go.bind_ok, ih]
    · simp [main_main_loop1, main_toFlag, ih]

theorem main_loop2_eq {τ : Type} (ap : Bytes → Bytes) (rfs : List Bytes) (t : τ) (acc : List Bytes) :
    main_main_loop2 (main_pureAP ap) rfs t acc = .ok (.next (t, acc ++ rfs.map ap)) := by
  induction rfs generalizing acc with
  | nil => simp [main_main_loop2, pure, Except.pure]
  | cons x xs ih => simp [main_main_loop2, main_pureAP, Go.bind_ok, ih]

theorem main_loop3_eq {τ : Type} (ap : Bytes → Bytes) (name : Bytes) (files : List Bytes) (t : τ) :
    main_main_loop3 (main_pureAP ap) name files t = if ap name ∈ files then .error (.panic 1012) else .ok (.next t) := by
  induction files with
  | nil => rfl
  | cons x xs ih =>
    simp only [main_main_loop3, main_pureAP, Go.bind_ok, ih]
    by_cases hx : x = ap name
    · rw [if_pos (List.mem_cons.2 (.inl hx.symm)), beq_iff_eq.2 hx]
      rfl
    · have hm : (ap name ∈ x :: xs) = (ap name ∈ xs) := by rw [List.mem_cons, eq_false (Ne.symm hx), false_or]
      simp only [beq_eq_false_iff_ne.2 hx, hm]
      rfl

theorem main_isFile_eq (n : Bytes) : ((n != ([] : List UInt8)) && (n != ([45] : List UInt8))) = decide (n ≠ [] ∧ n ≠ [45]) := by
  rw [Bool.eq_iff_iff]
  simp only [Bool.and_eq_true, bne_iff_ne, decide_eq_true_eq]

theorem main_inUse_input (ap : Bytes → Bytes) (ids : List (IdKind × Bytes)) (rfs : List Bytes) (name : Bytes) :
    main_inUse ap ids rfs name = main_inUse ap ids rfs [] ++ (if name ≠ [] ∧ name ≠ [45] then [ap name] else []) := by
  have h : ¬(([] : Bytes) ≠ [] ∧ ([] : Bytes) ≠ [45]) := fun h => h.1 rfl
  simp only [main_inUse, if_neg h, List.append_nil]

/-- which mode function `main` calls -/
def MainEnv.mode {ζ τ : Type} (E : MainEnv ζ τ) (a : Args) (inp out : ζ) (t : τ) : Go.M τ :=
  if a.decrypt && a.identities.isEmpty then E.DP inp out t
  else if a.decrypt then E.DNP (a.identities.map main_toFlag) inp out t
  else if a.passphrase then E.EP inp out a.armor t
  else E.ENP a.recipients a.recipientsFiles (a.identities.map main_toFlag) inp out a.armor t

section
variable {ζ τ : Type} (E : MainEnv ζ τ) (a : Args) (ap : Bytes → Bytes)

theorem main_toIn (hfc : flagCheck a = none) (hAP : E.AP = main_pureAP ap) (t0 : τ) :
    E.run a.output a.decrypt a.encrypt a.passphrase a.armor a.recipients a.recipientsFiles (a.identities.map main_toFlag) t0 =
      mainIn E a (main_inUse ap a.identities a.recipientsFiles []) t0 := by
  rw [main_run_flags, hfc, main_inUse, if_neg (fun h => h.1 rfl), List.append_nil]
  simp only [mainAfterFlags, mainRest, hAP, main_loop1_eq, main_loop2_eq, bind, Except.bind, List.nil_append]

theorem mainIn_file {name : Bytes} (hname : name ≠ [] ∧ name ≠ [45]) (hAP : E.AP = main_pureAP ap) (iu : List Bytes) {t t1 t2 : τ}
    (hArg : E.Arg 0 t = .ok (name, t1)) {f : ζ} {e : Option Go.Err} (hOpen : E.Open name t1 = .ok (f, e, t2)) :
    mainIn E a iu t = if e != none then .error (.panic 1010) else mainOut E a true f (iu ++ [ap name]) f t2 := by
  simp only [mainIn, hArg, bind, Except.bind, main_isFile_eq, decide_eq_true hname, if_true, hAP, main_pureAP, hOpen]
  rfl

theorem mainIn_stdin {name : Bytes} (hname : ¬(name ≠ [] ∧ name ≠ [45])) (iu : List Bytes) {t t1 t2 t3 t4 : τ}
    (hArg : E.Arg 0 t = .ok (name, t1)) (hSet : E.SetStdin true t1 = .ok t2) {n : Int} (hFd : E.Fd E.stdin t2 = .ok (n, t3))
    {b : Bool} (hIsT : E.IsT n t3 = .ok (b, t4)) (hb : (a.decrypt && b) = false) :
    mainIn E a iu t = mainOut E a false E.nilZ iu E.stdin t4 := by
  have hl : (if a.decrypt = true then (pure b : Go.M Bool) else pure false) = .ok false := by
    cases hd : a.decrypt
    · rfl
    · rw [hd, Bool.true_and] at hb; rw [hb]; rfl
  simp only [mainIn, hArg, bind, Except.bind, main_isFile_eq, decide_eq_false hname, hSet, hFd, hIsT, hl, Bool.false_eq_true,
    if_false]

theorem mainOut_inUse (hAP : E.AP = main_pureAP ap) (hout : a.output ≠ [] ∧ a.output ≠ [45]) {iu : List Bytes} (hin : ap a.output ∈ iu)
    (d1 : Bool) (f inp : ζ) (t : τ) :
    mainOut E a d1 f iu inp t = .error (.panic 1012) := by
  simp only [mainOut, main_isFile_eq, decide_eq_true hout, if_true, hAP, main_loop3_eq, if_pos hin, bind, Except.bind]

theorem mainOut_file (hAP : E.AP = main_pureAP ap) (hout : a.output ≠ [] ∧ a.output ≠ [45]) {iu : List Bytes} (hnot : ap a.output ∉ iu)
    (d1 : Bool) (f inp : ζ) (t : τ) :
    mainOut E a d1 f iu inp t =
      (do let o ← E.NL a.output t
          mainMode E a d1 f true o.1 false E.nilZ inp o.1 o.2) := by
  simp only [mainOut, main_isFile_eq, decide_eq_true hout, if_true, hAP, main_loop3_eq, if_neg hnot, bind, Except.bind]

theorem mainOut_std (hout : ¬(a.output ≠ [] ∧ a.output ≠ [45])) (d1 : Bool) (f : ζ) (iu : List Bytes) (inp : ζ) {t t1 t2 : τ} {n : Int}
    (hFd : E.Fd E.stdout t = .ok (n, t1)) {b : Bool} (hIsT : E.IsT n t1 = .ok (b, t2)) :
    mainOut E a d1 f iu inp t =
      if b then
        if (a.output != ([45] : List UInt8) && !a.decrypt && !a.armor) then .error (.panic 1013) else mainOutT E a d1 f inp t2
      else mainMode E a d1 f false E.nilZ false E.nilZ inp E.stdout t2 := by
  simp only [mainOut, main_isFile_eq, decide_eq_false hout, Bool.false_eq_true, if_false, hFd, hIsT, bind, Except.bind]
  cases b
  · rfl
  cases (a.output != ([45] : List UInt8))
  · rfl
  cases a.decrypt
  · cases a.armor <;> rfl
  · rfl

theorem mainMode_eq (d1 : Bool) (f : ζ) (d2 : Bool) (f2 : ζ) (d3 : Bool) (buf inp out : ζ) (t : τ) :
    mainMode E a d1 f d2 f2 d3 buf inp out t = E.mode a inp out t >>= mainEnd3 E d1 f d2 f2 d3 buf := by
  simp only [mainMode, MainEnv.mode, Go.len_beq_zero, List.isEmpty_map, apply_ite (· >>= mainEnd3 E d1 f d2 f2 d3 buf)]

theorem main_toOut (hfc : flagCheck a = none) (hArg : ∀ t, E.Arg 0 t = .ok ([], t)) (hSet : ∀ b t, E.SetStdin b t = .ok t)
    (hFd : ∀ z t, E.Fd z t = .ok (0, t)) {b : Bool} (hIsT : ∀ n t, E.IsT n t = .ok (b, t)) (hAP : E.AP = main_pureAP ap)
    (hb : (a.decrypt && b) = false) (t0 : τ) :
    E.run a.output a.decrypt a.encrypt a.passphrase a.armor a.recipients a.recipientsFiles (a.identities.map main_toFlag) t0 =
      mainOut E a false E.nilZ (main_inUse ap a.identities a.recipientsFiles []) E.stdin t0 := by
  rw [main_toIn E a ap hfc hAP, mainIn_stdin E a (fun h => h.1 rfl) _ (hArg t0) (hSet true t0) (hFd _ t0) (hIsT 0 t0) hb]
end

/-- the same-file refusal: no flag conflict, the input (if any) opens, `-o` names a file whose absolute path is in use —
    the process ends at site 12 and `newLazyOpener` (here: a function that faults) is never reached -/
theorem main_sameFile {ζ τ : Type} (E : MainEnv ζ τ) (ap : Bytes → Bytes) (a : Args) (hfc : flagCheck a = none)
    (inputName : Bytes) (hArg : ∀ t, E.Arg 0 t = .ok (inputName, t))
    (hOpen : ∀ n t, ∃ f t', E.Open n t = .ok (f, none, t'))
    (hSet : ∀ b t, ∃ t', E.SetStdin b t = .ok t') (hFd : ∀ z t, ∃ n t', E.Fd z t = .ok (n, t'))
    (hIsT : ∀ n t, ∃ t', E.IsT n t = .ok (false, t'))
    (hAP : E.AP = main_pureAP ap) (hNL : E.NL = fun _ _ => .error (.panic 77))
    (hout : a.output ≠ [] ∧ a.output ≠ [45]) (hin : ap a.output ∈ main_inUse ap a.identities a.recipientsFiles inputName) (t0 : τ) :
    E.run a.output a.decrypt a.encrypt a.passphrase a.armor a.recipients a.recipientsFiles (a.identities.map main_toFlag) t0 =
      .error (.panic 1012) := by
  -- not used: the conclusion holds for every `newLazyOpener`; the hypothesis only makes the statement say "not reached"
  have _ := hNL
  rw [main_toIn E a ap hfc hAP]
  rw [main_inUse_input] at hin
  by_cases hf : inputName ≠ [] ∧ inputName ≠ [45]
  · obtain ⟨f, t', hO⟩ := hOpen inputName t0
    rw [if_pos hf] at hin
    rw [mainIn_file E a ap hf hAP _ (hArg t0) hO]
    exact mainOut_inUse E a ap hAP hout hin ..
  · obtain ⟨t1, h1⟩ := hSet true t0
    obtain ⟨n, t2, h2⟩ := hFd E.stdin t1
    obtain ⟨t3, h3⟩ := hIsT n t2
    rw [if_neg hf, List.append_nil] at hin
    rw [mainIn_stdin E a hf _ (hArg t0) h1 h2 h3 (Bool.and_false _)]
    exact mainOut_inUse E a ap hAP hout hin ..

/-- no flag conflict, input from a standard input that is not a terminal, `-o` names a file that is not in use: the output
    handed to the mode function IS the lazy opener for that name, exactly one mode function is called — the one the model's
    dispatch names — and `main` returns only if the opener's `Close` reports success (site 14 otherwise) -/
theorem main_dispatch_file {ζ τ : Type} (E : MainEnv ζ τ) (ap : Bytes → Bytes) (a : Args) (hfc : flagCheck a = none)
    (hArg : ∀ t, E.Arg 0 t = .ok ([], t)) (hSet : ∀ b t, E.SetStdin b t = .ok t) (hFd : ∀ z t, E.Fd z t = .ok (0, t))
    (hIsT : ∀ n t, E.IsT n t = .ok (false, t)) (hAP : E.AP = main_pureAP ap)
    (hout : a.output ≠ [] ∧ a.output ≠ [45]) (hnot : ap a.output ∉ main_inUse ap a.identities a.recipientsFiles []) (t0 : τ) :
    E.run a.output a.decrypt a.encrypt a.passphrase a.armor a.recipients a.recipientsFiles (a.identities.map main_toFlag) t0 =
      (do let o ← E.NL a.output t0
          let t2 ← E.mode a E.stdin o.1 o.2
          let c ← E.WCl o.1 t2
          if (c.1 != none) = true then .error (.panic 1014) else pure c.2) := by
  rw [main_toOut E a ap hfc hArg hSet hFd hIsT hAP (Bool.and_false _), mainOut_file E a ap hAP hout hnot]
  simp only [mainMode_eq]
  rfl

/-- binary output is not sent to a terminal: encrypting without `-a` and without `-o`, with standard output a terminal, ends
    the process (site 13) before any mode function is called — whatever they would do -/
theorem main_binaryToTerminal {ζ τ : Type} (E : MainEnv ζ τ) (ap : Bytes → Bytes) (a : Args) (hfc : flagCheck a = none)
    (hArg : ∀ t, E.Arg 0 t = .ok ([], t)) (hSet : ∀ b t, E.SetStdin b t = .ok t) (hFd : ∀ z t, E.Fd z t = .ok (0, t))
    (hIsT : ∀ n t, E.IsT n t = .ok (true, t)) (hAP : E.AP = main_pureAP ap)
    (hout : a.output = []) (hd : a.decrypt = false) (harm : a.armor = false) (t0 : τ) :
    E.run a.output a.decrypt a.encrypt a.passphrase a.armor a.recipients a.recipientsFiles (a.identities.map main_toFlag) t0 =
      .error (.panic 1013) := by
  rw [main_toOut E a ap hfc hArg hSet hFd hIsT hAP (by rw [hd]; rfl),
    mainOut_std E a (fun h => h.1 hout) _ _ _ _ (hFd _ t0) (hIsT 0 t0), hout, hd, harm]
  rfl

/-- an input file that cannot be opened ends the process (site 10) before the output is even looked at: `newLazyOpener` and
    the terminal tests are not reached (here they fault when called) -/
theorem main_openInput {ζ τ : Type} (E : MainEnv ζ τ) (ap : Bytes → Bytes) (a : Args) (hfc : flagCheck a = none)
    (inputName : Bytes) (hname : inputName ≠ [] ∧ inputName ≠ [45]) (hArg : ∀ t, E.Arg 0 t = .ok (inputName, t))
    (f : ζ) (e : Go.Err) (hOpen : ∀ n t, E.Open n t = .ok (f, some e, t)) (hAP : E.AP = main_pureAP ap)
    (hNL : E.NL = fun _ _ => .error (.panic 77)) (hFd : E.Fd = fun _ _ => .error (.panic 78)) (t0 : τ) :
    E.run a.output a.decrypt a.encrypt a.passphrase a.armor a.recipients a.recipientsFiles (a.identities.map main_toFlag) t0 =
      .error (.panic 1010) := by
  have _ := hNL
  have _ := hFd
  rw [main_toIn E a ap hfc hAP, mainIn_file E a ap hname hAP _ (hArg t0) (hOpen inputName t0)]
  rfl

/-- no `-o` (or `-o -`), nothing is a terminal: the mode function writes to standard output itself and nothing is closed or
    copied afterwards -/
theorem main_dispatch_stdout {ζ τ : Type} (E : MainEnv ζ τ) (ap : Bytes → Bytes) (a : Args) (hfc : flagCheck a = none)
    (hArg : ∀ t, E.Arg 0 t = .ok ([], t)) (hSet : ∀ b t, E.SetStdin b t = .ok t) (hFd : ∀ z t, E.Fd z t = .ok (0, t))
    (hIsT : ∀ n t, E.IsT n t = .ok (false, t)) (hAP : E.AP = main_pureAP ap)
    (hout : a.output = [] ∨ a.output = [45]) (t0 : τ) :
    E.run a.output a.decrypt a.encrypt a.passphrase a.armor a.recipients a.recipientsFiles (a.identities.map main_toFlag) t0 =
      E.mode a E.stdin E.stdout t0 := by
  rw [main_toOut E a ap hfc hArg hSet hFd hIsT hAP (Bool.and_false _),
    mainOut_std E a (fun h => hout.elim h.1 h.2) _ _ _ _ (hFd _ t0) (hIsT 0 t0), if_neg Bool.false_ne_true, mainMode_eq]
  exact bind_pure _

/-- armored encryption from a terminal to a terminal: the mode function writes into a buffer, which is copied to standard
    output when `main` returns — after everything else, and whatever that copy reports -/
theorem main_dispatch_buffered {ζ τ : Type} (E : MainEnv ζ τ) (ap : Bytes → Bytes) (a : Args) (hfc : flagCheck a = none)
    (hArg : ∀ t, E.Arg 0 t = .ok ([], t)) (hSet : ∀ b t, E.SetStdin b t = .ok t) (hFd : ∀ z t, E.Fd z t = .ok (0, t))
    (hIsT : ∀ n t, E.IsT n t = .ok (true, t)) (hAP : E.AP = main_pureAP ap) (hsame : E.same E.stdin E.stdin = true)
    (hout : a.output = []) (hd : a.decrypt = false) (harm : a.armor = true) (t0 : τ) :
    E.run a.output a.decrypt a.encrypt a.passphrase a.armor a.recipients a.recipientsFiles (a.identities.map main_toFlag) t0 =
      (do let t2 ← E.mode a E.stdin E.bufV t0
          let c ← E.Cp E.stdout E.bufV t2
          pure c.2.2) := by
  rw [main_toOut E a ap hfc hArg hSet hFd hIsT hAP (by rw [hd]; rfl),
    mainOut_std E a (fun h => h.1 hout) _ _ _ _ (hFd _ t0) (hIsT 0 t0), if_pos rfl, harm, Bool.not_true, Bool.and_false,
    if_neg Bool.false_ne_true]
  simp only [mainOutT, hFd, hIsT, hsame, bind, Except.bind, if_true, pure, Except.pure, mainMode_eq]
  rfl

end GoTie
end AgeModel
