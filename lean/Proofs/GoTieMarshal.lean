/-
  Proofs.GoTieMarshal — the header serialiser, as it stands in the source.

  `(*Stanza).Marshal`, `(*Header).MarshalWithoutMAC` and `(*Header).Marshal` of
  internal/format/format.go are TRANSLATED on every run. The destination is abstract state with an
  abstract `Write`; the wrapped base64 encoder (`NewWrappedBase64Encoder`, its `Write` and `Close`:
  encoding/base64's streaming encoder calling back into `writeWrapped`, which is translated and tied
  separately in `GoTieWrap`) is an abstract handle whose operations work on the destination it was
  given. `MarshalEnv` says what is assumed: the destination takes every write; creating the
  encoder writes nothing, and writing a body to it and closing it appends the unpadded base64 of the
  body in 64-column lines (`Format.wrap (B64.encRaw body)`). The theorems: what reaches the
  destination is the model's `marshalStanza` / `marshalNoMAC` / `marshal`, byte for byte — the
  functions the canonicity and round-trip theorems of `Props.C07` and the layout theorems of
  `Props.C05` are about.
-/
import AgeModel.GoSem
import AgeModel.Format
import AgeModel.Extracted.Funcs
import Proofs.GoTieLines
import Proofs.GoBuf
namespace AgeModel
namespace GoTie
open Extracted

structure MarshalEnv (δ ε ω : Type) where
  /-- everything written to the destination so far -/
  absD : δ → Bytes
  W : δ → Bytes → Go.M (Int × Option Go.Err × δ)
  hW : ∀ d b, ∃ d', W d b = .ok (Int.ofNat b.length, none, d') ∧ absD d' = absD d ++ b
  b64 : ε
  New : ε → δ → Go.M (ω × δ)
  Wr : ω → Bytes → δ → Go.M (Int × Option Go.Err × ω × δ)
  Cl : ω → δ → Go.M (Option Go.Err × ω × δ)
  hEnc : ∀ d body, ∃ ww0 d0, New b64 d = .ok (ww0, d0) ∧ absD d0 = absD d ∧
          ∃ n ww1 d1, Wr ww0 body d0 = .ok (n, none, ww1, d1) ∧
          ∃ ww2 d2, Cl ww1 d1 = .ok (none, ww2, d2) ∧ absD d2 = absD d ++ Format.wrap (B64.encRaw body)
  Enc : ε → Bytes → Go.M Bytes
  hE : ∀ m, Enc b64 m = .ok (B64.encRaw m)


theorem stanza_marshal_loop1_eq {δ ε ω : Type} (E : MarshalEnv δ ε ω) : ∀ (l : List Bytes) (d : δ),
    ∃ d', format_Stanza_Marshal_loop1 E.W l d = .ok (.next d') ∧
      E.absD d' = E.absD d ++ Format.spaced l
  | [], d => ⟨d, rfl, by simp [Format.spaced]⟩
  | a :: l, d => by
    obtain ⟨d1, h1, ha1⟩ := E.hW d (([32] : List UInt8) ++ a)
    obtain ⟨d2, h2, ha2⟩ := stanza_marshal_loop1_eq E l d1
    refine ⟨d2, ?_, ?_⟩
    · simp only [format_Stanza_Marshal_loop1, h1, bind, Except.bind, Go.none_bne_none,
        Bool.false_eq_true, if_false]
      exact h2
    · rw [ha2, ha1]
      simp [Format.spaced, Format.sp]

theorem stanza_marshal_tie {δ ε ω : Type} (E : MarshalEnv δ ε ω) (s : Format.Stanza) (d : δ) :
    ∃ d', format_Stanza_Marshal E.W E.b64 E.New E.Wr E.Cl (toGoFStanza s) d = .ok (none, d') ∧
      E.absD d' = E.absD d ++ Format.marshalStanza s := by
  obtain ⟨d1, h1, ha1⟩ := E.hW d format_stanzaPrefix
  obtain ⟨d2, h2, ha2⟩ := stanza_marshal_loop1_eq E (s.type :: s.args) d1
  obtain ⟨d3, h3, ha3⟩ := E.hW d2 ([10] : List UInt8)
  obtain ⟨ww0, d4, h4, ha4, n, ww1, d5, h5, ww2, d6, h6, ha6⟩ := E.hEnc d3 s.body
  obtain ⟨d7, h7, ha7⟩ := E.hW d6 ([10] : List UInt8)
  refine ⟨d7, ?_, ?_⟩
  · simp only [format_Stanza_Marshal, toGoFStanza, List.singleton_append, h1, h2, h3, h4, h5, h6, h7,
      bind, Except.bind, pure, Except.pure, Go.none_bne_none, Bool.false_eq_true, if_false]
  · rw [ha7, ha6, ha3, ha2, ha1]
    simp [Format.marshalStanza, Format.stanzaPrefix, format_stanzaPrefix, Format.nl]


theorem header_marshal_loop1_eq {δ ε ω : Type} (E : MarshalEnv δ ε ω) : ∀ (ss : List Format.Stanza) (d : δ),
    ∃ d', format_Header_MarshalWithoutMAC_loop1 E.W E.b64 E.New E.Wr E.Cl (ss.map toGoFStanza) d
        = .ok (.next d') ∧
      E.absD d' = E.absD d ++ Format.marshalStanzas ss
  | [], d => ⟨d, rfl, by simp [Format.marshalStanzas]⟩
  | s :: ss, d => by
    obtain ⟨d1, h1, ha1⟩ := stanza_marshal_tie E s d
    obtain ⟨d2, h2, ha2⟩ := header_marshal_loop1_eq E ss d1
    refine ⟨d2, ?_, ?_⟩
    · simp only [List.map_cons, format_Header_MarshalWithoutMAC_loop1, h1, bind, Except.bind,
        Go.none_bne_none, Bool.false_eq_true, if_false]
      exact h2
    · rw [ha2, ha1]
      simp [Format.marshalStanzas]

theorem header_marshalNoMAC_tie {δ ε ω : Type} (E : MarshalEnv δ ε ω) (h : Format.Header) (d : δ) :
    ∃ d', format_Header_MarshalWithoutMAC E.W E.b64 E.New E.Wr E.Cl ⟨h.stanzas.map toGoFStanza, h.mac⟩ d = .ok (none, d') ∧
      E.absD d' = E.absD d ++ Format.marshalNoMAC h := by
  obtain ⟨d1, h1, ha1⟩ := E.hW d Format.intro
  obtain ⟨d2, h2, ha2⟩ := header_marshal_loop1_eq E h.stanzas d1
  obtain ⟨d3, h3, ha3⟩ := E.hW d2 format_footerPrefix
  refine ⟨d3, ?_, ?_⟩
  · simp only [Format.intro] at h1
    simp only [format_Header_MarshalWithoutMAC, h1, h2, h3,
      bind, Except.bind, pure, Except.pure, Go.none_bne_none, Bool.false_eq_true, if_false]
  · rw [ha3, ha2, ha1]
    simp [Format.marshalNoMAC, Format.footerPrefix, format_footerPrefix]

theorem header_marshal_tie {δ ε ω : Type} (E : MarshalEnv δ ε ω) (h : Format.Header) (d : δ) :
    ∃ d', format_Header_Marshal E.W E.b64 E.New E.Wr E.Cl E.Enc ⟨h.stanzas.map toGoFStanza, h.mac⟩ d = .ok (none, d') ∧
      E.absD d' = E.absD d ++ Format.marshal h := by
  obtain ⟨d1, h1, ha1⟩ := header_marshalNoMAC_tie E h d
  obtain ⟨d2, h2, ha2⟩ := E.hW d1 (([32] : List UInt8) ++ B64.encRaw h.mac ++ ([10] : List UInt8))
  refine ⟨d2, ?_, ?_⟩
  · simp only [format_Header_Marshal, h1, h2, E.hE,
      bind, Except.bind, pure, Except.pure, Go.none_bne_none, Bool.false_eq_true, if_false]
  · rw [ha2, ha1]
    simp [Format.marshal, Format.sp, Format.nl]

end GoTie
end AgeModel
