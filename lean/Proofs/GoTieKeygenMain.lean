/-
  Proofs.GoTieKeygenMain — how `age-keygen` opens its output and its input (`main` of
  cmd/age-keygen/keygen.go, from `out := os.Stdout` to the point where it dispatches on `-y`), as it
  stands in the source.

  Translated on every run (`funcSpec.startAt` / `stopAt`; the flag parsing before and the dispatch
  after are outside the fragment; `funcSpec.world`). The `-o` file is opened — before the input is
  even looked at — by ONE call `os.OpenFile(name, O_WRONLY|O_CREATE|O_EXCL, 0600)` (193 and 384 on
  the platform the checks run on: an existing file is never opened, a new one is readable by its
  owner only), a failure of which ends the process; without `-o` nothing is opened for writing.
-/
import AgeModel.Extracted.Funcs
namespace AgeModel
namespace GoTie
open Extracted

section
variable {ζ τ : Type} (nilZ stdout stdin : ζ)
  (OF : Bytes → Int → UInt32 → τ → Go.M (ζ × Option Go.Err × τ))
  (Arg : Int → τ → Go.M (Bytes × τ)) (Op : Bytes → τ → Go.M (ζ × Option Go.Err × τ))

/-- `O_WRONLY|O_CREATE|O_EXCL` and `0600` -/
theorem keygen_flags : (193 : Int) = 1 + 64 + 128 ∧ (384 : UInt32) = 6 * 64 := by decide

/-- the input side: `flag.Arg(0)`, opened unless empty or "-" -/
def keygenOpenIn (out : ζ) (t : τ) : Go.M (τ × Option ζ × Option ζ) := do
  let a ← Arg 0 t
  if (a.1 != ([] : Bytes) && a.1 != ([45] : Bytes)) = true then do
    let o ← Op a.1 a.2
    if (o.2.1 != none) = true then .error (.panic 1001) else pure (o.2.2, some out, some o.1)
  else pure (a.2, some out, some stdin)

theorem keygen_open_tie (convertFlag : Bool) (outFlag : Bytes) (t0 : τ) :
    keygen_main nilZ stdout OF stdin Arg Op convertFlag outFlag t0 =
      if outFlag = [] then keygenOpenIn stdin Arg Op stdout t0
      else (do
        let f ← OF outFlag 193 384 t0
        if (f.2.1 != none) = true then .error (.panic 1000)
        else keygenOpenIn stdin Arg Op f.1 f.2.2) := by
  -- once `outFlag` is known to be empty or not, both sides compute to the same term
  cases outFlag <;> rfl

/-- `os.OpenFile` is never called with other flags or another mode: replacing it by anything that agrees with it on
    `(·, O_WRONLY|O_CREATE|O_EXCL, 0600, ·)` changes nothing -/
theorem keygen_open_flags (OF' : Bytes → Int → UInt32 → τ → Go.M (ζ × Option Go.Err × τ))
    (h : ∀ n t, OF n 193 384 t = OF' n 193 384 t) (convertFlag : Bool) (outFlag : Bytes) (t0 : τ) :
    keygen_main nilZ stdout OF stdin Arg Op convertFlag outFlag t0 =
      keygen_main nilZ stdout OF' stdin Arg Op convertFlag outFlag t0 := by
  rw [keygen_open_tie, keygen_open_tie, h]

/-- without `-o` nothing is opened for writing -/
theorem keygen_no_o_no_open (convertFlag : Bool) (t0 : τ) :
    keygen_main nilZ stdout OF stdin Arg Op convertFlag [] t0 =
      keygen_main nilZ stdout (fun _ _ _ _ => .error (.panic 77)) stdin Arg Op convertFlag [] t0 := by
  rw [keygen_open_tie, keygen_open_tie]; rfl

end
end GoTie
end AgeModel
