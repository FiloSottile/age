/-
  `aeadEncrypt` / `aeadDecrypt` of package age (primitives.go) and of agessh (agessh/agessh.go), as
  they stand in the source, with ChaCha20-Poly1305 abstract (`chacha20poly1305.New` and the `Seal` /
  `Open` / `Overhead` methods of the `cipher.AEAD` it returns). What the source adds to the
  primitive is what the theorems fix: the nonce is twelve zero bytes, nothing is passed as
  additional data, and — in package age only — the ciphertext must be exactly `size + 16` bytes long
  before it is opened (`errIncorrectCiphertextSize`, which the callers turn into a fatal error
  rather than "incorrect identity"). The ties hold for 32-byte keys (`New` refuses any other);
  `ScryptEnv.hA`, `NativeEnv.hSeal` and the SSH environments assume the same behaviour of their
  abstract wrappers for every key, and nothing connects the two.
-/
import AgeModel.Extracted.Funcs
import AgeModel.Recipients
import Proofs.GoBuf
namespace AgeModel
namespace GoTie
open Extracted

/-- ChaCha20-Poly1305 as `golang.org/x/crypto` offers it: `New` accepts 32-byte keys only; the AEAD it
    returns seals and opens under that key; its overhead is 16 -/
structure WrapAeadEnv (α : Type) (P : Prims) where
  New : Bytes → Go.M (α × Option Go.Err)
  over : α → Go.M Int
  open_ : α → Bytes → Bytes → Bytes → Go.M (Bytes × Option Go.Err)
  seal_ : α → Bytes → Bytes → Bytes → Go.M Bytes
  nilA : α
  eKey : Go.Err
  eAuth : Go.Err
  hT : P.aead.T = 16
  hNew : ∀ k : Bytes, k.length = 32 → ∃ a, New k = .ok (a, none) ∧ over a = .ok 16 ∧
    (∀ n c, open_ a n c [] = .ok (match P.aead.openF k n c with
                                   | some p => (p, none)
                                   | none => ([], some eAuth))) ∧
    ∀ n p, seal_ a n p [] = .ok (P.aead.sealF k n p)
  hNewBad : ∀ k : Bytes, k.length ≠ 32 → New k = .ok (nilA, some eKey)

/-- the assumptions are satisfiable for every `P` whose tag is 16 bytes: the AEAD handle is the key itself -/
def WrapAeadEnv.canonical (P : Prims) (hT : P.aead.T = 16) : WrapAeadEnv Bytes P where
  New k := .ok (if k.length = 32 then (k, none) else ([], some ⟨"chacha20poly1305: bad key length", 0, []⟩))
  over _ := .ok 16
  open_ a n c _ := .ok (match P.aead.openF a n c with
                        | some p => (p, none)
                        | none => ([], some ⟨"chacha20poly1305: message authentication failed", 0, []⟩))
  seal_ a n p _ := .ok (P.aead.sealF a n p)
  nilA := []
  eKey := ⟨"chacha20poly1305: bad key length", 0, []⟩
  eAuth := ⟨"chacha20poly1305: message authentication failed", 0, []⟩
  hT := hT
  hNew k hk := ⟨k, by simp [hk], rfl, fun _ _ => rfl, fun _ _ => rfl⟩
  hNewBad k hk := by simp [hk]

theorem makeZero12 : (Go.makeList (0 : UInt8) (12 : Int)) = .ok zeroNonce := by
  simp [Go.makeList, zeroNonce]

variable {α : Type} {P : Prims}

theorem aeadEncrypt_tie (E : WrapAeadEnv α P) (k pt : Bytes) (hk : k.length = 32) :
    age_aeadEncrypt E.New E.seal_ k pt = .ok (P.wrapSeal k pt, none) := by
  obtain ⟨a, hN, _, _, hS⟩ := E.hNew k hk
  simp [age_aeadEncrypt, hN, makeZero12, hS, Prims.wrapSeal, bind, Except.bind, pure, Except.pure]

theorem aeadEncrypt_badKey (E : WrapAeadEnv α P) (k pt : Bytes) (hk : k.length ≠ 32) :
    age_aeadEncrypt E.New E.seal_ k pt = .ok ([], some E.eKey) := by
  simp [age_aeadEncrypt, E.hNewBad k hk, bind, Except.bind, pure, Except.pure]

theorem aeadDecrypt_tie (E : WrapAeadEnv α P) (k ct : Bytes) (size : Nat) (hk : k.length = 32) :
    age_aeadDecrypt E.New E.over E.open_ k size ct = .ok (match aeadDecryptSized P k size ct with
      | .key fk => (fk, none)
      | .fatal => ([], age_errIncorrectCiphertextSize)
      | .incorrect => ([], some E.eAuth)) := by
  obtain ⟨a, hN, hO, hOp, _⟩ := E.hNew k hk
  unfold aeadDecryptSized
  by_cases hl : ct.length = size + P.aead.T
  · have h1 : ((Go.len ct) != ((size : Int) + 16)) = false := Go.len_bne_of_eq (n := size + 16) (by rw [hl, E.hT])
    simp only [age_aeadDecrypt, hN, hO, h1, makeZero12, hOp, bind, Except.bind, pure, Except.pure]
    simp only [hl, ne_eq, not_true_eq_false, if_false, Prims.wrapOpen]
    cases P.aead.openF k zeroNonce ct <;> simp [Go.nilOnErr]
  · have h1 : ((Go.len ct) != ((size : Int) + 16)) = true := Go.len_bne_of_ne (n := size + 16) (by rw [← E.hT]; exact hl)
    simp only [age_aeadDecrypt, hN, hO, h1, bind, Except.bind, pure, Except.pure]
    simp [hl]

theorem aeadDecrypt_badKey (E : WrapAeadEnv α P) (k ct : Bytes) (size : Int) (hk : k.length ≠ 32) :
    age_aeadDecrypt E.New E.over E.open_ k size ct = .ok ([], some E.eKey) := by
  simp [age_aeadDecrypt, E.hNewBad k hk, bind, Except.bind, pure, Except.pure]

theorem ssh_aeadEncrypt_tie (E : WrapAeadEnv α P) (k pt : Bytes) (hk : k.length = 32) :
    agessh_aeadEncrypt E.New E.seal_ k pt = .ok (P.wrapSeal k pt, none) := by
  obtain ⟨a, hN, _, _, hS⟩ := E.hNew k hk
  simp [agessh_aeadEncrypt, hN, makeZero12, hS, Prims.wrapSeal, bind, Except.bind, pure, Except.pure]

/-- `aeadDecrypt` of agessh has no length check: whatever opens under the zero nonce is returned (the
    callers check the length of the file key afterwards) -/
theorem ssh_aeadDecrypt_tie (E : WrapAeadEnv α P) (k ct : Bytes) (hk : k.length = 32) :
    agessh_aeadDecrypt E.New E.open_ k ct = .ok (match P.wrapOpen k ct with
      | some fk => (fk, none)
      | none => ([], some E.eAuth)) := by
  obtain ⟨a, hN, _, hOp, _⟩ := E.hNew k hk
  simp only [agessh_aeadDecrypt, hN, makeZero12, hOp, bind, Except.bind, pure, Except.pure, Prims.wrapOpen]
  cases P.aead.openF k zeroNonce ct <;> simp [Go.nilOnErr]

end GoTie
end AgeModel
