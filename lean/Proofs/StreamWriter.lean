/-
  Proofs.StreamWriter — what `flushChunk` and the loop of `Write` do in every case, for every destination
  behaviour: `flush_spec`, and `fill_spec` under the loop invariant `FillInv`.
-/
import Proofs.StreamSpec
import AgeModel.File
namespace AgeModel
namespace Stream

variable {S : DstSpec}

theorem Dst.write_ok {d d' : Dst S} {b : Bytes} (h : d.write b = (d', true)) : d'.acc = d.acc ++ b := by
  unfold Dst.write at h
  split at h
  · simp only [Prod.mk.injEq, and_true] at h; subst h; rfl
  · simp at h

theorem Dst.eq_of_acc_st {d e : Dst S} (ha : d.acc = e.acc) (hs : d.st = e.st) : d = e := by
  cases d; cases e; cases ha; cases hs; rfl

theorem Dst.write_acc_prefix (d : Dst S) (b : Bytes) : ∃ n, (d.write b).1.acc = d.acc ++ b.take n := by
  unfold Dst.write
  split
  · exact ⟨b.length, by simp⟩
  · rename_i n _; exact ⟨n, rfl⟩

def FlushPost (A : AEAD) (C L : Nat) (k : Bytes) (w : Writer S) (last : Bool) (res : Writer S × Option Outcome) : Prop :=
  match res.2 with
  | none =>
      res.1.buf = [] ∧ res.1.ctr = w.ctr + 1 ∧ res.1.err = w.err ∧ w.ctr + 1 < L ∧
      w.dst.write (A.sealF k (nonce w.ctr last) w.buf) = (res.1.dst, true)
  | some e =>
      (e = .panic 2 ∧ last = false ∧ w.buf.length ≠ C) ∨
      (e = .dstErr ∧ (w.dst.write (A.sealF k (nonce w.ctr last) w.buf)).2 = false) ∨
      (e = .panic 3 ∧ L ≤ w.ctr + 1)

theorem flush_spec (A : AEAD) (C L : Nat) (k : Bytes) (w : Writer S) (last : Bool) :
    FlushPost A C L k w last (w.flush A C L k last) := by
  unfold Writer.flush
  refine iteInduction (motive := FlushPost A C L k w last) (fun h => Or.inl ⟨rfl, by simpa using h⟩) fun _ => ?_
  cases hw : w.dst.write (A.sealF k (nonce w.ctr last) w.buf) with | mk d' ok =>
  refine iteInduction (motive := FlushPost A C L k w last) (fun h => Or.inr (Or.inr ⟨rfl, h⟩)) fun h => ?_
  cases ok
  · exact Or.inr (Or.inl ⟨rfl, by rw [hw]⟩)
  · exact ⟨rfl, rfl, rfl, by omega, hw⟩

def DstSpec.NeverFails (S : DstSpec) : Prop := ∀ s a l, (S.step s a l).2 = none

theorem DstSpec.perfect_neverFails : DstSpec.perfect.NeverFails := by
  intro s a l; rfl

theorem Dst.write_neverFails (hS : S.NeverFails) (d : Dst S) (b : Bytes) : (d.write b).2 = true := by
  unfold Dst.write
  have := hS d.st d.acc.length b
  split
  · rfl
  · rename_i s' n heq; rw [heq] at this; simp at this

/-- loop invariant of `Write`: `n` is the plaintext length once `p` is consumed, `tot q` what the destination would hold
    if `q` were written after `p`; neither changes during the loop -/
def FillInv (A : AEAD) (C : Nat) (k : Bytes) (w : Writer S) (p : Bytes) (n : Nat) (tot : Bytes → Bytes) : Prop :=
  w.buf.length ≤ C ∧ w.ctr * C + w.buf.length + p.length = n ∧
  ∀ q, w.dst.acc ++ enc A C k w.ctr (w.buf ++ (p ++ q)) = tot q

theorem FillInv.advance {A : AEAD} {C : Nat} {k : Bytes} {w : Writer S} {p : Bytes} {n : Nat} {tot : Bytes → Bytes}
    (h : FillInv A C k w p n tot) (m : Nat) (hm : m ≤ C - w.buf.length) (hmp : m ≤ p.length) :
    FillInv A C k { w with buf := w.buf ++ p.take m } (p.drop m) n tot := by
  obtain ⟨hb, hn, hq⟩ := h
  have hl : (w.buf ++ p.take m).length = w.buf.length + m := by
    rw [List.length_append, List.length_take, Nat.min_eq_left hmp]
  refine ⟨?_, ?_, fun q => ?_⟩
  · show (w.buf ++ p.take m).length ≤ C
    omega
  · show w.ctr * C + (w.buf ++ p.take m).length + (p.drop m).length = n
    rw [List.length_drop]
    omega
  · show w.dst.acc ++ enc A C k w.ctr (w.buf ++ p.take m ++ (p.drop m ++ q)) = tot q
    rw [← hq q, List.append_assoc, ← List.append_assoc (p.take m), List.take_append_drop]

theorem FillInv.flush {A : AEAD} {C : Nat} (hC : 0 < C) {k : Bytes} {w w' : Writer S} {p : Bytes} {n : Nat}
    {tot : Bytes → Bytes} (h : FillInv A C k w p n tot) (hfull : w.buf.length = C) (hp : p ≠ [])
    (hbuf : w'.buf = []) (hctr : w'.ctr = w.ctr + 1)
    (hacc : w'.dst.acc = w.dst.acc ++ A.sealF k (nonce w.ctr false) w.buf) : FillInv A C k w' p n tot := by
  obtain ⟨_, hn, hq⟩ := h
  refine ⟨by rw [hbuf]; exact Nat.zero_le C, by rw [hbuf, hctr, Nat.succ_mul, ← hn, hfull]; rfl, fun q => ?_⟩
  rw [← hq q, hacc, hbuf, hctr, List.nil_append, List.append_assoc,
    enc_cons_chunk A C hC k w.ctr w.buf (p ++ q) hfull fun hnil => hp (List.append_eq_nil_iff.mp hnil).1]

def FillPost (A : AEAD) (C L : Nat) (k : Bytes) (err0 : Option Outcome) (n : Nat) (tot : Bytes → Bytes)
    (res : Writer S × Option Outcome) : Prop :=
  match res.2 with
  | none => FillInv A C k res.1 [] n tot ∧ res.1.err = err0
  | some e => (e = .dstErr ∧ ¬ S.NeverFails) ∨ (e = .panic 3 ∧ (L - 1) * C ≤ n)

/-- The loop needs one round per consumed piece, one more when the buffer is already full on entry, and one to see
    the empty rest: the two fuel hypotheses. -/
theorem fill_spec (A : AEAD) (C L : Nat) (hC : 0 < C) (k : Bytes) (n : Nat) (tot : Bytes → Bytes) :
    ∀ (fuel : Nat) (w : Writer S) (p : Bytes), FillInv A C k w p n tot →
      p.length + 1 ≤ fuel → (w.buf.length = C → p.length ≠ 0 → p.length + 2 ≤ fuel) →
      FillPost A C L k w.err n tot (w.fill A C L k p fuel) := by
  intro fuel
  induction fuel with
  | zero => intro w p _ hf1; exact absurd hf1 (by omega)
  | succ fuel ih =>
    intro w p hinv hf1 hf2
    rw [Writer.fill]
    refine iteInduction (motive := FillPost A C L k w.err n tot) (fun hp => ?_) fun hp => ?_
    · cases List.eq_nil_of_length_eq_zero hp
      exact ⟨hinv, rfl⟩
    simp only
    generalize hm : min (C - w.buf.length) p.length = m
    have hb := hinv.1
    -- fuel for the next round: a full buffer on entry moves nothing (`m = 0`) but was granted an extra round
    have hstep : (p.drop m).length + 1 ≤ fuel := by
      rw [List.length_drop]
      omega
    have hinv1 := hinv.advance m (hm ▸ Nat.min_le_left _ _) (hm ▸ Nat.min_le_right _ _)
    refine iteInduction (motive := FillPost A C L k w.err n tot) (fun hc => ?_) fun hc => ?_
    · have hfl := flush_spec A C L k { w with buf := w.buf ++ p.take m } false
      generalize Writer.flush A C L k { w with buf := w.buf ++ p.take m } false = rf at hfl ⊢
      obtain ⟨w2, e⟩ := rf
      cases e with
      | some e =>
        rcases hfl with ⟨-, -, hne⟩ | ⟨he, hw⟩ | ⟨he, hL⟩
        · exact absurd hc.1 hne
        · exact Or.inl ⟨he, fun hS => by rw [Dst.write_neverFails hS] at hw; cases hw⟩
        · -- the counter limit: `L - 1 ≤ ctr` full chunks are already accounted for in `n`
          have hL' : L ≤ w.ctr + 1 := hL
          have h1 : (L - 1) * C ≤ w.ctr * C := Nat.mul_le_mul_right C (by omega)
          have hn1 : w.ctr * C + (w.buf ++ p.take m).length + (p.drop m).length = n := hinv1.2.1
          exact Or.inr ⟨he, by omega⟩
      | none =>
        obtain ⟨f1, f2, f3, -, f5⟩ := hfl
        have hp1 : p.drop m ≠ [] := fun h => by rw [h] at hc; exact absurd hc.2 (by decide)
        have := ih w2 (p.drop m) (hinv1.flush hC hc.1 hp1 f1 f2 (Dst.write_ok f5)) hstep
          fun h => by rw [f1] at h; exact absurd h (Nat.ne_of_lt hC)
        rwa [f3] at this
    · exact ih _ _ hinv1 hstep fun h1 h2 => absurd ⟨h1, Nat.pos_of_ne_zero h2⟩ hc

end Stream

/-! ### `writeAll`, the loop that writes a byte string piece by piece (the header; an armored line) -/

open Stream

theorem segmentBy_flatten : ∀ (ns : List Nat) (b : Bytes), (segmentBy ns b).flatten = b
  | _, [] => by simp [segmentBy]
  | [], c :: cs => by simp [segmentBy]
  | n :: ns, c :: cs => by
    unfold segmentBy
    split
    · exact segmentBy_flatten ns (c :: cs)
    · simp only [List.flatten_cons, segmentBy_flatten ns ((c :: cs).drop n), List.take_append_drop]
termination_by ns => ns.length

theorem writeAll_ok {S : DstSpec} : ∀ (ps : List Bytes) (d d' : Dst S),
    writeAll d ps = (d', true) → d'.acc = d.acc ++ ps.flatten
  | [], d, d', h => by simp [writeAll] at h; subst h; simp
  | p :: ps, d, d', h => by
    unfold writeAll at h
    generalize hw : d.write p = r at h
    obtain ⟨d1, ok⟩ := r
    cases ok with
    | true =>
      simp only at h
      rw [writeAll_ok ps d1 d' h, Dst.write_ok hw]; simp
    | false => cases h

theorem writeAll_neverFails {S : DstSpec} (hS : S.NeverFails) : ∀ (ps : List Bytes) (d : Dst S),
    (writeAll d ps).2 = true
  | [], d => rfl
  | p :: ps, d => by
    unfold writeAll
    have := Dst.write_neverFails hS d p
    generalize hw : d.write p = r at this
    obtain ⟨d1, ok⟩ := r
    simp only at this; subst this
    simp only
    exact writeAll_neverFails hS ps d1

/-- whatever happens, what the destination holds after `writeAll` extends what it held
    by a prefix of the data -/
theorem writeAll_prefix {S : DstSpec} : ∀ (ps : List Bytes) (d : Dst S),
    ∃ n, (writeAll d ps).1.acc = d.acc ++ ps.flatten.take n
  | [], d => ⟨0, by simp [writeAll]⟩
  | p :: ps, d => by
    unfold writeAll
    generalize hw : d.write p = r
    obtain ⟨d1, ok⟩ := r
    cases ok with
    | true =>
      simp only
      obtain ⟨n, hn⟩ := writeAll_prefix ps d1
      refine ⟨p.length + n, ?_⟩
      have ht : (p ++ ps.flatten).take (p.length + n) = p ++ ps.flatten.take n := by
        rw [List.take_append, List.take_of_length_le (Nat.le_add_right _ _), Nat.add_sub_cancel_left]
      rw [hn, Dst.write_ok hw, List.flatten_cons, ht, List.append_assoc]
    | false =>
      simp only
      obtain ⟨n, hn⟩ := Dst.write_acc_prefix d p
      rw [hw] at hn
      refine ⟨min n p.length, ?_⟩
      rw [hn, List.flatten_cons, List.take_append_of_le_length (Nat.min_le_right _ _), ← List.take_eq_take_min]

end AgeModel
