/-
  Proofs.GoTieCtors — the plugin client constructors, as they stand in the source, translated on
  every run: `plugin.NewRecipient`, `NewIdentity`, `NewIdentityWithoutData`, `(*Identity).Recipient`
  (every construction of a plugin client goes through `ParseRecipient` / `ParseIdentity` /
  `EncodeIdentity`, i.e. through the name check, and keeps the string it was given as the encoding).
-/
import AgeModel.GoSem
import AgeModel.Keys
import AgeModel.Format
import AgeModel.Recipients
import AgeModel.Extracted.Funcs
import Proofs.GoTiePluginCodec
namespace AgeModel
namespace GoTie
open Extracted

theorem newRecipient_tie {υ : Type} (nilυ ui : υ) (s : Bytes) :
    plugin_NewRecipient nilυ s ui = .ok (match Keys.newRecipient s with
      | .ok c => (⟨c.name, c.encoding, ui, false⟩, none)
      | .error e => (⟨[], [], nilυ, false⟩, parseRcErr e)) := by
  unfold plugin_NewRecipient Keys.newRecipient
  simp only [parseRecipient_tie, bind, Except.bind, pure, Except.pure]
  cases h : Keys.parseRecipient s with
  | error e => simp only [parseRcErr_ne e, if_true]
  | ok p => obtain ⟨n, d⟩ := p; rfl

theorem newIdentity_tie {υ : Type} (nilυ ui : υ) (s : Bytes) :
    plugin_NewIdentity nilυ s ui = .ok (match Keys.newIdentity s with
      | .ok c => (⟨c.name, c.encoding, ui⟩, none)
      | .error e => (⟨[], [], nilυ⟩, parseIdErr e)) := by
  unfold plugin_NewIdentity Keys.newIdentity
  simp only [parseIdentity_tie, bind, Except.bind, pure, Except.pure]
  cases h : Keys.parseIdentity s with
  | error e => simp only [parseIdErr_ne e, if_true]
  | ok p => obtain ⟨n, d⟩ := p; rfl

theorem newIdentityWithoutData_tie {υ : Type} (nilυ ui : υ) (name : Bytes) :
    plugin_NewIdentityWithoutData nilυ name ui = .ok (match Keys.newIdentityWithoutData name with
      | .ok c => (⟨c.name, c.encoding, ui⟩, none)
      | .error _ => (⟨[], [], nilυ⟩, some ⟨"plugin.NewIdentityWithoutData", 0, []⟩)) := by
  unfold plugin_NewIdentityWithoutData Keys.newIdentityWithoutData
  simp only [encodeIdentity_tie, bind, Except.bind, pure, Except.pure]
  by_cases h : Keys.encodeIdentity name [] = []
  · simp [h]
  · have hb : (Keys.encodeIdentity name [] == ([] : List UInt8)) = false := by simpa using h
    simp only [hb, Bool.false_eq_true, if_false, h]

theorem identityRecipient_client_tie {υ : Type} (n e : Bytes) (ui : υ) :
    plugin_Identity_Recipient ⟨n, e, ui⟩ = .ok ⟨n, e, ui, true⟩ := rfl

end GoTie
end AgeModel
