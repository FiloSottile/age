/-
  Proofs.Bech32Syndrome — the checksum as a linear code.

  `L` is linear and on 30-bit states its kernel is trivial (`L_eq_zero`); the fold
  of `polymodStep` from state `s` over a string `e` is `Lpow |e| s ^^^ synSum e`, where `synSum e` is the XOR
  over the non-zero positions of `e` of `Lpow (distance from the end) symbol`.
  So a substitution pattern `e` goes undetected iff `synSum e = 0`; `terms e`
  lists the summands.  That no non-zero pattern of weight ≤ 4 and length ≤ 58 has
  `synSum e = 0` is assembled in Proofs/Bech32Distance.lean.
-/
import Proofs.Bech32Poly
namespace AgeModel
namespace Bech32

theorem xor_eq_zero {a b : Nat} (h : a ^^^ b = 0) : a = b :=
  (((xor_eq_iff a b 0).mp h).trans (Nat.xor_zero a)).symm

theorem shift_ne_xor_ge {a b : Nat} (h : a >>> 5 ≠ b >>> 5) : 32 ≤ a ^^^ b := by
  apply Nat.le_of_not_lt
  intro hlt
  apply h
  apply xor_eq_zero
  rw [← Nat.shiftRight_xor_distrib, Nat.shiftRight_eq_div_pow]
  exact Nat.div_eq_of_lt hlt

/-! ## the kernel of `L` on 30-bit states is trivial -/

theorem G_low_eq_zero : ∀ a : Fin 32, G a.val % 32 = 0 → a.val = 0 := by decide +kernel

theorem L_low (s : Nat) : L s % 32 = G (s >>> 25) % 32 := by
  have e : (32 : Nat) = 2 ^ 5 := by decide
  rw [L, e, Nat.xor_mod_two_pow, Nat.shiftLeft_eq, Nat.mul_mod_left, Nat.zero_xor]

theorem L_eq_zero {s : Nat} (hs : s < 2 ^ 30) (h : L s = 0) : s = 0 := by
  have htop : s >>> 25 = 0 := G_low_eq_zero ⟨s >>> 25, top_lt hs⟩ (by rw [← L_low, h])
  have hG : G 0 = 0 := by decide
  have e : (0x1ffffff : Nat) = 2 ^ 25 - 1 := by decide
  rw [L, htop, hG, Nat.xor_zero, Nat.shiftLeft_eq, e, Nat.and_two_pow_sub_one_eq_mod] at h
  rw [Nat.shiftRight_eq_div_pow] at htop
  omega

def Lpow : Nat → Nat → Nat
  | 0, x => x
  | k + 1, x => L (Lpow k x)

theorem Lpow_lt : ∀ (k : Nat) {x : Nat}, x < 2 ^ 30 → Lpow k x < 2 ^ 30
  | 0, _, h => h
  | _ + 1, _, _ => L_lt _

theorem lt30_of_lt32 {x : Nat} (h : x < 32) : x < 2 ^ 30 := Nat.lt_trans h (by decide)

theorem Lpow_zero : ∀ k, Lpow k 0 = 0
  | 0 => rfl
  | k + 1 => by rw [Lpow, Lpow_zero k, L_zero]

theorem Lpow_xor : ∀ (k a b : Nat), Lpow k (a ^^^ b) = Lpow k a ^^^ Lpow k b
  | 0, _, _ => rfl
  | k + 1, a, b => by rw [Lpow, Lpow, Lpow, Lpow_xor k, L_xor]

theorem Lpow_add : ∀ (j k x : Nat), Lpow (j + k) x = Lpow j (Lpow k x)
  | 0, k, x => by rw [Nat.zero_add]; rfl
  | j + 1, k, x => by
    rw [Nat.add_right_comm, Lpow, Lpow_add j k x]; rfl

theorem Lpow_succ' (k x : Nat) : Lpow (k + 1) x = Lpow k (L x) := Lpow_add k 1 x

theorem Lpow_split {a d : Nat} (h : d ≤ a) (x : Nat) : Lpow a x = Lpow d (Lpow (a - d) x) := by
  rw [← Lpow_add]; congr 1; omega

theorem Lpow_eq_zero : ∀ (k : Nat) {s : Nat}, s < 2 ^ 30 → Lpow k s = 0 → s = 0
  | 0, _, _, h => h
  | k + 1, _, hs, h => Lpow_eq_zero k hs (L_eq_zero (Lpow_lt k hs) h)

def synSum : Bytes → Nat
  | [] => 0
  | v :: rest => Lpow rest.length v.toNat ^^^ synSum rest

theorem synSum_lt : ∀ e : Bytes, synSum e < 2 ^ 30
  | [] => by decide
  | v :: rest => Nat.xor_lt_two_pow (Lpow_lt _ (Nat.lt_trans v.toNat_lt (by decide))) (synSum_lt rest)

theorem foldl_eq_synSum : ∀ (e : Bytes) (s : Nat), e.foldl polymodStep s = Lpow e.length s ^^^ synSum e
  | [], s => (Nat.xor_zero s).symm
  | v :: rest, s => by
    rw [List.foldl_cons, foldl_eq_synSum rest, polymodStep_eq, Lpow_xor, List.length_cons, Lpow_succ', synSum,
      Nat.xor_assoc]

/-- the non-zero positions of a pattern: (distance from the end, symbol), nearest to the start first -/
def terms : Bytes → List (Nat × Nat)
  | [] => []
  | v :: rest => if v = 0 then terms rest else (rest.length, v.toNat) :: terms rest

def termSum : List (Nat × Nat) → Nat
  | [] => 0
  | (k, x) :: ts => Lpow k x ^^^ termSum ts

theorem synSum_eq_termSum : ∀ e : Bytes, synSum e = termSum (terms e)
  | [] => rfl
  | v :: rest => by
    by_cases hv : v = 0
    · subst hv
      simp only [synSum, terms, if_true]
      rw [show (0 : UInt8).toNat = 0 from rfl, Lpow_zero, Nat.zero_xor, synSum_eq_termSum rest]
    · simp only [synSum, terms, hv, if_false, termSum, synSum_eq_termSum rest]

/-- exponents strictly decrease and stay below `n`; symbols are in 1..31 -/
def TermsOK : Nat → List (Nat × Nat) → Prop
  | _, [] => True
  | n, (k, x) :: ts => k < n ∧ 1 ≤ x ∧ x < 32 ∧ TermsOK k ts

theorem TermsOK_mono : ∀ {n m : Nat} (ts : List (Nat × Nat)), n ≤ m → TermsOK n ts → TermsOK m ts
  | _, _, [], _, _ => trivial
  | _, _, (_, _) :: _, hnm, ⟨h1, h2, h3, h4⟩ => ⟨Nat.lt_of_lt_of_le h1 hnm, h2, h3, h4⟩

theorem terms_ok : ∀ (e : Bytes), (∀ v ∈ e, v.toNat < 32) → TermsOK e.length (terms e)
  | [], _ => trivial
  | v :: rest, h => by
    have ih := terms_ok rest (fun x hx => h x (by simp [hx]))
    by_cases hv : v = 0
    · simp only [terms, hv, if_true, List.length_cons]
      exact TermsOK_mono _ (Nat.le_succ _) ih
    · simp only [terms, hv, if_false, List.length_cons]
      refine ⟨Nat.lt_succ_self _, ?_, h v (by simp), ih⟩
      have : v.toNat ≠ 0 := fun h0 => hv (UInt8.toNat_inj.mp h0)
      omega

def weight (e : Bytes) : Nat := e.countP (· != 0)

def NoLowWeight (W : Nat) : Prop :=
  ∀ e : Bytes, e.length ≤ 58 → (∀ v ∈ e, v.toNat < 32) → weight e ≤ W → (∃ v ∈ e, v ≠ 0) → synSum e ≠ 0

theorem terms_length : ∀ e : Bytes, (terms e).length = weight e
  | [] => rfl
  | v :: rest => by
    have ih := terms_length rest
    simp only [weight] at ih
    by_cases hv : v = 0
    · subst hv
      simp only [terms, if_true, weight, List.countP_cons, ih]
      rfl
    · have hb : (v != 0) = true := by simp [hv]
      simp only [terms, hv, if_false, weight, List.countP_cons, List.length_cons, ih, hb, if_true]

end Bech32
end AgeModel
