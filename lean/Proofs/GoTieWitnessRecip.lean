/-
  Proofs.GoTieWitnessRecip — instances of the assumption structures of the recipient and identity
  ties (ChaCha20-Poly1305 wrapper, scrypt, X25519, ssh-ed25519, ssh-rsa), for the toy primitive suite
  with the 16-byte tag.
-/
import Proofs.ToyPrims
import Proofs.GoTieAead
import Proofs.GoTieScrypt
import Proofs.GoTieNative
import Proofs.GoTieSsh
import Proofs.GoTieSshRsa
namespace AgeModel

namespace GoTie
set_option linter.ambiguousOpen false
open Extracted Stream

def WrapAeadEnv.witness : WrapAeadEnv Bytes Prims.toy16 := WrapAeadEnv.canonical Prims.toy16 rfl

theorem toNat_two_pow (n : Nat) : ((2 : Int) ^ n).toNat = 2 ^ n := by
  have : ((2 : Int) ^ n) = ((2 ^ n : Nat) : Int) := by simp
  rw [this, Int.toNat_natCast]

/-- `scrypt.Key` recovers the work factor from `N = 2^logN`; `aeadDecrypt` is the model's sized decryption -/
def ScryptEnv.witness : ScryptEnv Prims.toy16 where
  D a := .ok (match Format.decodeString a with
              | some b => (b, none)
              | none => ([], some ⟨"format.DecodeString", 0, []⟩))
  K pw salt N _ _ _ := .ok (Prims.toy16.scrypt pw salt (Nat.log2 N.toNat), none)
  A k size body := .ok (match aeadDecryptSized Prims.toy16 k size.toNat body with
                        | .key fk => (fk, none)
                        | .fatal => ([], age_errIncorrectCiphertextSize)
                        | .incorrect => ([], some ⟨"chacha20poly1305: message authentication failed", 0, []⟩))
  eD := ⟨"format.DecodeString", 0, []⟩
  eA := ⟨"chacha20poly1305: message authentication failed", 0, []⟩
  hD _ := rfl
  hK pw salt logN := by rw [toNat_two_pow, Nat.log2_two_pow]
  hA _ _ := rfl
  hne := by decide

/-- the HKDF reader is the 32 bytes it will deliver -/
def NativeEnv.witness : NativeEnv Prims.toy16 Bytes where
  toScryptEnv := ScryptEnv.witness
  X a b := .ok (match Prims.toy16.x25519 a b with
                | some c => (c, none)
                | none => ([], some ⟨"curve25519.X25519", 0, []⟩))
  eX := ⟨"curve25519.X25519", 0, []⟩
  hX _ _ := rfl
  Enc b := .ok (B64.encRaw b)
  hEnc _ := rfl
  H s salt info := .ok (Prims.toy16.hkdf s salt info 32)
  R k _ := .ok (k, none, k)
  hHR s salt info := ⟨_, _, rfl, rfl⟩
  hLen s salt info := by simp [Prims.toy16, Prims.toy]
  Seal k pt := .ok (Prims.toy16.wrapSeal k pt, none)
  hSeal _ _ := rfl
  eRand := ⟨"crypto/rand", 0, []⟩

/-- an SSH public key is its wire form -/
def SshEnv.witness : SshEnv Prims.toy16 Bytes Bytes where
  toNativeEnv := NativeEnv.witness
  wire := id
  Mar k := .ok k
  hMar _ := rfl
  Fp k := .ok (sshTag Prims.toy16 k)
  hFp _ := rfl
  OpenS k ct := .ok (match Prims.toy16.wrapOpen k ct with
                     | some fk => (fk, none)
                     | none => ([], some ⟨"chacha20poly1305: message authentication failed", 0, []⟩))
  eO := ⟨"chacha20poly1305: message authentication failed", 0, []⟩
  hOpen _ _ := rfl

/-- RSA keys are their byte forms -/
def RsaEnv.witness : RsaEnv Prims.toy16 Bytes Bytes Bytes where
  wire := id
  Fp k := .ok (sshTag Prims.toy16 k)
  hFp _ := rfl
  pubOf := id
  privOf := id
  eRand := ⟨"crypto/rand", 0, []⟩
  eEnc := ⟨"rsa.EncryptOAEP", 0, []⟩
  eDec := ⟨"rsa.DecryptOAEP", 0, []⟩
  EncO tape k m l := .ok (match draw 32 tape with
    | none => ([], some ⟨"crypto/rand", 0, []⟩, tape)
    | some (seed, t) => match Prims.toy16.oaepEnc k seed m l with
      | some c => (c, none, t)
      | none => ([], some ⟨"rsa.EncryptOAEP", 0, []⟩, t))
  hEncO _ _ _ _ := rfl
  DecO k c l := .ok (match Prims.toy16.oaepDec k c l with
    | some m => (m, none)
    | none => ([], some ⟨"rsa.DecryptOAEP", 0, []⟩))
  hDecO _ _ _ := rfl

end GoTie
end AgeModel
