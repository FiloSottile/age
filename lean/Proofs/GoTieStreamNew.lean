/-
  Proofs.GoTieStreamNew — `stream.NewReader` and `stream.NewWriter`, translated on every run
  (`chacha20poly1305.New` is a parameter): with a key the AEAD accepts they build exactly the initial
  states from which `reader_read_tie` / `writer_write_tie` start (empty windows at the start of a
  zeroed buffer, counter 0, no error), related to the model's `Reader.new` / `Writer.new`; with a
  key it refuses they return its error and no usable value.
-/
import Proofs.GoTieStreamR
import Proofs.GoTieStreamW
namespace AgeModel
namespace GoTie
open Extracted Stream

theorem newReader_tie {α : Type} (New : Bytes → Go.M (α × Option Go.Err)) (nilα a : α) (key : Bytes)
    (hNew : New key = .ok (a, none)) (src : Go.Src) :
    stream_NewReader New nilα key src =
      .ok (⟨a, src, 0, 0, List.replicate 65552 0, none, List.replicate 12 0⟩, none) := by
  simp only [stream_NewReader, hNew, Go.bind_ok, pure, Except.pure]
  rfl

theorem newReader_refused {α : Type} (New : Bytes → Go.M (α × Option Go.Err)) (nilα a : α) (key : Bytes) (e : Go.Err)
    (hNew : New key = .ok (a, some e)) (src : Go.Src) :
    ∃ r, stream_NewReader New nilα key src = .ok (r, some e) := by
  simp only [stream_NewReader, hNew, Go.bind_ok, pure, Except.pure]
  exact ⟨_, rfl⟩

theorem newReader_rel {α : Type} (New : Bytes → Go.M (α × Option Go.Err)) (nilα a : α) (key : Bytes)
    (hNew : New key = .ok (a, none)) (data : Bytes) (fail : Bool) :
    ∃ g, stream_NewReader New nilα key ⟨data, fail⟩ = .ok (g, none) ∧ RRel g (Reader.new ⟨data, fail⟩) :=
  ⟨_, newReader_tie New nilα a key hNew ⟨data, fail⟩, reader_new_rel a data fail⟩

theorem newWriter_tie {α δ : Type} (New : Bytes → Go.M (α × Option Go.Err)) (nilα a : α) (nilδ : δ) (key : Bytes)
    (hNew : New key = .ok (a, none)) (dst : δ) :
    stream_NewWriter New nilα nilδ key dst =
      .ok (⟨a, dst, 0, 0, List.replicate 65552 0, List.replicate 12 0, none⟩, none) := by
  simp only [stream_NewWriter, hNew, Go.bind_ok, pure, Except.pure]
  rfl

theorem newWriter_refused {α δ : Type} (New : Bytes → Go.M (α × Option Go.Err)) (nilα a : α) (nilδ : δ) (key : Bytes) (e : Go.Err)
    (hNew : New key = .ok (a, some e)) (dst : δ) :
    ∃ w, stream_NewWriter New nilα nilδ key dst = .ok (w, some e) := by
  simp only [stream_NewWriter, hNew, Go.bind_ok, pure, Except.pure]
  exact ⟨_, rfl⟩

theorem newWriter_rel {α δ : Type} {S : DstSpec} (D : DstEnv δ S) (a : α) (dst : δ) :
    WRel D (⟨a, dst, 0, 0, List.replicate 65552 0, List.replicate 12 0, none⟩ : stream_Writer α δ) (Writer.new (D.absD dst)) := by
  refine ⟨List.length_replicate, rfl, ⟨Int.le_refl 0, (by decide : (0 : Int) ≤ 65536)⟩, ?_, rfl, ?_, fun _ => ?_⟩
  · show ([] : Bytes) = (List.replicate 65552 (0 : UInt8)).take (0 : Int).toNat
    rw [Int.toNat_zero, List.take_zero]
  · simp [wrErrRel, Writer.new]
  · exact nonce_zero.symm

end GoTie
end AgeModel
