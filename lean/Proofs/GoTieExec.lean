/-
  Proofs.GoTieExec — which program the plugin client starts, as it stands in the source.

  The first part of `openClientConnection` (plugin/client.go) — the formation of the program name,
  the path-separator test and the `exec.Command` call — is TRANSLATED on every run (`funcSpec.stopAt`:
  the pipes, the environment and `cmd.Start` are outside the fragment). `testOnlyPluginPath` is
  declared without a value and assigned only in test files: it is "". `exec.Command`
  (`golang.org/x/sys/execabs`) is a parameter. `exec_tie`: for a name containing '/' the error is
  returned; otherwise THE command is `age-plugin-NAME --age-plugin=PROTOCOL` — the model's
  `openClientCommand` / `execPath`. `exec_refuses_separator`: for a name containing '/' no command
  is built at all (the constructor may fault when called).
-/
import AgeModel.GoSem
import AgeModel.Keys
import AgeModel.Extracted.Funcs
import Proofs.GoTiePlugName
namespace AgeModel
namespace GoTie
open Extracted Keys

theorem exec_tie {κ χ : Type} (J : List Bytes → Go.M Bytes) (nilχ : χ) (Cmd : Bytes → List Bytes → Go.M χ)
    (SP : χ → Go.M (κ × Option Go.Err)) (name proto : Bytes) :
    plugin_openClientConnection J nilχ Cmd SP name proto =
      match openClientCommand ⟨name, []⟩ with
      | .error _ => .ok (nilχ, some ⟨"plugin.openClientConnection", 0, []⟩)
      | .ok path => (do
          let cmd ← Cmd path [([45, 45, 97, 103, 101, 45, 112, 108, 117, 103, 105, 110, 61] : Bytes) ++ proto]
          let t ← SP cmd
          pure (cmd, t.2)) := by
  have hc : Go.strings_ContainsRune name (47 : Int) = name.contains (0x2f : UInt8) :=
    containsRune_ascii name 0x2f (by decide)
  unfold plugin_openClientConnection openClientCommand execPath pfxExec
  have ht : (plugin_testOnlyPluginPath != ([] : List UInt8)) = false := rfl
  simp only [ht, hc, Bool.false_eq_true, if_false]
  cases name.contains (0x2f : UInt8) <;> rfl

/-- a name with a path separator starts nothing -/
theorem exec_refuses_separator {κ χ : Type} (J : List Bytes → Go.M Bytes) (nilχ : χ)
    (SP : χ → Go.M (κ × Option Go.Err)) (name proto : Bytes) (h : name.contains (0x2f : UInt8) = true) :
    plugin_openClientConnection J nilχ (fun _ _ => .error (.panic 99)) SP name proto =
      .ok (nilχ, some ⟨"plugin.openClientConnection", 0, []⟩) := by
  rw [exec_tie]
  unfold openClientCommand
  simp only [h, if_true]

end GoTie
end AgeModel
