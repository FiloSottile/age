/-
  Proofs.GoTieStreamRT — the STREAM round trip stated about the two translated ends.

  `streamWrites` pushes a sequence of writes through the TRANSLATED `(*stream.Writer).Write`;
  `streamReads` calls the TRANSLATED `(*stream.Reader).Read` with buffers of the given sizes and
  collects what each call copied, until the first reported error. `code_stream_roundtrip`: whatever
  sequence of writes goes through the translated writer (then `Close`) into an empty destination
  that takes every write, the translated reader over the destination's bytes returns exactly the
  concatenated input and then io.EOF — for every input, every split into writes, and every sequence
  of positive `Read` sizes long enough to reach the end. Behind its reading half is `streamReads_decrypt`:
  over ANY payload the translated reader yields what `decrypt` yields. The proof composes the two
  simulations with the model's writer invariant, `reader_refines_spec` and `stream_roundtrip`.
-/
import Proofs.GoTieStreamR
import Proofs.GoTieStreamW
import Props.C01
import Props.C12
import Props.C02
import Proofs.GoTieStreamNew
namespace AgeModel
namespace GoTie
set_option linter.ambiguousOpen false
open Extracted Stream

def streamWrites {α δ : Type} {A : AEAD} {k : Bytes} {S : DstSpec} (E : AeadEnv α A k) (D : DstEnv δ S) :
    stream_Writer α δ → List Bytes → Go.M (Option Go.Err × stream_Writer α δ)
  | w, [] => .ok (none, w)
  | w, p :: ps => do
    let r ← stream_Writer_Write E.seal_ D.write w p
    if r.2.1 != none then pure (r.2.1, r.2.2) else streamWrites E D r.2.2 ps

def streamReads {α : Type} {A : AEAD} {k : Bytes} (E : AeadEnv α A k) :
    stream_Reader α → List Nat → Go.M (stream_Reader α × Bytes × Option Go.Err)
  | g, [] => .ok (g, [], none)
  | g, n :: ns => do
    let res ← stream_Reader_Read E.over E.open_ g (List.replicate n 0)
    match res.2.1 with
    | some e => pure (res.2.2.1, res.2.2.2.take res.1.toNat, some e)
    | none => do
      let t ← streamReads E res.2.2.1 ns
      pure (t.1, res.2.2.2.take res.1.toNat ++ t.2.1, t.2.2)

theorem probe_mono (r : Reader) : r.probe.ctr + r.probe.src.data.length ≤ r.ctr + r.src.data.length := by
  unfold Reader.probe
  split
  · rename_i b rest h; rw [h]; simp only [List.length_cons]; omega
  · rename_i h; rw [h]; exact Nat.le_refl _

/-- a chunk counted is a chunk taken from the source -/
theorem read_bounded (A : AEAD) (C L L' : Nat) (hE : 0 < C + A.T) (k : Bytes) (r : Reader) (n : Nat)
    (hb : r.Bounded L') : (r.read A C L k n).1.Bounded L' := by
  unfold Reader.read
  split
  · exact hb
  · rename_i hpos
    split
    · exact hb
    · split
      · exact hb
      · have hu : r.unread = [] := List.eq_nil_of_length_eq_zero (by omega)
        unfold Reader.Bounded at hb
        generalize hres : r.readChunk A C L k = rc
        apply readChunk_cases A C L k r hu _ _ hres
        · intro e _
          show r.ctr + (r.src.data.drop (C + A.T)).length < L'
          rw [List.length_drop]; omega
        · intro out last h
          have h1 : r.ctr + 1 + (r.src.data.drop (C + A.T)).length < L' := by
            have := (h hE).2.1
            rw [List.length_drop]; omega
          cases last with
          | false => exact h1
          | true => exact Nat.lt_of_le_of_lt (probe_mono _) h1
theorem streamReads_tie {α : Type} (A : AEAD) (k : Bytes) (E : AeadEnv α A k) : ∀ (sizes : List Nat)
    (g : stream_Reader α) (m : Stream.Reader), RRel g m → m.Bounded (2 ^ 88 - 1) →
    ∃ g' ge, streamReads E g sizes = .ok (g', (m.drain A 65536 (2 ^ 88) k sizes).2.1, ge) ∧
      rdErrRel ge (m.drain A 65536 (2 ^ 88) k sizes).2.2 ∧ RRel g' (m.drain A 65536 (2 ^ 88) k sizes).1
  | [], g, m, h, _ => ⟨g, none, rfl, rfl, h⟩
  | n :: ns, g, m, h, hb => by
    have hctr : m.ctr + 1 < 2 ^ 88 := by unfold Reader.Bounded at hb; omega
    obtain ⟨res, hres, h1, h3, h4, h2⟩ := reader_read_tie A k E g m h hctr (List.replicate n 0)
    have hb' := read_bounded A 65536 (2 ^ 88) (2 ^ 88 - 1) (by omega) k m n hb
    simp only [List.length_replicate] at h1 h2 h3 h4
    have htake : res.2.2.2.take res.1.toNat = (m.read A 65536 (2 ^ 88) k n).2.1 := by
      rw [h1, h2]; simp
    generalize hm : m.read A 65536 (2 ^ 88) k n = mr at h1 h2 h3 h4 htake hb'
    obtain ⟨r1, out, e⟩ := mr
    cases e with
    | some e =>
      have hne := rdErrRel_ne _ e h3
      cases hge : res.2.1 with
      | none => rw [hge] at hne; exact absurd hne (by decide)
      | some ge =>
        refine ⟨res.2.2.1, some ge, ?_, ?_, ?_⟩
        · simp only [streamReads, hres, Go.bind_ok, hge, pure, Except.pure, Reader.drain, hm, htake]
        · simp only [Reader.drain, hm]; rw [← hge]; exact h3
        · simp only [Reader.drain, hm]; exact h4
    | none =>
      have hge : res.2.1 = none := h3
      obtain ⟨g', ge, hd, he, hr⟩ := streamReads_tie A k E ns res.2.2.1 r1 h4 hb'
      refine ⟨g', ge, ?_, ?_, ?_⟩
      · simp only [streamReads, hres, Go.bind_ok, hge, pure, Except.pure, Reader.drain, hm, htake, hd]
      · simp only [Reader.drain, hm]; exact he
      · simp only [Reader.drain, hm]; exact hr

theorem streamWrites_tie {α δ : Type} {S : DstSpec} (hS : S.NeverFails) (A : AEAD) (k : Bytes) (E : AeadEnv α A k)
    (D : DstEnv δ S) (acc0 : Bytes) : ∀ (ps : List Bytes) (w : stream_Writer α δ) (m : Writer S) (pt : Bytes),
    WRel D w m → WInv A 65536 k acc0 m pt → pt.length + ps.flatten.length < 2 ^ 64 →
    ∃ w1 m1, streamWrites E D w ps = .ok (none, w1) ∧ WRel D w1 m1 ∧ WInv A 65536 k acc0 m1 (pt ++ ps.flatten)
  | [], w, m, pt, h, hinv, _ => ⟨w, m, rfl, h, by simpa using hinv⟩
  | p :: ps, w, m, pt, h, hinv, hlen => by
    simp only [List.flatten_cons, List.length_append] at hlen
    have hc : m.ctr * 65536 + m.buf.length = pt.length := hinv.2.2.1
    obtain ⟨res, hres, h1, h2, h3⟩ := writer_write_tie A k E D w m h p (by omega)
    generalize hm : m.write A 65536 (2 ^ 88) k p = mw at h1 h2 h3
    obtain ⟨m1, n, e⟩ := mw
    cases e with
    | some e =>
      exfalso
      have hs := write_spec A 65536 (2 ^ 88) (by decide) k acc0 m pt p hinv
      rw [hm] at hs
      cases hs.2.2 with
      | inl hd => exact hd.2 hS
      | inr hp => omega
    | none =>
      obtain ⟨hinv1, _⟩ := write_ok A 65536 (2 ^ 88) (by decide) k acc0 m m1 pt p n hinv hm
      have hge : res.2.1 = none := h2
      obtain ⟨w1, m2, hw, hr, hi⟩ := streamWrites_tie hS A k E D acc0 ps res.2.2 m1 (pt ++ p) h3 hinv1
        (by rw [List.length_append]; omega)
      refine ⟨w1, m2, ?_, hr, by simpa using hi⟩
      simp only [streamWrites, hres, Go.bind_ok, hge, bne_self_eq_false, Bool.false_eq_true, if_false, hw]

theorem streamClose_tie {α δ : Type} {S : DstSpec} (hS : S.NeverFails) (A : AEAD) (k : Bytes) (E : AeadEnv α A k)
    (D : DstEnv δ S) (acc0 : Bytes) (w : stream_Writer α δ) (m : Writer S) (pt : Bytes)
    (h : WRel D w m) (hinv : WInv A 65536 k acc0 m pt) (hlen : pt.length < 2 ^ 64) :
    ∃ w2, stream_Writer_Close E.seal_ D.write w = .ok (none, w2) ∧
      (D.absD w2.dst).acc = acc0 ++ encrypt A 65536 k pt := by
  have hc : m.ctr * 65536 + m.buf.length = pt.length := hinv.2.2.1
  obtain ⟨res, hres, h1, _, h2, _⟩ := writer_close_tie A k E D w m h (by omega)
  generalize hm : m.close A 65536 (2 ^ 88) k = mc at h1 h2
  obtain ⟨m1, e⟩ := mc
  cases e with
  | some e =>
    exfalso
    have hs := close_spec A 65536 (2 ^ 88) k acc0 m pt hinv
    rw [hm] at hs
    cases hs.2 with
    | inl hd => exact hd.2 hS
    | inr hp => omega
  | none =>
    have hge : res.1 = none := h1
    have hd := h2 rfl
    obtain ⟨r1, w2⟩ := res
    simp only at hge hd
    subst hge
    refine ⟨w2, hres, ?_⟩
    rw [hd]
    exact (close_ok A 65536 (2 ^ 88) k acc0 m m1 pt hinv hm).1

theorem enc_length_le (A : AEAD) (k : Bytes) (hSeal : ∀ n p, (A.sealF k n p).length = p.length + 16) :
    ∀ (f : Nat) (i : Nat) (p : Bytes), p.length ≤ f →
      (enc A 65536 k i p).length ≤ p.length + (p.length / 65536 + 1) * 16 := by
  intro f
  induction f with
  | zero =>
    intro i p h
    rw [enc_short A 65536 k i p (by omega), hSeal]; omega
  | succ f ih =>
    intro i p h
    by_cases hs : p.length ≤ 65536
    · rw [enc_short A 65536 k i p hs, hSeal]; omega
    · rw [enc_long A 65536 (by decide) k i p (by omega), List.length_append, hSeal]
      have hd : (p.drop 65536).length = p.length - 65536 := List.length_drop
      have ht : (p.take 65536).length = 65536 := by rw [List.length_take]; omega
      have := ih (i + 1) (p.drop 65536) (by omega)
      rw [hd] at this
      omega

/-- the translated reader run to the end over ANY payload `c` — positive buffer sizes, enough of them — has released
    exactly the plaintext `decrypt` releases and reports the error of `decrypt`'s outcome -/
theorem streamReads_decrypt {α : Type} (A : AEAD) (k : Bytes) (E : AeadEnv α A k) (a : α) (c : Bytes)
    (hc : c.length < 2 ^ 88 - 1) (sizes : List Nat) (hpos : ∀ s ∈ sizes, 0 < s)
    (hlong : (decrypt A 65536 k c).1.length + c.length + 1 < sizes.length) :
    ∃ g' ge, streamReads E ⟨a, ⟨c, false⟩, 0, 0, List.replicate 65552 0, none, List.replicate 12 0⟩ sizes =
        .ok (g', (decrypt A 65536 k c).1, ge) ∧ rdErrRel ge (some (decrypt A 65536 k c).2) := by
  obtain ⟨r', hdr⟩ := Props.C12.reader_refines_spec A 65536 (2 ^ 88) (by omega) k c false (by omega) sizes hpos hlong
  have hb : (Reader.new ⟨c, false⟩).Bounded (2 ^ 88 - 1) := by
    unfold Reader.Bounded; simp only [Reader.new]; omega
  obtain ⟨g', ge, hsr, he, _⟩ := streamReads_tie A k E sizes _ _ (reader_new_rel a c false) hb
  rw [hdr] at hsr he
  exact ⟨g', ge, hsr, he⟩

theorem code_stream_read_back {α : Type} (A : AEAD) (hA : A.Correct) (hN : A.NonceSep) (k : Bytes) (E : AeadEnv α A k) (a : α)
    (pt : Bytes) (hlen : pt.length < 2 ^ 64) (sizes : List Nat) (hpos : ∀ s ∈ sizes, 0 < s)
    (hlong : pt.length + (encrypt A 65536 k pt).length + 1 < sizes.length) :
    ∃ r', streamReads E ⟨a, ⟨encrypt A 65536 k pt, false⟩, 0, 0, List.replicate 65552 0, none, List.replicate 12 0⟩ sizes =
      .ok (r', pt, Go.io_EOF) := by
  have hdec := Props.C01.stream_roundtrip A hA hN 65536 (by decide) k pt
  have hcl : (encrypt A 65536 k pt).length < 2 ^ 88 - 1 := by
    have := enc_length_le A k E.hSealLen _ 0 pt (Nat.le_refl _)
    rw [← encrypt_eq_enc] at this
    omega
  obtain ⟨g', ge, hsr, he⟩ := streamReads_decrypt A k E a (encrypt A 65536 k pt) hcl sizes hpos
    (by rw [hdec]; exact hlong)
  rw [hdec] at hsr he
  simp only [rdErrRel, rdErr] at he
  subst he
  exact ⟨g', hsr⟩

/-- **STREAM round trip, about the code**: what goes through the translated `Write`s and `Close` comes back from the
    translated `Read`s, followed by io.EOF -/
theorem code_stream_roundtrip {α δ : Type} (A : AEAD) (hA : A.Correct) (hN : A.NonceSep) (k : Bytes) (E : AeadEnv α A k)
    (D : DstEnv δ DstSpec.perfect) (a : α) (dst : δ) (hd : (D.absD dst).acc = []) (ps : List Bytes)
    (hlen : ps.flatten.length < 2 ^ 64) (sizes : List Nat) (hpos : ∀ s ∈ sizes, 0 < s)
    (hlong : ps.flatten.length + (encrypt A 65536 k ps.flatten).length + 1 < sizes.length) :
    ∃ w1 w2 r', streamWrites E D ⟨a, dst, 0, 0, List.replicate 65552 0, List.replicate 12 0, none⟩ ps = .ok (none, w1) ∧
      stream_Writer_Close E.seal_ D.write w1 = .ok (none, w2) ∧
      streamReads E ⟨a, ⟨(D.absD w2.dst).acc, false⟩, 0, 0, List.replicate 65552 0, none, List.replicate 12 0⟩ sizes =
        .ok (r', ps.flatten, Go.io_EOF) := by
  obtain ⟨w1, m1, hw, hr, hi⟩ := streamWrites_tie DstSpec.perfect_neverFails A k E D (D.absD dst).acc ps _ _ []
    (newWriter_rel D a dst) (WInv_new A 65536 k (D.absD dst)) (by simpa using hlen)
  rw [List.nil_append] at hi
  obtain ⟨w2, hc, hacc⟩ := streamClose_tie DstSpec.perfect_neverFails A k E D (D.absD dst).acc w1 m1 ps.flatten hr hi hlen
  rw [hd, List.nil_append] at hacc
  obtain ⟨r', hsr⟩ := code_stream_read_back A hA hN k E a ps.flatten hlen sizes hpos hlong
  exact ⟨w1, w2, r', hw, hc, by rw [hacc]; exact hsr⟩

theorem rdErrRel_eof (o : Outcome) (h : rdErrRel Go.io_EOF (some o)) : o = .eof := by
  cases o <;> simp [rdErrRel, rdErr, Go.io_EOF, Go.io_ErrUnexpectedEOF, Go.io_srcErr] at h ⊢

/-- **exactly one payload per plaintext, about the code** (C02): whatever bytes `c` are presented as the payload, if
    the translated reader — called with any sequence of positive buffer sizes long enough to reach the end — has
    released `out` and then reports io.EOF, then `c` IS the canonical encryption of `out` under that key: re-split,
    re-flagged, reordered, truncated, extended or otherwise altered payloads never end cleanly. Needs only the
    functional laws of the AEAD. -/
theorem code_accepts_only_own_chunking {α : Type} (A : AEAD) (hA : A.Correct) (k : Bytes) (E : AeadEnv α A k) (a : α)
    (c : Bytes) (hc : c.length < 2 ^ 88 - 1) (sizes : List Nat) (hpos : ∀ s ∈ sizes, 0 < s)
    (hlong : (decrypt A 65536 k c).1.length + c.length + 1 < sizes.length) (g' : stream_Reader α) (out : Bytes)
    (h : streamReads E ⟨a, ⟨c, false⟩, 0, 0, List.replicate 65552 0, none, List.replicate 12 0⟩ sizes = .ok (g', out, Go.io_EOF)) :
    c = encrypt A 65536 k out := by
  obtain ⟨g'', ge, hsr, he⟩ := streamReads_decrypt A k E a c hc sizes hpos hlong
  rw [h] at hsr
  simp only [Except.ok.injEq, Prod.mk.injEq] at hsr
  obtain ⟨_, hout, hge⟩ := hsr
  rw [← hge] at he
  have heof := rdErrRel_eof _ he
  exact Props.C02.accepts_only_own_chunking A hA 65536 (by decide) k c out (by rw [hout, ← heof])

end GoTie
end AgeModel
