/-
  Proofs.GoTiePluginBase — the plugin client's two conversations, as they stand in the source.

  `(*Recipient).WrapWithLabels` and `(*Identity).Unwrap` of plugin/client.go are TRANSLATED on
  every run: phase 1 (what the client sends), the phase-2 read loop with its `switch` on the
  stanza type, the labelled `break`, both `defer`s (the connection is closed at every return; an
  error is wrapped with the plugin's name — `%w`, taken as the error itself). The process, the
  stanza reader on its output and the UI are abstract state; `openClientConnection`,
  `writeStanza`, `writeStanzaWithBody`, `Stanza.Marshal`, `NewStanzaReader`, `ClientUI.readStanza`
  and `ClientUI.handle` are parameters, and `PluginEnv` says what is assumed of them in terms of the
  model: writing appends one stanza to the transcript and does not fail, reading pops the next
  message of the plugin's script or reports how the script ends, `handle` is the model's `UI.handle`.
  The theorems: for EVERY script the translated client writes exactly the model's phase 1 followed
  by the model's replies, leaves the UI in the model's state and returns the model's result
  (stanzas and labels / file key, or the corresponding error) — so the theorems of `Props.C16`
  about `recipientClient` / `identityClient` are about the state machines in the source.

  Here: the assumptions and what the two read loops share; Proofs.GoTiePluginR and Proofs.GoTiePluginI add
  each client's own commands and the code around its loop.
-/
import AgeModel.GoSem
import AgeModel.Plugin
import AgeModel.Extracted.Funcs
import Proofs.GoBind
import Proofs.GoTieLit
import Proofs.PluginRun
import Proofs.GoTieAtoi
namespace AgeModel
namespace GoTie
open Extracted Plugin

/-- a Go string is its UTF-8 bytes -/
def bs (s : String) : Bytes := s.toUTF8.toList

def goFS (m : Plugin.Stanza) : format_Stanza := ⟨bs m.type, m.args.map bs, m.body⟩
def goAS (m : Plugin.Stanza) : age_Stanza := ⟨bs m.type, m.args.map bs, m.body⟩

structure PluginEnv (S : Type) (σ υ χ : Type) where
  ui : UI S
  dec : String → Option Bytes
  /-- what has been written to the plugin so far, and the UI state (the world the callbacks act on) -/
  absC : χ → List Plugin.Stanza
  uiOf : χ → S
  /-- what the plugin will still say, and how its output ends -/
  absS : σ → List Plugin.Stanza × End
  u : υ
  name : Bytes
  c0 : χ
  st0 : S
  script : Conv
  eEnd : End → Go.Err
  eH : Go.Err
  Open : Bytes → Bytes → Go.M (χ × Option Go.Err)
  hOpen : ∀ proto, Open name proto = .ok (c0, none)
  h0 : absC c0 = [] ∧ uiOf c0 = st0
  W : χ → Bytes → List Bytes → Go.M (Option Go.Err × χ)
  hW : ∀ c (t : String) (args : List String), ∃ c', W c (bs t) (args.map bs) = .ok (none, c') ∧
        absC c' = absC c ++ [⟨t, args, []⟩] ∧ uiOf c' = uiOf c
  WB : χ → Bytes → Bytes → Go.M (Option Go.Err × χ)
  hWB : ∀ c (t : String) (body : Bytes), ∃ c', WB c (bs t) body = .ok (none, c') ∧
        absC c' = absC c ++ [⟨t, [], body⟩] ∧ uiOf c' = uiOf c
  M : format_Stanza → χ → Go.M (Option Go.Err × χ)
  hM : ∀ c (m : Plugin.Stanza), ∃ c', M (goFS m) c = .ok (none, c') ∧ absC c' = absC c ++ [m] ∧ uiOf c' = uiOf c
  Close : χ → Go.M (Option Go.Err)
  hClose : ∀ c, ∃ e, Close c = .ok e
  New : χ → Go.M σ
  hNew : ∀ c, ∃ sr, New c = .ok sr ∧ absS sr = (script.msgs, script.fin)
  rem : σ → Nat
  hRem : ∀ sr, rem sr = (absS sr).1.length
  Rd : υ → Bytes → σ → Go.M (format_Stanza × Option Go.Err × σ)
  hRd : ∀ sr, ∃ out, Rd u name sr = .ok out ∧
        match absS sr with
        | ([], e) => out.2.1 = some (eEnd e)
        | (m :: rest, e) => out.1 = goFS m ∧ out.2.1 = none ∧ absS out.2.2 = (rest, e)
  Hd : υ → Bytes → χ → format_Stanza → Go.M (Bool × Option Go.Err × χ)
  hHd : ∀ c (m : Plugin.Stanza), ∃ out, Hd u name c (goFS m) = .ok out ∧
        match ui.handle dec (uiOf c) m with
        | .reply st r => out.1 = true ∧ out.2.1 = none ∧ absC out.2.2 = absC c ++ [r] ∧ uiOf out.2.2 = st
        | .fatal => out.1 = true ∧ out.2.1 = some eH ∧ absC out.2.2 = absC c ∧ uiOf out.2.2 = uiOf c
        | .unknown => out.1 = false ∧ out.2.1 = none ∧ absC out.2.2 = absC c ∧ uiOf out.2.2 = uiOf c

/-- which Go error stands for which error of the model (recipient side) -/
def rErrRel {S σ υ χ : Type} (E : PluginEnv S σ υ χ) : ClientErr → Option Go.Err → Prop
  | .pluginError _, g => g = some ⟨"plugin.(*Recipient).WrapWithLabels", 5, []⟩
  | .protocol, g => g = some E.eH ∨ ∃ k, k ∈ [1, 2, 3, 4] ∧ g = some ⟨"plugin.(*Recipient).WrapWithLabels", k, []⟩
  | .ended e, g => g = some (E.eEnd e)
  | .noStanzas, g => g = some ⟨"plugin.(*Recipient).WrapWithLabels", 6, []⟩
  | .incorrectIdentity, _ => False

def iErrRel {S σ υ χ : Type} (E : PluginEnv S σ υ χ) : ClientErr → Option Go.Err → Prop
  | .pluginError _, g => g = some ⟨"plugin.(*Identity).Unwrap", 5, []⟩
  | .protocol, g => g = some E.eH ∨ ∃ k, k ∈ [1, 2, 3, 4] ∧ g = some ⟨"plugin.(*Identity).Unwrap", k, []⟩
  | .ended e, g => g = some (E.eEnd e)
  | .incorrectIdentity, g => g = age_ErrIncorrectIdentity
  | .noStanzas, _ => False

theorem rErrRel_ne_none {S σ υ χ : Type} (E : PluginEnv S σ υ χ) {e : ClientErr} {g : Option Go.Err}
    (h : rErrRel E e g) : g ≠ none := by
  rintro rfl
  cases e with
  | protocol => rcases h with h | ⟨k, _, h⟩ <;> cases h
  | incorrectIdentity => exact h
  | _ => cases h

theorem bs_eq_utf8 (s : String) : bs s = utf8 s.toList := by
  unfold bs utf8
  rw [byteArray_toList, String.toUTF8, ← String.utf8Encode_toList, List.utf8Encode,
    List.toList_data_toByteArray]

theorem bs_inj {a b : String} : bs a = bs b ↔ a = b := by
  constructor
  · intro h
    unfold bs at h
    rw [byteArray_toList, byteArray_toList] at h
    have h2 : a.toUTF8.data = b.toUTF8.data := Array.toList_inj.mp h
    have h3 : a.toUTF8 = b.toUTF8 := ByteArray.ext h2
    exact String.toByteArray_inj.mp h3
  · intro h; rw [h]

theorem bs_beq (a b : String) : (bs a == bs b) = decide (a = b) := by
  rw [Bool.eq_iff_iff, beq_iff_eq, bs_inj, decide_eq_true_iff]

theorem atoi_some (s : String) (v : Int) (h : Plugin.atoi s = some v) : Go.strconv_Atoi (bs s) = (v, none) := by
  have := atoiChars_utf8 s.toList
  rw [show atoiChars s.toList = some v from h] at this
  rw [bs_eq_utf8]; exact this

theorem atoi_none (s : String) (h : Plugin.atoi s = none) : (Go.strconv_Atoi (bs s)).2 ≠ none := by
  have := atoiChars_utf8 s.toList
  rw [show atoiChars s.toList = none from h] at this
  rw [bs_eq_utf8]; exact this

/-! ## the protocol's words

The translation spells a string constant of plugin/client.go as its bytes. `file-key` and `labels` are tails of
`wrap-file-key` and `extension-labels`: in a `simp` set the table goes in as `↓words`, so that a whole constant is
tried before its tail. -/

theorem words :
    ([114, 101, 99, 105, 112, 105, 101, 110, 116, 45, 115, 116, 97, 110, 122, 97] : Bytes) = bs "recipient-stanza" ∧
    ([108, 97, 98, 101, 108, 115] : Bytes) = bs "labels" ∧
    ([102, 105, 108, 101, 45, 107, 101, 121] : Bytes) = bs "file-key" ∧
    ([101, 114, 114, 111, 114] : Bytes) = bs "error" ∧
    ([100, 111, 110, 101] : Bytes) = bs "done" ∧
    ([111, 107] : Bytes) = bs "ok" ∧
    ([117, 110, 115, 117, 112, 112, 111, 114, 116, 101, 100] : Bytes) = bs "unsupported" ∧
    ([97, 100, 100, 45, 114, 101, 99, 105, 112, 105, 101, 110, 116] : Bytes) = bs "add-recipient" ∧
    ([97, 100, 100, 45, 105, 100, 101, 110, 116, 105, 116, 121] : Bytes) = bs "add-identity" ∧
    ([119, 114, 97, 112, 45, 102, 105, 108, 101, 45, 107, 101, 121] : Bytes) = bs "wrap-file-key" ∧
    ([101, 120, 116, 101, 110, 115, 105, 111, 110, 45, 108, 97, 98, 101, 108, 115] : Bytes) = bs "extension-labels" ∧
    ([48] : Bytes) = bs "0" ∧
    ([114, 101, 99, 105, 112, 105, 101, 110, 116, 45, 118, 49] : Bytes) = bs "recipient-v1" ∧
    ([105, 100, 101, 110, 116, 105, 116, 121, 45, 118, 49] : Bytes) = bs "identity-v1" ∧
    ([109, 115, 103] : Bytes) = bs "msg" ∧
    ([114, 101, 113, 117, 101, 115, 116, 45, 115, 101, 99, 114, 101, 116] : Bytes) = bs "request-secret" ∧
    ([114, 101, 113, 117, 101, 115, 116, 45, 112, 117, 98, 108, 105, 99] : Bytes) = bs "request-public" ∧
    ([99, 111, 110, 102, 105, 114, 109] : Bytes) = bs "confirm" ∧
    ([102, 97, 105, 108] : Bytes) = bs "fail" ∧
    ([121, 101, 115] : Bytes) = bs "yes" ∧
    ([110, 111] : Bytes) = bs "no" := by
  simp only [bs, byteArray_toList]
  decide +kernel

theorem idx_zero {α : Type} (a : α) (l : List α) : Go.idx (a :: l) 0 = .ok a := rfl
theorem len_eq {α : Type} (l : List α) : Go.len l = (l.length : Int) := rfl

/-! ## the read loop the two clients share

Both `for` loops read one stanza, return on a read error, and otherwise `switch` on the command: after the one
or two commands only one of the clients knows come `error`, `done` and `ClientUI.handle`, the same in both.
Every `return` runs the deferred `Close`; a failed write returns that write's error. -/

section loop
variable {S σ υ χ T α A R : Type} (E : PluginEnv S σ υ χ)

/-- `return` with the error `g` from inside a loop: the deferred `Close` runs first -/
def PluginEnv.bail (ret : Option Go.Err → χ → R) (g : Option Go.Err) (c : χ) : Go.M (Go.Loop A R) :=
  E.Close c >>= fun _ => pure (.ret (ret g c))

theorem PluginEnv.bail_eq (ret : Option Go.Err → χ → R) (g : Option Go.Err) (c : χ) :
    (E.bail ret g c : Go.M (Go.Loop A R)) = .ok (.ret (ret g c)) := by
  obtain ⟨e, h⟩ := E.hClose c
  rw [PluginEnv.bail, h]; rfl

/-- `writeStanza(conn, t)`, then `k`; a failed write is returned -/
def PluginEnv.send (ret : Option Go.Err → χ → R) (c : χ) (t : String) (k : χ → Go.M (Go.Loop A R)) :
    Go.M (Go.Loop A R) :=
  E.W c (bs t) [] >>= fun w => if w.1 = none then k w.2 else E.bail ret w.1 w.2

theorem PluginEnv.send_eq (ret : Option Go.Err → χ → R) (c : χ) (t : String) :
    ∃ c', E.absC c' = E.absC c ++ [⟨t, [], []⟩] ∧ E.uiOf c' = E.uiOf c ∧
      ∀ k : χ → Go.M (Go.Loop A R), E.send ret c t k = k c' := by
  obtain ⟨c', hW, ha, hu⟩ := E.hW c t []
  have hW' : E.W c (bs t) [] = .ok (none, c') := hW
  exact ⟨c', ha, hu, fun k => by rw [PluginEnv.send, hW']; rfl⟩

/-- what one iteration `x` of a read loop owes the model's step taken in state `s` on the connection `conn` -/
def Follows (ui : T → S) (Fin : T → Except ClientErr α → χ → Go.Loop A R → Prop) (cont : T → χ → Go.M (Go.Loop A R))
    (s : T) (conn : χ) (x : Go.M (Go.Loop A R)) : Step T α → Prop
  | .next s' r => ∃ c', E.absC c' = E.absC conn ++ [r] ∧ E.uiOf c' = ui s' ∧ x = cont s' c'
  | .halt rs res => ∃ c' out, E.absC c' = E.absC conn ++ rs ∧ E.uiOf c' = ui s ∧ x = .ok out ∧ Fin s res c' out

/-- how a read loop stops: at `done` it is left (`.next`) with its variables and the model's result is `finish s`;
    otherwise it returns an error that stands for the model's -/
def Stops (rel : ClientErr → Option Go.Err → Prop) (finish : T → Except ClientErr α) (vars : T → χ → σ → A)
    (ret : Option Go.Err → χ → R) (s : T) (res : Except ClientErr α) (c : χ) : Go.Loop A R → Prop
  | .next a => ∃ sr', a = vars s c sr' ∧ res = finish s
  | .ret v => ∃ e g, v = ret g c ∧ res = .error e ∧ rel e g

variable {ui : T → S} {rel : ClientErr → Option Go.Err → Prop} {finish : T → Except ClientErr α}
  {vars : T → χ → σ → A} {ret : Option Go.Err → χ → R} {cont : T → χ → Go.M (Go.Loop A R)}

section follows
variable {E} {Fin : T → Except ClientErr α → χ → Go.Loop A R → Prop} {s s' : T} {conn c' : χ} {x : Go.M (Go.Loop A R)}

theorem Stops.error {e g} (h : rel e g) : Stops rel finish vars ret s (.error e) conn (.ret (ret g conn)) :=
  ⟨e, g, rfl, rfl, h⟩

theorem Stops.done (sr' : σ) : Stops rel finish vars ret s (finish s) conn (.next (vars s conn sr')) :=
  ⟨sr', rfl, rfl⟩

theorem Follows.next {r : Plugin.Stanza}
    (ha : E.absC c' = E.absC conn ++ [r]) (hu : E.uiOf c' = ui s') (hx : x = cont s' c') :
    Follows E ui Fin cont s conn x (.next s' r) := ⟨c', ha, hu, hx⟩

theorem Follows.halt {rs res out}
    (ha : E.absC c' = E.absC conn ++ rs) (hu : E.uiOf c' = ui s) (hx : x = .ok out) (hfin : Fin s res c' out) :
    Follows E ui Fin cont s conn x (.halt rs res) := ⟨c', out, ha, hu, hx, hfin⟩

theorem Follows.bail {e g} (hrel : rel e g) (hU : E.uiOf conn = ui s) :
    Follows E ui (Stops rel finish vars ret) cont s conn (E.bail ret g conn) (.halt [] (.error e)) :=
  .halt (List.append_nil _).symm hU (E.bail_eq ret g conn) (.error hrel)

theorem Follows.send (t : String) {k : χ → Go.M (Go.Loop A R)} (hk : k = cont s') (hu : ui s = ui s')
    (hU : E.uiOf conn = ui s) : Follows E ui Fin cont s conn (E.send ret conn t k) (.next s' ⟨t, [], []⟩) := by
  obtain ⟨c', ha, hu', hx⟩ := E.send_eq ret conn t
  exact .next ha (hu'.trans (hU.trans hu)) (by rw [hx, hk])

end follows

theorem goFS_type_eq (m : Plugin.Stanza) (t : String) : (goFS m).Type_ = bs t ↔ m.type = t := bs_inj

/-- the end of the `switch`, the same in both loops: `error`, `done`, and by default `ClientUI.handle` -/
def PluginEnv.common (ret : Option Go.Err → χ → R) (site5 : Go.Err) (done : A) (cont : χ → Go.M (Go.Loop A R))
    (conn : χ) (f : format_Stanza) : Go.M (Go.Loop A R) :=
  if f.Type_ = bs "error" then E.send ret conn "ok" (E.bail ret (some site5))
  else if f.Type_ = bs "done" then pure (.next done)
  else E.Hd E.u E.name conn f >>= fun h =>
    if h.2.1 = none then (if h.1 = false then E.send ret h.2.2 "unsupported" cont else cont h.2.2)
    else E.bail ret h.2.1 h.2.2

/-- the model's step on the same three cases -/
def commonStep (u : UI S) (dec : String → Option Bytes) (ui : T → S) (setUi : T → S → T)
    (finish : T → Except ClientErr α) (s : T) (m : Plugin.Stanza) : Step T α :=
  if m.type = "error" then .halt [okS] (.error (.pluginError m.body))
  else if m.type = "done" then .halt [] (finish s)
  else
    match u.handle dec (ui s) m with
    | .reply st r => .next (setUi s st) r
    | .fatal => .halt [] (.error .protocol)
    | .unknown => .next s unsupportedS

variable (ui rel finish vars ret cont) in
theorem common_follows (setUi : T → S → T) (site5 : Go.Err) (s : T) (conn : χ) (sr' : σ) (m : Plugin.Stanza)
    (hset : ∀ st, ui (setUi s st) = st ∧ cont (setUi s st) = cont s)
    (hErr : rel (.pluginError m.body) (some site5)) (hFatal : rel .protocol (some E.eH))
    (hU : E.uiOf conn = ui s) :
    Follows E ui (Stops rel finish vars ret) cont s conn
      (E.common ret site5 (vars s conn sr') (cont s) conn (goFS m)) (commonStep E.ui E.dec ui setUi finish s m) := by
  simp only [PluginEnv.common, commonStep, goFS_type_eq]
  by_cases t3 : m.type = "error"
  · simp only [if_pos t3]
    obtain ⟨c', ha, hu, hk⟩ := E.send_eq ret conn "ok"
    exact .halt ha (hu.trans hU) (by rw [hk, E.bail_eq]) (.error hErr)
  by_cases t4 : m.type = "done"
  · simp only [if_neg t3, if_pos t4]
    exact .halt (List.append_nil _).symm hU rfl (.done sr')
  simp only [if_neg t3, if_neg t4]
  obtain ⟨out, hH, hm⟩ := E.hHd conn m
  rw [hH, Go.bind_ok]
  rw [hU] at hm
  cases hh : E.ui.handle E.dec (ui s) m with
  | reply st r =>
    rw [hh] at hm
    obtain ⟨ho, hg, ha, hu⟩ := hm
    rw [if_pos hg, ho, if_neg (by simp)]
    exact .next ha (hu.trans (hset st).1.symm) (congrFun (hset st).2.symm _)
  | fatal =>
    rw [hh] at hm
    obtain ⟨-, hg, ha, hu⟩ := hm
    rw [hg, if_neg (by simp), E.bail_eq]
    exact .halt (ha.trans (List.append_nil _).symm) hu rfl (.error hFatal)
  | unknown =>
    rw [hh] at hm
    obtain ⟨ho, hg, ha, hu⟩ := hm
    rw [if_pos hg, ho, if_pos rfl]
    obtain ⟨c', ha', hu', hk⟩ := E.send_eq ret out.2.2 "unsupported"
    exact .next (by rw [ha', ha]; rfl) (hu'.trans hu) (hk _)

/-- a loop that reads a stanza and then follows the model's `step` computes the model's `run` on the plugin's script -/
theorem read_loop {step : T → Plugin.Stanza → Step T α} {L : Nat → T → χ → σ → Go.M (Go.Loop A R)} {body : Nat → T → χ → σ → format_Stanza → Go.M (Go.Loop A R)}
    (hL : ∀ fuel s conn sr, L (fuel + 1) s conn sr = E.Rd E.u E.name sr >>= fun t =>
      if t.2.1 = none then body fuel s conn t.2.2 t.1 else E.bail ret t.2.1 conn)
    (hEnd : ∀ fin, rel (.ended fin) (some (E.eEnd fin)))
    (hBody : ∀ fuel s conn sr' m, E.uiOf conn = ui s →
      Follows E ui (Stops rel finish vars ret) (fun s' c' => L fuel s' c' sr') s conn
        (body fuel s conn sr' (goFS m)) (step s m))
    (fin : End) (msgs : List Plugin.Stanza) :
    ∀ fuel s conn sr, E.absS sr = (msgs, fin) → msgs.length < fuel → E.uiOf conn = ui s →
      ∃ c' out, L fuel s conn sr = .ok out ∧ E.absC c' = E.absC conn ++ (run step s msgs fin).replies ∧
        E.uiOf c' = ui (run step s msgs fin).state ∧
        Stops rel finish vars ret (run step s msgs fin).state (run step s msgs fin).result c' out := by
  induction msgs with
  | nil =>
    intro fuel s conn sr hS hf hU
    obtain ⟨fuel, rfl⟩ := Nat.exists_eq_add_one_of_ne_zero (Nat.ne_of_gt hf)
    obtain ⟨out, hRd, hg⟩ := E.hRd sr
    rw [hS] at hg
    refine ⟨conn, _, ?_, (List.append_nil _).symm, hU, .error (hEnd fin)⟩
    rw [hL, hRd, Go.bind_ok, hg, if_neg (by simp), E.bail_eq]
  | cons m rest ih =>
    intro fuel s conn sr hS hf hU
    obtain ⟨fuel, rfl⟩ := Nat.exists_eq_add_one_of_ne_zero (Nat.ne_of_gt (Nat.zero_lt_of_lt hf))
    obtain ⟨⟨_, _, sr'⟩, hRd, hm⟩ := E.hRd sr
    rw [hS] at hm
    obtain ⟨rfl, rfl, hS'⟩ := hm
    have hb := hBody fuel s conn sr' m hU
    rw [hL, hRd, Go.bind_ok, if_pos rfl]
    cases hstep : step s m with
    | next s' r =>
      rw [hstep] at hb
      obtain ⟨c1, ha, hu, hx⟩ := hb
      obtain ⟨c', out, hout, ha', hu', hfin⟩ := ih fuel s' c1 sr' hS' (Nat.lt_of_succ_lt_succ hf) hu
      rw [run_cons_next hstep]
      exact ⟨c', out, hx.trans hout, by rw [ha', ha, List.append_assoc]; rfl, hu', hfin⟩
    | halt rs res =>
      rw [hstep] at hb
      obtain ⟨c', out, ha, hu, hx, hfin⟩ := hb
      rw [run_cons_halt hstep]
      exact ⟨c', out, hx, ha, hu, hfin⟩

end loop

end GoTie
end AgeModel
