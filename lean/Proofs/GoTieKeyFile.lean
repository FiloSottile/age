/-
  Proofs.GoTieKeyFile — age.ParseIdentities and age.ParseRecipients (parse.go), as
  TRANSLATED from the Go source (AgeModel/Extracted/Funcs.lean, regenerated on every
  run), are the file-level model of AgeModel/KeyFile.lean — for EVERY file content and
  EVERY single-line parser (`ParseX25519Identity` / `ParseX25519Recipient` are kept
  abstract by the translator: they are a parameter here, as they are in the model).
  In particular the line number an error names (an integer argument of its
  fmt.Errorf call, recorded in `Go.Err.ints`) is the model's. The proof is done once, for
  a loop and a function given by their equations (`lib_loop`, `lib_tie`), and instantiated three
  times: the two functions above and cmd/age's `parseIdentities` (Proofs.GoTieCliKeyFile).
-/
import AgeModel.GoSem
import AgeModel.KeyFile
import AgeModel.Extracted.Funcs
import Proofs.GoBuf
namespace AgeModel
namespace GoTie
open Extracted

/-- the single-line parser as the file-level model sees it: a key, or a failure -/
def lineKey {κ : Type} (P : Bytes → Go.M (κ × Option Go.Err)) (l : Bytes) : Option κ :=
  match P l with
  | .ok (k, none) => some k
  | _ => none

def idFileErr : KeyFile.KeyFileErr → Option Go.Err
  | .atLine n => some ⟨"age.ParseIdentities", 0, [Int.ofNat n]⟩
  | .scanErr => some ⟨"age.ParseIdentities", 1, []⟩
  | .noKeys => some ⟨"age.ParseIdentities", 2, []⟩
  | .lineTooLong _ => some ⟨"unreachable", 0, []⟩

def rcFileErr : KeyFile.KeyFileErr → Option Go.Err
  | .atLine n => some ⟨"age.ParseRecipients", 0, [Int.ofNat n]⟩
  | .scanErr => some ⟨"age.ParseRecipients", 1, []⟩
  | .noKeys => some ⟨"age.ParseRecipients", 2, []⟩
  | .lineTooLong _ => some ⟨"unreachable", 0, []⟩

/-! ## the scanner of GoSem is the scanner of the key-file model -/

theorem rawLinesAux_eq (cur b : Bytes) : Go.rawLinesAux cur b = KeyFile.rawLinesAux cur b := by
  induction b generalizing cur with
  | nil => rfl
  | cons c cs ih => simp only [Go.rawLinesAux, KeyFile.rawLinesAux, ih]

theorem dropCR_eq (l : Bytes) : Go.dropCR l = KeyFile.dropCR l := rfl

theorem scanFrom_eq (rs : List Bytes) :
    KeyFile.scanFrom 65536 rs = ⟨Go.tokensFrom rs, Go.tooLongIn rs⟩ := by
  induction rs with
  | nil => rfl
  | cons r rs ih =>
    simp only [KeyFile.scanFrom, Go.tokensFrom, Go.tooLongIn, Go.maxScanTokenSize, ih]
    by_cases h : 65536 ≤ r.length
    · simp only [h, if_true]
    · simp only [h, if_false, dropCR_eq]

theorem scanner_eq (f : Bytes) :
    Go.scanner_Tokens (Go.io_LimitReader f (16777216 : Int)) = KeyFile.linesOf 65536 16777216 f ∧
    (Go.scanner_Err (Go.io_LimitReader f (16777216 : Int)) != none) = KeyFile.scanFailed 65536 16777216 f := by
  have hlim : Go.io_LimitReader f (16777216 : Int) = f.take 16777216 := rfl
  have h := scanFrom_eq (KeyFile.rawLinesAux [] (f.take 16777216))
  rw [hlim, KeyFile.linesOf, KeyFile.scanFailed, KeyFile.scan, KeyFile.rawLines, h, Go.scanner_Tokens,
    Go.scanner_Err, rawLinesAux_eq]
  refine ⟨rfl, ?_⟩
  cases Go.tooLongIn (KeyFile.rawLinesAux [] (f.take 16777216)) <;> rfl

theorem ignorable_eq (line : Bytes) :
    (Go.strings_HasPrefix line ([35] : List UInt8) || (line == ([] : List UInt8))) = KeyFile.ignorable line := by
  cases line with
  | nil => rfl
  | cons c cs =>
    simp [Go.strings_HasPrefix, KeyFile.ignorable, List.isPrefixOf]
    rw [BEq.comm]
    rfl

/-! ## the three loops without a skip branch

`age.ParseIdentities`, `age.ParseRecipients` and cmd/age `parseIdentities` are the same text up to the
name their errors carry (`fn`). `L` is the translated loop and `F` the translated function of any of
the three, each given by its defining equations. -/

/-- what follows the loop, as a function of how the loop ended -/
def keyFilePost {κ : Type} (fn : String) (se : Bool) :
    Go.Loop (List κ × Int) (List κ × Option Go.Err) → List κ × Option Go.Err
  | .ret v => v
  | .next (ids, _) =>
    if se then ([], some ⟨fn, 1, []⟩)
    else if ids.isEmpty then ([], some ⟨fn, 2, []⟩)
    else (ids, none)

def fileErr (fn : String) : KeyFile.KeyFileErr → Option Go.Err
  | .atLine n => some ⟨fn, 0, [Int.ofNat n]⟩
  | .scanErr => some ⟨fn, 1, []⟩
  | .noKeys => some ⟨fn, 2, []⟩
  | .lineTooLong _ => some ⟨"unreachable", 0, []⟩

def modelOut {κ : Type} (fn : String) : Except KeyFile.KeyFileErr (List κ) → List κ × Option Go.Err
  | .ok ks => (ks, none)
  | .error e => ([], fileErr fn e)

section lib
variable {κ : Type} (fn : String) (P : Bytes → Go.M (κ × Option Go.Err)) (hP : ∀ l, ∃ r, P l = .ok r)
  (L : List Bytes → List κ → Int → Go.M (Go.Loop (List κ × Int) (List κ × Option Go.Err)))
  (hnil : ∀ ids n, L [] ids n = pure (.next (ids, n)))
  (hcons : ∀ t ts ids n, L (t :: ts) ids n = do
    if (Go.strings_HasPrefix t ([35] : List UInt8) || (t == ([] : List UInt8))) then
      return (← L ts ids (n + 1))
    let r ← P t
    if r.2 != none then
      return .ret ([], some (Go.Err.mk fn 0 [n + 1]))
    L ts (ids ++ [r.1]) (n + 1))
include hP hnil hcons

/-- the loop, followed by the code after it, is the model's loop -/
theorem lib_loop (se : Bool) (ts : List Bytes) :
    ∀ (ids : List κ) (n : Nat),
    ∃ r, L ts ids (Int.ofNat n) = .ok r ∧
      keyFilePost fn se r = modelOut fn (KeyFile.loop (KeyFile.libLine (lineKey P)) se n ts ids []).res := by
  induction ts with
  | nil =>
    intro ids n
    refine ⟨_, hnil _ _, ?_⟩
    cases se
    · cases ids <;> rfl
    · rfl
  | cons t ts ih =>
    intro ids n
    rw [hcons, ignorable_eq, KeyFile.loop, KeyFile.libLine]
    cases KeyFile.ignorable t with
    | true =>
      obtain ⟨r, hr, hpost⟩ := ih ids (n + 1)
      have hr' : L ts ids (Int.ofNat n + 1) = .ok r := hr
      exact ⟨r, by rw [hr']; rfl, hpost⟩
    | false =>
      obtain ⟨⟨k, e⟩, hk⟩ := hP t
      cases e with
      | none =>
        obtain ⟨r, hr, hpost⟩ := ih (ids ++ [k]) (n + 1)
        have hlk : lineKey P t = some k := by rw [lineKey, hk]
        exact ⟨r, by rw [hk]; exact hr, by rw [hlk]; exact hpost⟩
      | some e =>
        have hlk : lineKey P t = none := by rw [lineKey, hk]
        exact ⟨_, by rw [hk]; rfl, by rw [hlk]; rfl⟩

theorem lib_tie (f : Bytes) (F : Go.M (List κ × Option Go.Err))
    (hF : F = do
      let r ← L (Go.scanner_Tokens (Go.io_LimitReader f (16777216 : Int))) [] 0
      match r with
      | .ret v => return v
      | .next (ids, _) =>
        if Go.scanner_Err (Go.io_LimitReader f (16777216 : Int)) != none then
          return ([], some (Go.Err.mk fn 1 []))
        if Go.len ids == (0 : Int) then
          return ([], some (Go.Err.mk fn 2 []))
        return (ids, none)) :
    F = .ok (modelOut fn (KeyFile.parseLib (lineKey P) 65536 16777216 f)) := by
  obtain ⟨r, hr, hpost⟩ := lib_loop fn P hP L hnil hcons
    (Go.scanner_Err (Go.io_LimitReader f (16777216 : Int)) != none)
    (Go.scanner_Tokens (Go.io_LimitReader f (16777216 : Int))) [] 0
  have hr' : L (Go.scanner_Tokens (Go.io_LimitReader f 16777216)) [] 0 = .ok r := hr
  rw [hF, hr', KeyFile.parseLib, KeyFile.parseFile, ← (scanner_eq f).1, ← (scanner_eq f).2, ← hpost]
  cases r with
  | ret v => rfl
  | next s =>
    show (if _ then _ else if _ then _ else _) = _
    rw [Go.len_beq_zero, keyFilePost]
    cases (Go.scanner_Err (Go.io_LimitReader f 16777216) != none) <;> cases s.1.isEmpty <;> rfl

end lib

theorem idFileErr_eq : idFileErr = fileErr "age.ParseIdentities" :=
  funext fun e => by cases e <;> rfl

theorem rcFileErr_eq : rcFileErr = fileErr "age.ParseRecipients" :=
  funext fun e => by cases e <;> rfl

theorem parseIdentities_tie {κ : Type} (P : Bytes → Go.M (κ × Option Go.Err))
    (hP : ∀ l, ∃ r, P l = .ok r) (f : Bytes) :
    age_ParseIdentities P f = .ok (match KeyFile.parseIdentities (lineKey P) 65536 16777216 f with
      | .ok ks => (ks, none)
      | .error e => ([], idFileErr e)) := by
  rw [idFileErr_eq]
  exact lib_tie "age.ParseIdentities" P hP _ (fun _ _ => rfl) (fun _ _ _ _ => rfl) f _ rfl

theorem parseRecipients_tie {κ : Type} (P : Bytes → Go.M (κ × Option Go.Err))
    (hP : ∀ l, ∃ r, P l = .ok r) (f : Bytes) :
    age_ParseRecipients P f = .ok (match KeyFile.parseRecipients (lineKey P) 65536 16777216 f with
      | .ok ks => (ks, none)
      | .error e => ([], rcFileErr e)) := by
  rw [rcFileErr_eq]
  exact lib_tie "age.ParseRecipients" P hP _ (fun _ _ => rfl) (fun _ _ _ _ => rfl) f _ rfl

end GoTie
end AgeModel
