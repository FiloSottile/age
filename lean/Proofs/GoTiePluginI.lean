/-
  Proofs.GoTiePluginI — `(*Identity).Unwrap`, see Proofs.GoTiePluginBase.

  The `switch` of the read loop is written out once (`iBody`), its own command `file-key` follows `identityStep`,
  and `read_loop` puts this together with the code around the loop.
-/
import Proofs.GoTiePluginBase
namespace AgeModel
namespace GoTie
open Extracted Plugin

namespace PluginI

variable {S σ υ χ : Type}

abbrev iSite (k : Nat) : Go.Err := ⟨"plugin.(*Identity).Unwrap", k, []⟩

def iRet (g : Option Go.Err) (c : χ) : Bytes × Option Go.Err × Option χ := ([], g, some c)

section loop
variable (E : PluginEnv S σ υ χ) (enc : Bytes) (err : Option Go.Err)

abbrev iLoop := plugin_Identity_Unwrap_loop2 E.W E.Close E.Rd E.Hd ⟨E.name, enc, E.u⟩

/-- one iteration of the loop after the stanza `f` has been read -/
def iBody (fuel : Nat) (fk : Bytes) (conn : χ) (got : Bool) (sr' : σ) (f : format_Stanza) :
    Go.M (Go.Loop (Bytes × Option Go.Err × χ × σ × Bool) (Bytes × Option Go.Err × Option χ)) :=
  if f.Type_ = bs "file-key" then
    if Go.len f.Args = 1 then
      Go.idx f.Args 0 >>= fun i =>
        if (Go.strconv_Atoi i).2 = none then
          if (Go.strconv_Atoi i).1 = 0 then
            if got then E.bail iRet (some (iSite 4)) conn
            else E.send iRet conn "ok" fun c => iLoop E enc fuel f.Body err c sr' true
          else E.bail iRet (some (iSite 3)) conn
        else E.bail iRet (some (iSite 2)) conn
    else E.bail iRet (some (iSite 1)) conn
  else E.common iRet (iSite 5) (fk, err, conn, sr', got) (fun c => iLoop E enc fuel fk err c sr' got) conn f

theorem iLoop_succ (fuel : Nat) (fk : Bytes) (conn : χ) (sr : σ) (got : Bool) :
    iLoop E enc (fuel + 1) fk err conn sr got = E.Rd E.u E.name sr >>= fun t =>
      if t.2.1 = none then iBody E enc err fuel fk conn got t.2.2 t.1 else E.bail iRet t.2.1 conn := by
  simp only [iLoop, plugin_Identity_Unwrap_loop2, iBody, PluginEnv.common, PluginEnv.send, PluginEnv.bail, iRet,
    ↓words, bne_iff_ne, ne_eq, ite_self, bind_pure_comp, beq_iff_eq, reduceCtorEq, not_false_eq_true, ↓reduceIte,
    ite_not, Bool.not_eq_eq_eq_not, Bool.not_true]

def iFinish (s : IState S) : Except ClientErr Bytes :=
  if s.fileKey = [] then .error .incorrectIdentity else .ok s.fileKey

abbrev iVars (s : IState S) (c : χ) (sr : σ) : Bytes × Option Go.Err × χ × σ × Bool := (s.fileKey, err, c, sr, s.got)

abbrev iL (fuel : Nat) (s : IState S) (c : χ) (sr : σ) := iLoop E enc fuel s.fileKey err c sr s.got

theorem iBody_follows (fuel : Nat) (s : IState S) (conn : χ) (sr' : σ) (m : Plugin.Stanza) (hU : E.uiOf conn = s.ui) :
    Follows E (·.ui) (Stops (iErrRel E) iFinish (iVars err) iRet) (fun s' c' => iL E enc err fuel s' c' sr') s conn
      (iBody E enc err fuel s.fileKey conn s.got sr' (goFS m)) (identityStep E.ui E.dec s m) := by
  obtain ⟨ty, args, body⟩ := m
  have site : ∀ k, k ∈ [1, 2, 3, 4] →
      Follows E (·.ui) (Stops (iErrRel E) iFinish (iVars err) iRet) (fun s' c' => iL E enc err fuel s' c' sr') s conn
        (E.bail iRet (some (iSite k)) conn) (.halt [] (.error .protocol)) :=
    fun k hk => .bail (Or.inr ⟨k, hk, rfl⟩) hU
  simp only [iBody, identityStep, goFS, bs_inj]
  by_cases t1 : ty = "file-key"
  · simp only [if_pos t1, len_eq, List.length_map]
    rcases args with _ | ⟨i, _ | ⟨b, l⟩⟩
    · simp only [List.length_nil, Int.natCast_zero, Int.reduceEq, if_false]
      exact site 1 (by simp)
    · simp only [List.length_cons, List.length_nil, Nat.zero_add, Int.natCast_one, if_true, List.map_cons, idx_zero,
        Go.bind_ok]
      cases hat : atoi i with
      | none =>
        simp only [if_neg (atoi_none i hat)]
        exact site 2 (by simp)
      | some n =>
        simp only [atoi_some i n hat, if_true]
        by_cases hn : n = 0
        · subst hn
          cases hg : s.got with
          | true =>
            simp only [if_true, ne_eq, not_true_eq_false, if_false]
            exact site 4 (by simp)
          | false =>
            simp only [if_true, ne_eq, not_true_eq_false, if_false, Bool.false_eq_true]
            exact .send "ok" rfl rfl hU
        · simp only [ne_eq, hn, not_false_eq_true, if_true]
          exact site 3 (by simp)
    · have : ¬ (((l.length + 1 + 1 : Nat) : Int) = 1) := by omega
      simp only [List.length_cons, if_neg this]
      exact site 1 (by simp)
  · simp only [if_neg t1]
    -- elaborated before it meets the goal: matching the goal against the conclusion while `vars` and `cont`
    -- are still unknown is slow
    have h := common_follows E (·.ui) (iErrRel E) iFinish (iVars err) iRet (fun s' c' => iL E enc err fuel s' c' sr')
      (fun s st => { s with ui := st }) (iSite 5) s conn sr' ⟨ty, args, body⟩ (fun _ => ⟨rfl, rfl⟩) rfl (Or.inl rfl) hU
    exact h

end loop

def iAfter : Go.Loop (Bytes × Option Go.Err × χ × σ × Bool) (Bytes × Option Go.Err × Option χ) →
    Bytes × Option Go.Err × Option χ
  | .ret v => v
  | .next (fk, _, conn, _, _) => if fk = [] then iRet age_ErrIncorrectIdentity conn else (fk, none, some conn)

/-- a stanza of the file's header as the client sends it: `recipient-stanza 0 <type> <args…>` -/
def wrapRS (rs : Plugin.Stanza) : Plugin.Stanza := ⟨"recipient-stanza", "0" :: rs.type :: rs.args, rs.body⟩

theorem l1_spec (E : PluginEnv S σ υ χ) (enc : Bytes) (stanzas : List Plugin.Stanza) :
    ∀ (fk : Bytes) (err : Option Go.Err) (conn : χ),
    ∃ conn', plugin_Identity_Unwrap_loop1 E.Close E.M ⟨E.name, enc, E.u⟩ (stanzas.map goAS) fk err conn =
        .ok (.next (fk, err, conn')) ∧
      E.absC conn' = E.absC conn ++ stanzas.map wrapRS ∧ E.uiOf conn' = E.uiOf conn := by
  induction stanzas with
  | nil => intro fk err conn; exact ⟨conn, rfl, by simp, rfl⟩
  | cons rs rest ih =>
    intro fk err conn
    obtain ⟨c1, hm, a1, a2⟩ := E.hM conn (wrapRS rs)
    obtain ⟨c2, hl, b1, b2⟩ := ih fk err c1
    refine ⟨c2, ?_, by rw [b1, a1, List.append_assoc]; rfl, by rw [b2, a2]⟩
    have hm' : E.M ⟨bs "recipient-stanza", [bs "0", bs rs.type] ++ rs.args.map bs, rs.body⟩ conn = .ok (none, c1) := hm
    rw [List.map_cons, plugin_Identity_Unwrap_loop1]
    simp only [goAS, ↓words, hm', hl, Go.bind_ok, bne_self_eq_false, Bool.false_eq_true, if_false]

theorem unwrap_eq (E : PluginEnv S σ υ χ) (encoding grease : String) (stanzas : List Plugin.Stanza) :
    ∃ c sr, E.absC c = identityPhase1 encoding stanzas grease ∧ E.uiOf c = E.st0 ∧
      E.absS sr = (E.script.msgs, E.script.fin) ∧
      ∀ out, iLoop E (bs encoding) (E.rem sr + 1) [] none c sr false = .ok out →
        plugin_Identity_Unwrap E.Open E.W E.Close (bs grease) E.M E.New E.Rd E.Hd E.rem
          ⟨E.name, bs encoding, E.u⟩ (stanzas.map goAS) = .ok (iAfter out) := by
  obtain ⟨c1, hW1, a1, u1⟩ := E.hW E.c0 "add-identity" [encoding]
  obtain ⟨c2, hW2, a2, u2⟩ := E.hW c1 grease []
  obtain ⟨c3, hl1, a3, u3⟩ := l1_spec E (bs encoding) stanzas [] none c2
  obtain ⟨c4, hW4, a4, u4⟩ := E.hW c3 "done" []
  obtain ⟨sr, hN, hS⟩ := E.hNew c4
  refine ⟨c4, sr, ?_, by rw [u4, u3, u2, u1, E.h0.2], hS, fun out hout => ?_⟩
  · rw [a4, a3, a2, a1, E.h0.1]
    simp only [identityPhase1, doneS, List.nil_append, List.cons_append]
    rfl
  simp only [iLoop] at hout
  simp only [List.map_cons, List.map_nil] at hW1 hW2 hW4
  simp only [plugin_Identity_Unwrap, Go.bind_ok, pure, Except.pure, E.hOpen, ↓words,
    bne_self_eq_false, Bool.false_eq_true, ↓reduceIte, hW1, hW2, hl1, hW4, hN, hout]
  rcases out with ⟨fk, err, conn', sr', got⟩ | v
  · obtain ⟨e, hC⟩ := E.hClose conn'
    simp [iAfter, iRet, hC]
    exact (apply_ite Except.ok _ _ _).symm
  · rfl

end PluginI

open PluginI in
theorem identity_client_tie {S σ υ χ : Type} (E : PluginEnv S σ υ χ)
    (encoding grease : String) (stanzas : List Plugin.Stanza) :
    ∃ (res : Bytes × Option Go.Err) (c : χ), plugin_Identity_Unwrap E.Open E.W E.Close (bs grease) E.M E.New E.Rd E.Hd E.rem
        ⟨E.name, bs encoding, E.u⟩ (stanzas.map goAS) = .ok (res.1, res.2, some c) ∧
      let o := identityClient E.ui E.dec E.st0 encoding stanzas grease E.script
      E.absC c = o.phase1 ++ o.replies ∧ E.uiOf c = o.ui ∧
      match o.result with
      | .ok k => res.1 = k ∧ res.2 = none
      | .error e => res.1 = [] ∧ iErrRel E e res.2 := by
  obtain ⟨c, sr, hA, hU, hS, hrun⟩ := unwrap_eq E encoding grease stanzas
  obtain ⟨c', out, hout, ha, hu, hfin⟩ := read_loop E (fun fuel s conn sr => iLoop_succ E (bs encoding) none fuel _ conn sr _)
    (fun _ => rfl) (iBody_follows E (bs encoding) none) E.script.fin E.script.msgs (E.rem sr + 1)
    ⟨E.st0, false, []⟩ c sr hS (by rw [E.hRem, hS]; exact Nat.lt_succ_self _) hU
  rw [hA] at ha
  rw [hrun out hout]
  simp only [identityClient]
  generalize run (identityStep E.ui E.dec) ⟨E.st0, false, []⟩ E.script.msgs E.script.fin = t at ha hu hfin ⊢
  match out, hfin with
  | .ret v, ⟨e, g, hv, hres, hrel⟩ =>
    subst hv
    rw [hres]
    exact ⟨([], g), c', rfl, ha, hu, rfl, hrel⟩
  | .next a, ⟨sr', ha', hres⟩ =>
    subst ha'
    rw [hres]
    simp only [iAfter, iFinish]
    by_cases hfk : t.state.fileKey = []
    · simp only [if_pos hfk]
      exact ⟨([], age_ErrIncorrectIdentity), c', rfl, ha, hu, rfl, rfl⟩
    · simp only [if_neg hfk]
      exact ⟨(_, none), c', rfl, ha, hu, rfl, rfl⟩

end GoTie
end AgeModel
