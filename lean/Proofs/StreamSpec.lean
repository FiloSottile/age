/-
  Proofs.StreamSpec — the Spec layer of STREAM: the fuel-free `enc` with its equations, the one-step equations of
  `decFrom`, and the round trip. (Fuel independence of `decFrom` and the fuel-free `dec` are in Proofs.StreamReader.)
-/
import AgeModel.Laws
namespace AgeModel
namespace Stream

theorem nonce_length (i : Nat) (f : Bool) : (nonce i f).length = 12 := by
  simp [nonce, be_length]

theorem nonce_flag_ne (i : Nat) : nonce i true ≠ nonce i false := by
  intro h
  have := congrArg List.getLast? h
  simp [nonce] at this

theorem encFrom_fuel (A : AEAD) (C : Nat) (hC : 0 < C) (k : Bytes) :
    ∀ (f : Nat) (i : Nat) (p : Bytes) (f' : Nat), p.length < f → p.length < f' →
      encFrom A C k i p f = encFrom A C k i p f' := by
  intro f
  induction f with
  | zero => intro i p f' h; omega
  | succ f ih =>
    intro i p f' h h'
    match f' with
    | 0 => omega
    | f'+1 =>
      unfold encFrom
      by_cases hle : p.length ≤ C
      · simp only [hle, if_true]
      · simp only [hle, if_false]
        have : (p.drop C).length < f := by rw [List.length_drop]; omega
        have : (p.drop C).length < f' := by rw [List.length_drop]; omega
        rw [ih (i+1) (p.drop C) f' ‹_› ‹_›]

def enc (A : AEAD) (C : Nat) (k : Bytes) (i : Nat) (p : Bytes) : Bytes := encFrom A C k i p (p.length + 1)

theorem encrypt_eq_enc (A : AEAD) (C : Nat) (k p : Bytes) : encrypt A C k p = enc A C k 0 p := rfl

theorem enc_short (A : AEAD) (C : Nat) (k : Bytes) (i : Nat) (p : Bytes) (h : p.length ≤ C) :
    enc A C k i p = A.sealF k (nonce i true) p := by
  unfold enc encFrom; simp [h]

theorem enc_long (A : AEAD) (C : Nat) (hC : 0 < C) (k : Bytes) (i : Nat) (p : Bytes) (h : C < p.length) :
    enc A C k i p = A.sealF k (nonce i false) (p.take C) ++ enc A C k (i+1) (p.drop C) := by
  have hn : ¬ p.length ≤ C := by omega
  unfold enc
  rw [encFrom]
  simp only [hn, if_false]
  congr 1
  apply encFrom_fuel A C hC k
  · rw [List.length_drop]; omega
  · omega

theorem enc_cons_chunk (A : AEAD) (C : Nat) (hC : 0 < C) (k : Bytes) (i : Nat) (a q : Bytes)
    (ha : a.length = C) (hq : q ≠ []) :
    enc A C k i (a ++ q) = A.sealF k (nonce i false) a ++ enc A C k (i+1) q := by
  have hqpos : 0 < q.length := List.length_pos_iff.mpr hq
  rw [enc_long A C hC k i (a ++ q) (by rw [List.length_append]; omega), List.take_left' ha, List.drop_left' ha]

section decFromStep
variable (A : AEAD) (C : Nat) (k : Bytes) (sf : Bool) (i : Nat) (c : Bytes) (fuel : Nat)

theorem decFrom_short (h : c.length < C + A.T) :
    decFrom A C k sf i c (fuel+1) =
      if sf then ([], .srcErr)
      else if c.length = 0 then ([], .truncated)
      else if i ≠ 0 ∧ c.length = A.T then ([], .emptyLast)
      else match A.openF k (nonce i true) c with
        | some p => (p, .eof)
        | none => ([], .authFail) := by
  rw [decFrom]
  exact if_pos h

theorem decFrom_full_some (h : ¬ c.length < C + A.T) {p : Bytes}
    (hop : A.openF k (nonce i false) (c.take (C + A.T)) = some p) :
    decFrom A C k sf i c (fuel+1) =
      (p ++ (decFrom A C k sf (i+1) (c.drop (C + A.T)) fuel).1, (decFrom A C k sf (i+1) (c.drop (C + A.T)) fuel).2) := by
  rw [decFrom]
  simp only [if_neg h, hop]

theorem decFrom_full_last (h : ¬ c.length < C + A.T) {p : Bytes}
    (hop : A.openF k (nonce i false) (c.take (C + A.T)) = none)
    (hop' : A.openF k (nonce i true) (c.take (C + A.T)) = some p) :
    decFrom A C k sf i c (fuel+1) =
      if (c.drop (C + A.T)).length = 0 then (p, if sf then .srcErr else .eof) else (p, .trailing) := by
  rw [decFrom]
  simp only [if_neg h, hop, hop']

theorem decFrom_full_fail (h : ¬ c.length < C + A.T)
    (hop : A.openF k (nonce i false) (c.take (C + A.T)) = none)
    (hop' : A.openF k (nonce i true) (c.take (C + A.T)) = none) :
    decFrom A C k sf i c (fuel+1) = ([], .authFail) := by
  rw [decFrom]
  simp only [if_neg h, hop, hop']

end decFromStep

theorem decFrom_last_chunk (A : AEAD) (hA : A.Correct) (hN : A.NonceSep) (C : Nat) (k : Bytes) (i : Nat) (p : Bytes)
    (hle : p.length ≤ C) (hinv : i = 0 ∨ p ≠ []) (fuel : Nat) :
    decFrom A C k false i (A.sealF k (nonce i true) p) (fuel+1) = (p, .eof) := by
  have hT := hA.T_pos
  have hl := hA.seal_len k (nonce i true) p
  by_cases hlt : p.length < C
  · have hemp : ¬(i ≠ 0 ∧ (A.sealF k (nonce i true) p).length = A.T) := fun ⟨hi, hlen⟩ =>
      hinv.elim hi fun hp => hp (List.eq_nil_of_length_eq_zero (by omega))
    rw [decFrom_short A C k false i _ fuel (by omega), if_neg Bool.false_ne_true, if_neg (by omega), if_neg hemp,
      hA.open_seal]
  · -- exactly `C` bytes: a full chunk that must not open as a non-final one
    have hnl : ¬(A.sealF k (nonce i true) p).length < C + A.T := by omega
    have htk : (A.sealF k (nonce i true) p).take (C + A.T) = A.sealF k (nonce i true) p :=
      List.take_of_length_le (by omega)
    have hdr : ((A.sealF k (nonce i true) p).drop (C + A.T)).length = 0 := by rw [List.length_drop]; omega
    rw [decFrom_full_last A C k false i _ fuel hnl
        (by rw [htk]; exact hN k _ _ p (nonce_length _ _) (nonce_length _ _) (nonce_flag_ne i))
        (by rw [htk]; exact hA.open_seal _ _ _),
      if_pos hdr, if_neg Bool.false_ne_true]

theorem roundtrip_aux (A : AEAD) (hA : A.Correct) (hN : A.NonceSep) (C : Nat) (hC : 0 < C) (k : Bytes) :
    ∀ (fuel : Nat) (p : Bytes) (i : Nat), (i = 0 ∨ p ≠ []) → (enc A C k i p).length < fuel →
      decFrom A C k false i (enc A C k i p) fuel = (p, .eof) := by
  intro fuel
  induction fuel with
  | zero => intro p i _ hf; omega
  | succ f ih =>
    intro p i hinv hf
    by_cases hle : p.length ≤ C
    · rw [enc_short A C k i p hle]
      exact decFrom_last_chunk A hA hN C k i p hle hinv f
    have hs : (A.sealF k (nonce i false) (p.take C)).length = C + A.T := by
      rw [hA.seal_len, List.length_take, Nat.min_eq_left (by omega)]
    rw [enc_long A C hC k i p (by omega)] at hf ⊢
    have hdl : (p.drop C).length = p.length - C := List.length_drop
    rw [List.length_append, hs] at hf
    rw [decFrom_full_some A C k false i _ f (by rw [List.length_append, hs]; omega)
        (by rw [List.take_left' hs]; exact hA.open_seal _ _ _),
      List.drop_left' hs, ih (p.drop C) (i+1) (Or.inr (List.ne_nil_of_length_pos (by omega))) (by omega)]
    show (p.take C ++ p.drop C, Outcome.eof) = _
    rw [List.take_append_drop]

theorem stream_roundtrip (A : AEAD) (hA : A.Correct) (hN : A.NonceSep) (C : Nat) (hC : 0 < C) (k p : Bytes) :
    decrypt A C k (encrypt A C k p) = (p, .eof) :=
  roundtrip_aux A hA hN C hC k _ p 0 (Or.inl rfl) (Nat.lt_succ_self _)

end Stream
end AgeModel
