/-
  Proofs.StreamFault — a failing source never yields a clean end of stream, and what
  is released before the failure is a prefix of what the complete input yields.
-/
import Proofs.StreamReaderTop
namespace AgeModel
namespace Stream

theorem decFrom_fail_ne_eof (A : AEAD) (C : Nat) (k : Bytes) :
    ∀ (fuel i : Nat) (c : Bytes), (decFrom A C k true i c fuel).2 ≠ .eof := by
  intro fuel
  induction fuel with
  | zero => intro i c; nofun
  | succ fuel ih =>
    intro i c
    by_cases hs : c.length < C + A.T
    · rw [decFrom_short A C k true i c fuel hs, if_pos rfl]
      nofun
    · cases hop : A.openF k (nonce i false) (c.take (C + A.T)) with
      | some p =>
        rw [decFrom_full_some A C k true i c fuel hs hop]
        exact ih _ _
      | none =>
        cases hop' : A.openF k (nonce i true) (c.take (C + A.T)) with
        | none =>
          rw [decFrom_full_fail A C k true i c fuel hs hop hop']
          nofun
        | some p =>
          -- a failing source turns the clean end after a final chunk into `srcErr`
          rw [decFrom_full_last A C k true i c fuel hs hop hop', if_pos rfl]
          exact iteInduction (motive := fun r : Bytes × Outcome => r.2 ≠ .eof) (fun _ => nofun) fun _ => nofun

theorem decFrom_fail_prefix (A : AEAD) (C : Nat) (hE : 0 < C + A.T) (k : Bytes) :
    ∀ (fuel i : Nat) (c : Bytes) (cut : Nat), c.length < fuel →
      (decFrom A C k true i (c.take cut) fuel).1 <+: (decFrom A C k false i c fuel).1 := by
  intro fuel
  induction fuel with
  | zero => intro i c cut h; omega
  | succ fuel ih =>
    intro i c cut hf
    by_cases hshort : (c.take cut).length < C + A.T
    · rw [decFrom_short A C k true i _ fuel hshort, if_pos rfl]
      exact List.nil_prefix
    · -- the cut leaves the first chunk whole: both readers see the same chunk, then the cut and the whole rest
      have hl : (c.take cut).length = min cut c.length := List.length_take
      have hns : ¬ c.length < C + A.T := by omega
      have htake : (c.take cut).take (C + A.T) = c.take (C + A.T) := by
        rw [List.take_take, Nat.min_eq_left (by omega)]
      have hdrop : (c.take cut).drop (C + A.T) = (c.drop (C + A.T)).take (cut - (C + A.T)) := List.drop_take
      cases hop : A.openF k (nonce i false) (c.take (C + A.T)) with
      | some p =>
        rw [decFrom_full_some A C k true i _ fuel hshort (htake ▸ hop), decFrom_full_some A C k false i c fuel hns hop, hdrop]
        exact (List.prefix_append_right_inj p).mpr
          (ih (i+1) (c.drop (C + A.T)) (cut - (C + A.T)) (by rw [List.length_drop]; omega))
      | none =>
        cases hop' : A.openF k (nonce i true) (c.take (C + A.T)) with
        | none =>
          rw [decFrom_full_fail A C k true i _ fuel hshort (htake ▸ hop) (htake ▸ hop')]
          exact List.nil_prefix
        | some p =>
          rw [decFrom_full_last A C k true i _ fuel hshort (htake ▸ hop) (htake ▸ hop'),
            decFrom_full_last A C k false i c fuel hns hop hop']
          rw [← apply_ite (Prod.mk p), ← apply_ite (Prod.mk p)]
          exact List.prefix_refl p

theorem dec_fail_prefix (A : AEAD) (C : Nat) (hE : 0 < C + A.T) (k : Bytes) (i : Nat) (c : Bytes) (cut : Nat) :
    (dec A C k true i (c.take cut)).1 <+: (dec A C k false i c).1 := by
  unfold dec
  have h1 := decFrom_fail_prefix A C hE k (c.length + 1) i c cut (by omega)
  have hl : (c.take cut).length ≤ c.length := by rw [List.length_take]; omega
  rw [decFrom_fuel A C hE k true ((c.take cut).length + 1) i (c.take cut) (c.length + 1) (by omega) (by omega)]
  exact h1

end Stream
end AgeModel
