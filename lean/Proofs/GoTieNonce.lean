/-
  Proofs.GoTieNonce — internal/stream: incNonce, setLastChunkFlag, nonceIsZero as translated are the model's nonce arithmetic
-/
import AgeModel.Extracted.Funcs
import Proofs.Nonce
import Proofs.GoBind
namespace AgeModel
namespace GoTie
open Extracted

/-- `[n-1, n-2, …, 0]` -/
def downFrom : Nat → List Int
  | 0 => []
  | n + 1 => Int.ofNat n :: downFrom n

theorem idx_append_mid {α : Type} (p : List α) (x : α) (q : List α) (n : Nat) (hn : p.length = n) :
    Go.idx (p ++ x :: q) (Int.ofNat n) = .ok x := by
  subst hn
  simp [Go.idx]

theorem set_append_mid {α : Type} (p : List α) (x y : α) (q : List α) (n : Nat) (hn : p.length = n) :
    Go.set (p ++ x :: q) (Int.ofNat n) y = .ok (p ++ y :: q) := by
  subst hn
  simp [Go.set]

theorem toUInt8_succ (m : Nat) : m.toUInt8 + 1 = (m + 1).toUInt8 := by
  apply UInt8.toNat_inj.mp
  simp [Nat.toUInt8]

theorem incNonce_loop : ∀ (n i : Nat) (suffix : Bytes), i + 1 < 256 ^ n →
    stream_incNonce_loop1 (downFrom n) (be n i ++ suffix) = .ok (.next (be n (i + 1) ++ suffix))
  | 0, i, suffix, h => by simp at h
  | n + 1, i, suffix, h => by
    have hlen := be_length n (i / 256)
    simp only [downFrom, be, stream_incNonce_loop1, List.append_assoc, List.singleton_append,
      idx_append_mid _ _ _ n hlen, set_append_mid _ _ _ _ n hlen, Go.bind_ok, pure, Except.pure]
    rw [toUInt8_succ]
    by_cases hc : i % 256 = 255
    · have h0 : (i % 256 + 1).toUInt8 = 0 := by rw [hc]; rfl
      have hq : i / 256 + 1 < 256 ^ n := by rw [Nat.pow_succ] at h; omega
      have hn : n ≠ 0 := by intro h0; subst h0; simp at hq
      have e1 : (i + 1) / 256 = i / 256 + 1 := by omega
      have e2 : (i + 1) % 256 = 0 := by omega
      rw [h0, e1, e2]
      have hn' : (Int.ofNat n == 0) = false := by
        simp only [Int.ofNat_eq_natCast, beq_eq_false_iff_ne, ne_eq]; omega
      simp only [bne_self_eq_false, Bool.false_eq_true, if_false, hn']
      exact incNonce_loop n (i / 256) _ hq
    · have h0 : ((i % 256 + 1).toUInt8 != 0) = true := by
        simp only [bne_iff_ne, ne_eq]
        intro hh
        have := congrArg UInt8.toNat hh
        simp [Nat.toUInt8] at this
        omega
      have e1 : (i + 1) / 256 = i / 256 := by omega
      have e2 : (i + 1) % 256 = i % 256 + 1 := by omega
      rw [e1, e2]
      simp only [h0, if_true]

theorem rangeDown_10_0 : Go.rangeDown 10 0 = downFrom 11 := by decide

theorem incNonce_tie (i : Nat) (last : Bool) (h : i + 1 < 2 ^ 88) :
    stream_incNonce (Stream.nonce i last) = .ok (Stream.nonce (i + 1) last) := by
  have h' : i + 1 < 256 ^ 11 := by
    have e : (256 : Nat) ^ 11 = 2 ^ 88 := by decide
    rw [e]; exact h
  simp only [stream_incNonce, rangeDown_10_0, Stream.nonce, incNonce_loop 11 i _ h', Go.bind_ok,
    pure, Except.pure]

/-- the explicit panic of `incNonce` is exactly the wrap of the 88-bit counter -/
theorem incNonce_wrap (last : Bool) :
    stream_incNonce (Stream.nonce (2 ^ 88 - 1) last) = .error (.panic 0) := by
  cases last <;> rfl

theorem setLastChunkFlag_eq (n : Bytes) : stream_setLastChunkFlag n = Go.set n 11 1 := by
  unfold stream_setLastChunkFlag
  cases Go.set n 11 1 <;> rfl

theorem setLastChunkFlag_tie (i : Nat) (last : Bool) :
    stream_setLastChunkFlag (Stream.nonce i last) = .ok (Stream.nonce i true) := by
  rw [setLastChunkFlag_eq, Stream.nonce, Stream.nonce]
  exact set_append_mid _ _ _ _ 11 (be_length 11 i)

theorem nonceIsZero_eq (n : Bytes) : stream_nonceIsZero n = .ok (n == List.replicate 12 0) := rfl

theorem nonce_zero : Stream.nonce 0 false = List.replicate 12 0 := by decide

theorem nonceIsZero_tie (i : Nat) (last : Bool) (h : i < 2 ^ 88) :
    stream_nonceIsZero (Stream.nonce i last) = .ok (decide (i = 0 ∧ last = false)) := by
  rw [nonceIsZero_eq, ← nonce_zero]
  refine congrArg Except.ok (Bool.eq_iff_iff.mpr ?_)
  rw [beq_iff_eq, decide_eq_true_iff]
  constructor
  · exact Stream.nonce_inj i 0 last false h (Nat.two_pow_pos 88)
  · rintro ⟨rfl, rfl⟩; rfl

end GoTie
end AgeModel
