/-
  Proofs.GoTieSmall — `format.DecodeString` (CR and LF refused before the decoder is asked) and
  `agessh.sshFingerprint` (first four bytes of SHA-256 of the wire form, unpadded base64), translated
  on every run.
-/
import AgeModel.GoSem
import AgeModel.Format
import AgeModel.Recipients
import AgeModel.Extracted.Funcs
import Proofs.GoBuf
namespace AgeModel
namespace GoTie
open Extracted

theorem decodeString_tie {ε : Type} (Dec : ε → Bytes → Go.M (Bytes × Option Go.Err)) (b64 : ε) (s : Bytes) :
    format_DecodeString Dec b64 s =
      if s.any (fun c => c = Format.nl || c = Format.cr) = true then .ok ([], some ⟨"format.DecodeString", 0, []⟩)
      else Dec b64 s := by
  unfold format_DecodeString
  have hc : Go.bytes_ContainsAny s [10, 13] = s.any (fun c => c = Format.nl || c = Format.cr) := by
    simp only [Go.bytes_ContainsAny, Format.nl, Format.cr, List.contains_cons, List.contains_nil, Bool.or_false]
    rfl
  simp only [hc, bind_pure]
  rfl

/-- with a decoder that is the model's strict unpadded base64, `format.DecodeString` is the model's `decodeString` -/
theorem decodeString_model {ε : Type} (Dec : ε → Bytes → Go.M (Bytes × Option Go.Err)) (b64 : ε) (eD : Go.Err)
    (hDec : ∀ s, Dec b64 s = .ok (match B64.decRaw s with | some b => (b, none) | none => ([], some eD))) (s : Bytes) :
    ∃ r, format_DecodeString Dec b64 s = .ok r ∧
      match Format.decodeString s with
      | some b => r = (b, none)
      | none => r.1 = [] ∧ r.2 ≠ none := by
  rw [decodeString_tie, hDec]
  unfold Format.decodeString
  split
  · exact ⟨_, rfl, rfl, by simp⟩
  · cases B64.decRaw s with
    | some b => exact ⟨_, rfl, rfl⟩
    | none => exact ⟨_, rfl, rfl, by simp⟩

theorem sshFingerprint_tie {π : Type} (P : Prims) (wire : π → Bytes)
    (Sum : Bytes → Go.M Bytes) (hSum : ∀ b, Sum b = .ok (P.sha256 b)) (hLen : ∀ b, (P.sha256 b).length = 32)
    (Mar : π → Go.M Bytes) (hMar : ∀ k, Mar k = .ok (wire k))
    (Enc : Bytes → Go.M Bytes) (hEnc : ∀ b, Enc b = .ok (B64.encRaw b)) (k : π) :
    agessh_sshFingerprint Sum Mar Enc k = .ok (sshTag P (wire k)) := by
  unfold agessh_sshFingerprint sshTag
  have hs : Go.slice (P.sha256 (wire k)) 0 4 = .ok ((P.sha256 (wire k)).take 4) :=
    Go.slice_upto _ 4 (by rw [hLen]; decide)
  simp only [hMar, hSum, bind, Except.bind, hs, hEnc]

end GoTie
end AgeModel
