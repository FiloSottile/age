/-
  Lemmas about the World of AgeModel.Cli, and the invariant of a run that has
  a regular file open for writing (`FileAt`).
-/
import AgeModel.Cli
namespace AgeModel
namespace Cli

namespace World

@[simp] theorem get_set_same (w : World) (t : Path) (n : Node) : (w.set t n).get t = n := by
  simp [get, set, lookup]

@[simp] theorem get_set_other (w : World) (t u : Path) (n : Node) (h : t ≠ u) : (w.set t n).get u = w.get u := by
  simp [get, set, lookup, h]

@[simp] theorem set_cwd (w : World) (t : Path) (n : Node) : (w.set t n).cwd = w.cwd := rfl
@[simp] theorem set_fsize (w : World) (t : Path) (n : Node) : (w.set t n).fsize = w.fsize := rfl
@[simp] theorem set_umask (w : World) (t : Path) (n : Node) : (w.set t n).umask = w.umask := rfl
@[simp] theorem set_stdout (w : World) (t : Path) (n : Node) : (w.set t n).stdout = w.stdout := rfl
@[simp] theorem set_closeFails (w : World) (t : Path) (n : Node) : (w.set t n).closeFails = w.closeFails := rfl
@[simp] theorem set_stdinTerminal (w : World) (t : Path) (n : Node) : (w.set t n).stdinTerminal = w.stdinTerminal := rfl

theorem get_set (w : World) (t u : Path) (n : Node) : (w.set t n).get u = if t = u then n else w.get u := by
  by_cases h : t = u
  · subst h; simp
  · simp [h]

end World

@[simp] theorem accept_nil (cap : Option Nat) : accept cap 0 [] = ([], true) := by
  cases cap <;> simp [accept]

theorem accept_ok (cap : Option Nat) (n : Nat) (d : Bytes) (h : (accept cap n d).2 = true) :
    (accept cap n d).1 = d := by
  unfold accept at *
  cases cap with
  | none => rfl
  | some c =>
    simp only at h ⊢
    split
    · rfl
    · rename_i hc; simp [hc] at h

theorem accept_prefix (cap : Option Nat) (n : Nat) (d : Bytes) : (accept cap n d).1 <+: d := by
  unfold accept
  cases cap with
  | none => exact List.prefix_refl d
  | some c =>
    simp only
    split
    · exact List.prefix_refl d
    · exact List.take_prefix _ d

theorem accept_fail_length (cap : Option Nat) (n : Nat) (d : Bytes) (hn : ∀ c, cap = some c → n ≤ c)
    (h : (accept cap n d).2 = false) : (accept cap n d).1.length < d.length := by
  unfold accept at *
  cases cap with
  | none => simp at h
  | some c =>
    simp only at h ⊢
    split
    · rename_i hc; simp [hc] at h
    · rename_i hc
      rw [List.length_take]
      exact Nat.lt_of_le_of_lt (Nat.min_le_left _ _)
        (Nat.sub_lt_left_of_lt_add (hn c rfl) (Nat.lt_of_not_le hc))

theorem accept_fail_ne (cap : Option Nat) (n : Nat) (d : Bytes) (hn : ∀ c, cap = some c → n ≤ c)
    (h : (accept cap n d).2 = false) : (accept cap n d).1 ≠ d := by
  intro e
  have := accept_fail_length cap n d hn h
  rw [e] at this
  exact Nat.lt_irrefl _ this

theorem accept_zero_some (c : Nat) (d : Bytes) :
    accept (some c) 0 d = if d.length ≤ c then (d, true) else (d.take c, false) := by
  simp [accept]

theorem accept_ok_iff (cap : Option Nat) (d : Bytes) : (accept cap 0 d).2 = true ↔ (accept cap 0 d).1 = d := by
  refine ⟨accept_ok cap 0 d, fun h => ?_⟩
  cases hok : (accept cap 0 d).2 with
  | true => rfl
  | false => exact absurd h (accept_fail_ne cap 0 d (fun _ _ => Nat.zero_le _) hok)

theorem accept_too_long (c : Nat) (d : Bytes) (h : c < d.length) : (accept (some c) 0 d).2 = false := by
  rw [accept_zero_some, if_neg (Nat.not_le.2 h)]

theorem accept_ok_le (n : Nat) (c : Nat) (a : Bytes) (h : (accept (some c) n a).2 = true) : n + a.length ≤ c := by
  apply Classical.byContradiction
  intro h1
  simp only [accept, if_neg h1] at h
  cases h

theorem accept_append_ok (cap : Option Nat) (n : Nat) (a b : Bytes) (h : (accept cap n a).2 = true) :
    accept cap n (a ++ b) = (a ++ (accept cap (n + a.length) b).1, (accept cap (n + a.length) b).2) := by
  cases cap with
  | none => rfl
  | some c =>
    have h1 := accept_ok_le n c a h
    simp only [accept, List.length_append, ← Nat.add_assoc]
    by_cases h2 : n + a.length + b.length ≤ c
    · simp only [if_pos h2]
    · simp only [if_neg h2]
      rw [List.take_append, List.take_of_length_le (Nat.le_sub_of_add_le' h1), Nat.sub_add_eq]

theorem accept_append_fail (cap : Option Nat) (n : Nat) (a b : Bytes) (h : (accept cap n a).2 = false) :
    accept cap n (a ++ b) = accept cap n a := by
  cases cap with
  | none => cases h
  | some c =>
    simp only [accept] at h ⊢
    by_cases h1 : n + a.length ≤ c
    · rw [if_pos h1] at h; cases h
    · -- what is left of the capacity ends inside `a`
      have h3 : ¬ n + (a ++ b).length ≤ c := by rw [List.length_append]; omega
      rw [if_neg h1, if_neg h3, List.take_append_of_le_length (by omega)]

/-- the status of a run that writes `d` to a new or truncated file and closes it: 0 exactly
    when the close succeeds and the file has taken all of `d` -/
theorem file_exit0_iff (cap : Option Nat) (d : Bytes) (closeFails : Bool) :
    (if (accept cap 0 d).2 && !closeFails then 0 else 1) = 0 ↔ closeFails = false ∧ (accept cap 0 d).1 = d := by
  rw [← accept_ok_iff]
  cases (accept cap 0 d).2 <;> cases closeFails <;> simp

theorem and_and_zero (a b c : Nat) (h : a &&& c = 0) : (a &&& b) &&& c = 0 := by
  rw [Nat.and_assoc, Nat.and_comm b c, ← Nat.and_assoc, h, Nat.zero_and]

/-- a key file is never readable by group or others, whatever the umask -/
theorem applyUmask_600_private (u : Nat) : applyUmask 0o600 u &&& 0o077 = 0 := by
  unfold applyUmask
  exact and_and_zero _ _ _ (by decide)

/-- with a umask that leaves the owner's bits alone the mode is exactly 0600 -/
theorem applyUmask_600_exact (u : Nat) (h : u &&& 0o600 = 0) : applyUmask 0o600 u = 0o600 := by
  -- `0o600` lies within `0o777`, and meets `u` nowhere
  have h1 : 0o600 &&& (u &&& 0o777) = 0 := by
    rw [← Nat.and_assoc, Nat.and_comm _ u, h, Nat.zero_and]
  unfold applyUmask
  rw [Nat.and_xor_distrib_left, h1, Nat.xor_zero]
  decide

theorem create_some (w w' : World) (p : Bytes) (t : Path) (h : create w p = some (w', t)) :
    resolve w p = some t ∧
    ((w.get t = .absent ∧ w' = w.set t (.file [] (applyUmask 0o666 w.umask))) ∨
     (∃ c m, w.get t = .file c m ∧ w' = w.set t (.file [] m)) ∨
     (w.get t = .devFull ∧ w' = w)) := by
  unfold create at h
  cases hr : resolve w p with
  | none => rw [hr] at h; cases h
  | some u =>
    rw [hr] at h
    dsimp only at h
    cases hg : w.get u <;> rw [hg] at h <;> cases h
    · exact ⟨rfl, Or.inl ⟨hg, rfl⟩⟩
    · exact ⟨rfl, Or.inr (Or.inl ⟨_, _, hg, rfl⟩)⟩
    · exact ⟨rfl, Or.inr (Or.inr ⟨hg, rfl⟩)⟩

theorem create_none (w : World) (p : Bytes) (h : create w p = none) :
    resolve w p = none ∨ ∃ t, resolve w p = some t ∧ w.get t = .dir := by
  unfold create at h
  cases hr : resolve w p with
  | none => exact Or.inl rfl
  | some u =>
    rw [hr] at h
    dsimp only at h
    cases hg : w.get u <;> rw [hg] at h <;> cases h
    exact Or.inr ⟨u, rfl, hg⟩

theorem createExcl_some (w w' : World) (p : Bytes) (t : Path) (h : createExcl w p = some (w', t)) :
    resolve w p = some t ∧ w.get t = .absent ∧ w' = w.set t (.file [] (applyUmask 0o600 w.umask)) := by
  unfold createExcl at h
  cases hr : resolve w p with
  | none => rw [hr] at h; cases h
  | some u =>
    rw [hr] at h
    dsimp only at h
    cases hg : w.get u <;> rw [hg] at h <;> cases h
    exact ⟨rfl, hg, rfl⟩

/-- `O_EXCL`: an existing node of any kind makes the open fail -/
theorem createExcl_exists (w : World) (p : Bytes) (t : Path) (hr : resolve w p = some t)
    (hg : w.get t ≠ .absent) : createExcl w p = none := by
  unfold createExcl
  cases hn : w.get t with
  | absent => exact absurd hn hg
  | file c m => simp [hr, hn]
  | dir => simp [hr, hn]
  | devFull => simp [hr, hn]

theorem createExcl_of_absent (w : World) (name : Bytes) (t : Path) (hr : resolve w name = some t)
    (hg : w.get t = .absent) :
    createExcl w name = some (w.set t (.file [] (applyUmask 0o600 w.umask)), t) := by
  simp [createExcl, hr, hg]

theorem createExcl_unusable (w : World) (name : Bytes)
    (h : ¬ ∃ t, resolve w name = some t ∧ w.get t = .absent) : createExcl w name = none := by
  cases hr : resolve w name with
  | none => simp only [createExcl, hr]
  | some t => exact createExcl_exists w name t hr (fun hg => h ⟨t, hr, hg⟩)

/-- what standard output, nothing written to it so far, takes of `d`, and
    whether the call succeeds -/
def Stdout.takes : Stdout → Bytes → Bytes × Bool
  | .terminal, d => (d, true)
  | .devFull, _ => ([], false)
  | .limited cap, d => accept cap 0 d

theorem writeStdout_fresh (w : World) (d : Bytes) :
    ({ w := w } : Proc).writeStdout d = ({ w := w, emitted := (w.stdout.takes d).1 }, (w.stdout.takes d).2) := by
  cases hso : w.stdout <;> simp [Proc.writeStdout, Stdout.takes, hso]

theorem Stdout.takes_nil (s : Stdout) : s.takes [] = ([], decide (s ≠ .devFull)) := by
  cases s <;> simp [Stdout.takes]

theorem Stdout.takes_prefix (s : Stdout) (d : Bytes) : (s.takes d).1 <+: d := by
  cases s with
  | terminal => exact List.prefix_refl d
  | devFull => exact List.nil_prefix
  | limited cap => exact accept_prefix cap 0 d

theorem Stdout.takes_ok_iff (s : Stdout) (d : Bytes) : (s.takes d).2 = true ↔ (s.takes d).1 = d ∧ s ≠ .devFull := by
  cases s with
  | terminal => simp [Stdout.takes]
  | devFull => simp [Stdout.takes]
  | limited cap => simp [Stdout.takes, accept_ok_iff]

theorem Stdout.takes_of_outputFails {w : World} {d : Bytes} (h : OutputFails w d .stdout) :
    (w.stdout.takes d).2 = false := by
  cases h with
  | stdoutFull hso => rw [hso]; rfl
  | stdoutCap c hso hlt => rw [hso]; exact accept_too_long c d hlt

theorem writeStdout_append (p : Proc) (a b : Bytes) :
    p.writeStdout (a ++ b) =
      if (p.writeStdout a).2 then (p.writeStdout a).1.writeStdout b else p.writeStdout a := by
  cases hso : p.w.stdout with
  | terminal => simp [Proc.writeStdout, hso]
  | devFull => simp [Proc.writeStdout, hso]
  | limited cap =>
    simp only [Proc.writeStdout, hso]
    cases hok : (accept cap p.emitted.length a).2 with
    | true => simp [accept_append_ok _ _ _ _ hok, accept_ok _ _ _ hok]
    | false => simp [accept_append_fail _ _ _ _ hok, hok]

/-- `p` runs in a world that differs from `w` in the regular file at `t`, which holds `c` -/
structure FileAt (w : World) (t : Path) (m : Nat) (c : Bytes) (p : Proc) : Prop where
  node : p.w.get t = .file c m
  frame : ∀ u, u ≠ t → p.w.get u = w.get u
  fsize : p.w.fsize = w.fsize
  closeFails : p.w.closeFails = w.closeFails

theorem FileAt.set (w : World) (t : Path) (m : Nat) (c : Bytes) (p : Proc) (h : p.w = w.set t (.file c m)) :
    FileAt w t m c p := by
  refine ⟨?_, fun u hu => ?_, ?_, ?_⟩ <;> rw [h]
  · exact World.get_set_same ..
  · exact World.get_set_other _ _ _ _ (Ne.symm hu)
  · rfl
  · rfl

theorem FileAt.writeFile {w : World} {t : Path} {m : Nat} {c : Bytes} {p : Proc} (h : FileAt w t m c p) (d : Bytes) :
    FileAt w t m (c ++ (accept w.fsize c.length d).1) (p.writeFile t d).1 ∧
    (p.writeFile t d).2 = (accept w.fsize c.length d).2 := by
  simp only [Proc.writeFile, h.node, h.fsize]
  exact ⟨⟨World.get_set_same .., fun u hu => (World.get_set_other _ _ _ _ (Ne.symm hu)).trans (h.frame u hu),
    h.fsize, h.closeFails⟩, trivial⟩

@[simp] theorem writeFile_emitted (p : Proc) (t : Path) (d : Bytes) : (p.writeFile t d).1.emitted = p.emitted := by
  unfold Proc.writeFile; split <;> rfl

@[simp] theorem writeFile_lz (p : Proc) (t : Path) (d : Bytes) : (p.writeFile t d).1.lz = p.lz := by
  unfold Proc.writeFile; split <;> rfl

/-- the return from main with the file still open: `close(2)` decides -/
theorem FileAt.close_result {w : World} {t : Path} {m : Nat} {c : Bytes} {q : Proc} (h : FileAt w t m c q)
    (he : q.emitted = []) (ok : Bool) :
    (if ok then q.result (if q.w.closeFails then 1 else 0) else q.result 1) =
      ⟨if ok && !w.closeFails then 0 else 1, q.w, []⟩ := by
  rw [h.closeFails]
  cases ok <;> cases w.closeFails <;> simp [Proc.result, he]

end Cli
end AgeModel
