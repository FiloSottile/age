/-
  Proofs.GoTieCliEncrypt — `encrypt` of cmd/age/age.go, as it stands in the source.

  Translated on every run with everything outside the function as ONE explicit state (the "world":
  the output, the armor writer wrapped around it and the stream writer `age.Encrypt` returns are
  handles into it — `funcSpec.world`), `errorf` as an exit site, and the armor writer's `Close`, which
  the source defers INSIDE `if withArmor`, run at the end exactly when that branch was taken (a flag
  set where the `defer` stands). The theorems fix the order of effects of `age -e` and that EVERY
  failure — of `age.Encrypt`, of the copy, of the stream writer's `Close`, of the armor writer's
  `Close` — ends the process with a non-zero status: the function returns (and `main` goes on to
  exit 0) only if all of them reported success, in that order.
-/
import AgeModel.Extracted.Funcs
import Proofs.GoBind
namespace AgeModel
namespace GoTie
open Extracted

section
variable {ζ ρ τ : Type} (nilZ : ζ) (NW : ζ → τ → Go.M (ζ × τ))
  (Enc : ζ → List ρ → τ → Go.M (ζ × Option Go.Err × τ))
  (Cp : ζ → Bytes → τ → Go.M (Int × Option Go.Err × τ))
  (Cl : ζ → τ → Go.M (Option Go.Err × τ))

/-- what follows once the destination is settled: encrypt, copy, close the stream writer, then (armored) close the
    armor writer `a?` -/
def encryptTail (recs : List ρ) (inp : Bytes) (dst : ζ) (a? : Option ζ) (t1 : τ) : Go.M τ := do
  let e ← Enc dst recs t1
  if (e.2.1 != none) = true then .error (.panic 1000)
  else do
    let c ← Cp e.1 inp e.2.2
    if (c.2.1 != none) = true then .error (.panic 1001)
    else do
      let k ← Cl e.1 c.2.2
      if (k.1 != none) = true then .error (.panic 1002)
      else match a? with
        | none => pure k.2
        | some a => do
          let k2 ← Cl a k.2
          if (k2.1 != none) = true then .error (.panic 1003) else pure k2.2

theorem cli_encrypt_tie (recs : List ρ) (inp : Bytes) (out : ζ) (armor : Bool) (t0 : τ) :
    main_encrypt nilZ NW Enc Cp Cl recs inp out armor t0 =
      if armor = true then (do
        let r ← NW out t0
        encryptTail Enc Cp Cl recs inp r.1 (some r.1) r.2)
      else encryptTail Enc Cp Cl recs inp out none t0 := by
  cases armor <;> rfl

/-- the tail returns exactly when every step reported success, in order -/
theorem encryptTail_ok_iff (recs : List ρ) (inp : Bytes) (dst : ζ) (a? : Option ζ) (t1 t' : τ) :
    encryptTail Enc Cp Cl recs inp dst a? t1 = .ok t' ↔
      ∃ w t2 n t3 t4, Enc dst recs t1 = .ok (w, none, t2) ∧ Cp w inp t2 = .ok (n, none, t3) ∧
        Cl w t3 = .ok (none, t4) ∧
        match a? with
        | none => t' = t4
        | some a => Cl a t4 = .ok (none, t') := by
  unfold encryptTail
  constructor
  · intro h
    obtain ⟨⟨w, _, t2⟩, h1, rfl, h⟩ := Go.step_checked_ok.1 h
    obtain ⟨⟨n, _, t3⟩, h2, rfl, h⟩ := Go.step_checked_ok.1 h
    obtain ⟨⟨_, t4⟩, h3, rfl, h⟩ := Go.step_checked_ok.1 h
    refine ⟨w, t2, n, t3, t4, h1, h2, h3, ?_⟩
    cases a? with
    | none => cases h; rfl
    | some a =>
      obtain ⟨⟨_, _⟩, h4, rfl, h⟩ := Go.step_checked_ok.1 h
      cases h
      exact h4
  · rintro ⟨w, t2, n, t3, t4, h1, h2, h3, h4⟩
    refine Go.step_checked_ok.2 ⟨_, h1, rfl, Go.step_checked_ok.2 ⟨_, h2, rfl, Go.step_checked_ok.2 ⟨_, h3, rfl, ?_⟩⟩⟩
    cases a? with
    | none => rw [h4]; rfl
    | some a => exact Go.step_checked_ok.2 ⟨_, h4, rfl, rfl⟩

/-- `encrypt` returns — and only then can `age -e` exit 0 — exactly when the armor writer (if any) was set up and
    `age.Encrypt`, the copy of the whole input, the stream writer's `Close` and, last, the armor writer's `Close` all
    reported success; any failure is an exit site (status 1), and after it nothing further is done -/
theorem cli_encrypt_returns_iff (recs : List ρ) (inp : Bytes) (out : ζ) (armor : Bool) (t0 t' : τ) :
    main_encrypt nilZ NW Enc Cp Cl recs inp out armor t0 = .ok t' ↔
      ∃ dst t1, (if armor = true then NW out t0 = .ok (dst, t1) else dst = out ∧ t1 = t0) ∧
        ∃ w t2 n t3 t4, Enc dst recs t1 = .ok (w, none, t2) ∧ Cp w inp t2 = .ok (n, none, t3) ∧
          Cl w t3 = .ok (none, t4) ∧
          if armor = true then Cl dst t4 = .ok (none, t') else t' = t4 := by
  rw [cli_encrypt_tie]
  cases armor
  · simp only [Bool.false_eq_true, if_false, encryptTail_ok_iff]
    exact ⟨fun h => ⟨out, t0, ⟨rfl, rfl⟩, h⟩, fun ⟨_, _, ⟨hd, ht⟩, h⟩ => by rw [← hd, ← ht]; exact h⟩
  · simp only [if_true, Go.step_bind_ok, encryptTail_ok_iff]
    exact ⟨fun ⟨r, hr, h⟩ => ⟨r.1, r.2, hr, h⟩, fun ⟨d, t1, hr, h⟩ => ⟨(d, t1), hr, h⟩⟩

end

/-- both sides of `cli_encrypt_returns_iff` occur: a world in which everything succeeds, and one in which the armor
    writer's `Close` fails (exit site 3) -/
example : main_encrypt () (fun z t => .ok (z, t)) (fun z _ t => .ok (z, none, t)) (fun _ _ t => .ok (0, none, t))
    (fun _ t => .ok (none, t + 1)) ([] : List Unit) [] () true (0 : Nat) = .ok 2 := rfl
example : main_encrypt (0 : Nat) (fun _ t => .ok (1, t)) (fun _ _ t => .ok (2, none, t)) (fun _ _ t => .ok (0, none, t))
    (fun z (t : Nat) => .ok (if z = 1 then some ⟨"armor close", 0, []⟩ else none, t)) ([] : List Unit) [] 0 true (0 : Nat) =
      .error (.panic 1003) := rfl

end GoTie
end AgeModel
