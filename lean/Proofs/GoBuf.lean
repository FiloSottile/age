/-
  Proofs.GoBuf — the small facts about GoSem that the ties share: `err != nil`, `make` and `len`, length tests,
  shifts, `copy` into a buffer, views, slicing and indexing at a `Nat`.

  Integer constants are stated as `Int.ofNat n`; the generated code prints literals (`(32 : Int)`), which are
  the same term only up to unfolding: use these by `exact`/`have` with the literal form, not by `rw`.
-/
import Proofs.GoBind
namespace AgeModel
namespace Go

theorem none_bne_none : ((none : Option Err) != none) = false := by decide

theorem some_bne_none (e : Err) : ((some e : Option Err) != none) = true := bne_iff_ne.mpr nofun

theorem make32 : makeList (0 : UInt8) 32 = .ok (List.replicate 32 0) := by rw [makeList]; rfl
theorem make16 : makeList (0 : UInt8) 16 = .ok (List.replicate 16 0) := by rw [makeList]; rfl
theorem make0 : makeList (0 : UInt8) 0 = .ok [] := by rw [makeList]; rfl
theorem len_make32 : len (List.replicate 32 (0 : UInt8)) = Int.ofNat 32 := by rw [len]; rfl
theorem len_make16 : len (List.replicate 16 (0 : UInt8)) = Int.ofNat 16 := by rw [len]; rfl

theorem shiftCount_ofNat (n : Nat) : shiftCount (Int.ofNat n) = .ok n := by
  unfold shiftCount
  rw [if_neg (by simp only [Int.ofNat_eq_natCast]; omega)]; rfl

theorem shlInt_one (n : Nat) : shlInt 1 n = (2 : Int) ^ n := by simp [shlInt]

theorem len_cons_pos {α : Type} (a : α) (as : List α) : 0 < len (a :: as) := by
  have h0 : (0 : Int) ≤ (as.length : Int) := Int.natCast_nonneg _
  simp only [len, List.length_cons, Int.ofNat_eq_natCast, Int.natCast_add]
  omega

theorem len_bne_of_ne {α : Type} {l : List α} {n : Nat} (h : l.length ≠ n) : (len l != Int.ofNat n) = true :=
  bne_iff_ne.mpr fun e => h (Int.ofNat.inj e)

theorem len_bne_of_eq {α : Type} {l : List α} {n : Nat} (h : l.length = n) : (len l != Int.ofNat n) = false := by
  rw [len, h]; exact bne_self_eq_false _

theorem len_beq_zero {α : Type} (l : List α) : (len l == 0) = l.isEmpty := by
  cases l <;> rfl

theorem decide_len_gt {α : Type} (l : List α) (k : Nat) : decide (len l > Int.ofNat k) = decide (l.length > k) :=
  decide_eq_decide.mpr Int.ofNat_lt

theorem decide_len_lt {α : Type} (l : List α) (k : Nat) : decide (len l < Int.ofNat k) = decide (l.length < k) :=
  decide_eq_decide.mpr Int.ofNat_lt

theorem writeAt_zero (b d : Bytes) : writeAt b 0 d = d ++ b.drop d.length := by
  simp [writeAt]

theorem writeAt_fresh (n : Nat) (b : Bytes) (h : b.length = n) : writeAt (List.replicate n 0) 0 b = b := by
  simp [writeAt, h]

theorem writeAt_length (b : Bytes) (lo : Int) (d : Bytes) (h : lo.toNat + d.length ≤ b.length) :
    (writeAt b lo d).length = b.length := by
  unfold writeAt
  simp only [List.length_append, List.length_take, List.length_drop]
  omega

theorem writeAt_take (b : Bytes) (lo : Int) (d : Bytes) (h : lo.toNat + d.length ≤ b.length) :
    (writeAt b lo d).take (lo.toNat + d.length) = b.take lo.toNat ++ d := by
  unfold writeAt
  apply List.take_left'
  simp only [List.length_append, List.length_take]
  omega

/-- a buffer after a copy to its front, as `writeAt_zero` leaves it -/
theorem wz_length (b d : Bytes) (h : d.length ≤ b.length) : (d ++ b.drop d.length).length = b.length := by
  rw [List.length_append, List.length_drop]; omega

theorem wz_take (b d : Bytes) : (d ++ b.drop d.length).take d.length = d := by
  simp

theorem reslice_ok (lo cap a b : Int) (h : 0 ≤ a ∧ a ≤ b ∧ lo + b ≤ cap) :
    reslice lo cap a b = .ok (lo + a, lo + b) := by
  unfold reslice; rw [if_pos h]

theorem reslice_zero (c n : Int) (h0 : 0 ≤ n) (hc : n ≤ c) : reslice 0 c 0 n = .ok (0, n) := by
  rw [reslice_ok 0 c 0 n ⟨Int.le_refl 0, h0, by omega⟩, Int.zero_add, Int.zero_add]

theorem view_len (buf : Bytes) (lo hi : Int) (hb : 0 ≤ lo ∧ lo ≤ hi ∧ hi ≤ Int.ofNat buf.length) :
    Int.ofNat ((buf.take hi.toNat).drop lo.toNat).length = hi - lo := by
  simp only [Int.ofNat_eq_natCast] at hb
  simp only [List.length_drop, List.length_take, Int.ofNat_eq_natCast]
  omega

/-- `n := copy(p, buf[lo:hi]); lo += n`: what is copied, and the view that is left -/
theorem view_consume (buf u p : Bytes) (lo hi : Int) (hb : 0 ≤ lo ∧ lo ≤ hi ∧ hi ≤ Int.ofNat buf.length)
    (hu : u = (buf.take hi.toNat).drop lo.toNat) :
    slice buf lo hi = .ok u ∧ Int.ofNat u.length = hi - lo ∧
    min (len p) (len u) = Int.ofNat (u.take p.length).length ∧
    ∃ lo' hi', reslice lo (len buf) (Int.ofNat (u.take p.length).length) (hi - lo) = .ok (lo', hi') ∧
      (0 ≤ lo' ∧ lo' ≤ hi' ∧ hi' ≤ Int.ofNat buf.length) ∧ u.drop p.length = (buf.take hi'.toNat).drop lo'.toNat := by
  have hl : Int.ofNat u.length = hi - lo := by rw [hu]; exact view_len buf lo hi hb
  refine ⟨?_, hl, ?_, ?_⟩
  · unfold slice; rw [if_pos hb, hu]
  · simp only [len, List.length_take, Int.ofNat_eq_natCast]; omega
  · have hn : (u.take p.length).length = min p.length u.length := List.length_take
    simp only [Int.ofNat_eq_natCast] at hl hb
    have hc : 0 ≤ Int.ofNat (u.take p.length).length ∧ Int.ofNat (u.take p.length).length ≤ hi - lo ∧
        lo + (hi - lo) ≤ len buf := by
      simp only [len, hn, Int.ofNat_eq_natCast]; omega
    refine ⟨_, _, by unfold reslice; rw [if_pos hc], ?_, ?_⟩
    · simp only [hn, Int.ofNat_eq_natCast]; omega
    · have e1 : (lo + (hi - lo)).toNat = hi.toNat := by congr 1; omega
      have e2 : (lo + Int.ofNat (u.take p.length).length).toNat = lo.toNat + min p.length u.length := by
        simp only [hn, Int.ofNat_eq_natCast]; omega
      rw [e1, e2, hu, ← List.drop_drop, ← List.drop_eq_drop_min]

theorem slice_ofNat {α : Type} (a : List α) (lo hi : Nat) (h1 : lo ≤ hi) (h2 : hi ≤ a.length) :
    slice a (Int.ofNat lo) (Int.ofNat hi) = .ok ((a.take hi).drop lo) := by
  simp only [slice]
  rw [if_pos (by simp only [Int.ofNat_eq_natCast]; omega)]
  simp only [Int.ofNat_eq_natCast, Int.toNat_natCast]

theorem slice_upto {α : Type} (a : List α) (n : Nat) (h : n ≤ a.length) :
    slice a 0 (Int.ofNat n) = .ok (a.take n) :=
  slice_ofNat a 0 n (Nat.zero_le _) h

theorem slice_tail {α : Type} (p : List α) (n : Int) (h0 : 0 ≤ n) (h1 : n ≤ len p) :
    slice p n (len p) = .ok (p.drop n.toNat) := by
  unfold slice len; rw [if_pos ⟨h0, h1, Int.le_refl _⟩]
  simp only [Int.ofNat_eq_natCast, Int.toNat_natCast, List.take_length]

theorem idx_ofNat {α : Type} (a : List α) (i : Nat) (h : i < a.length) : idx a (Int.ofNat i) = .ok a[i] := by
  simp [idx, h]

end Go
end AgeModel
