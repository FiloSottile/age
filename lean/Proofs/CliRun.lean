/-
  What `execute` (the model of `decrypt`/`encrypt` plus the return from main)
  does, destination by destination.  `execute` is one generic delivery
  (`deliver`: the write calls, `Proc.offer`, then the return from main) of the
  byte string the plan wants to write.

  Throughout, `d` is what is to be written, `nf` says that an empty write comes
  first (`out.Write(nil)` in `decrypt`), `succ` that writing all of `d` is
  success, and `hcall : nf = false → d ≠ []` that at least one write call is made.
-/
import Proofs.CliWorld
namespace AgeModel
namespace Cli

/-- what a plan tries to write: the bytes, whether an empty write comes first
    (`out.Write(nil)` in `decrypt`), and whether writing all of it is success -/
def Plan.stream : Plan → Option (Bytes × Bool × Bool)
  | .dec .headerRefused => none
  | .dec (.ok pt none) => some (pt, true, true)
  | .dec (.ok pt (some n)) => some (pt.take n, true, false)
  | .encFail => none
  | .encInputFail fl => some (fl, false, false)
  | .enc ct => some (ct, false, true)

def Proc.offer (dest : Dest) (p : Proc) (d : Bytes) (nf : Bool) : Proc × Bool :=
  let r1 := if nf then p.write dest [] else (p, true)
  if r1.2 then r1.1.writeNE dest d else r1

def deliver (dest : Dest) (w : World) (d : Bytes) (nf succ : Bool) : Result :=
  let r := ({ w := w } : Proc).offer dest d nf
  if r.2 && succ then r.1.finish dest else r.1.result 1

theorem execute_eq_deliver (dest : Dest) (plan : Plan) (w : World) :
    execute dest plan w =
      match plan.stream with
      | none => ⟨1, w, []⟩
      | some (d, nf, succ) => deliver dest w d nf succ := by
  cases plan with
  | dec oc =>
    cases oc with
    | headerRefused => rfl
    | ok pt fa =>
      -- the tests on the results of the two write calls are nested differently
      cases fa <;> simp only [execute, Plan.stream, deliver, Proc.offer, if_true]
      all_goals
        cases h1 : (({ w := w } : Proc).write dest []).2
        · simp [h1]
        · cases h2 : ((({ w := w } : Proc).write dest []).1.writeNE dest _).2 <;> simp [h2]
  | encFail => rfl
  | encInputFail fl => simp [execute, Plan.stream, deliver, Proc.offer]
  | enc ct =>
    simp only [execute, Plan.stream, deliver, Proc.offer, Bool.false_eq_true, if_false, if_true]
    cases (({ w := w } : Proc).writeNE dest ct).2 <;> simp

theorem complete_iff_stream (plan : Plan) (result : Bytes) :
    plan.complete = some result ↔ ∃ nf, plan.stream = some (result, nf, true) := by
  rcases plan with (_ | ⟨pt, _ | n⟩) | _ | fl | ct <;> simp [Plan.complete, Plan.stream]

/-- only `.enc ct` streams with the flags `(false, true)` -/
theorem stream_enc_ne (plan : Plan) (hct : ∀ ct, plan = .enc ct → ct ≠ []) (d : Bytes)
    (h : plan.stream = some (d, false, true)) : d ≠ [] := by
  rcases plan with (_ | ⟨pt, _ | n⟩) | _ | fl | ct <;> simp only [Plan.stream, Option.some.injEq, Prod.mk.injEq,
    reduceCtorEq, Bool.true_eq_false, Bool.false_eq_true, and_false, and_true] at h
  exact h ▸ hct ct rfl

theorem printVersion_eq (w : World) (line : Bytes) :
    printVersion w line = ⟨if (w.stdout.takes line).2 then 0 else 1, w, (w.stdout.takes line).1⟩ := by
  simp only [printVersion, writeStdout_fresh, Proc.result]

theorem printVersion_spec (w : World) (line : Bytes) :
    (printVersion w line).world = w ∧
    ((printVersion w line).exit = 0 ↔ Holds .stdout w (printVersion w line) line) ∧
    (printVersion w line).stdout <+: line := by
  rw [printVersion_eq]
  refine ⟨rfl, ?_, w.stdout.takes_prefix line⟩
  simp only [Holds, ← Stdout.takes_ok_iff]
  cases (w.stdout.takes line).2 <;> simp

/-- no write call is made: the output is not even opened -/
theorem deliver_untouched (dest : Dest) (w : World) (succ : Bool) :
    deliver dest w [] false succ = ⟨if succ then 0 else 1, w, []⟩ := by
  cases dest <;> cases succ <;>
    simp [deliver, Proc.offer, Proc.writeNE, Proc.finish, Proc.result, writeStdout_fresh, Stdout.takes_nil]

theorem deliver_fail (dest : Dest) (w : World) (d : Bytes) (nf : Bool) :
    (deliver dest w d nf false).exit = 1 := by
  simp [deliver, Proc.result]

theorem offer_congr (dest : Dest) (p q : Proc) (d : Bytes) (nf : Bool) (hcall : nf = false → d ≠ [])
    (h : ∀ x, p.write dest x = q.write dest x) : p.offer dest d nf = q.offer dest d nf := by
  cases nf with
  | true => simp only [Proc.offer, if_true, h]
  | false => simp only [Proc.offer, Bool.false_eq_true, if_false, if_true, Proc.writeNE, if_neg (hcall rfl), h]

theorem offer_of_write_fails (dest : Dest) (p q : Proc) (d : Bytes) (nf : Bool) (hcall : nf = false → d ≠ [])
    (h : ∀ x, p.write dest x = (q, false)) : p.offer dest d nf = (q, false) := by
  cases nf with
  | true => simp [Proc.offer, h]
  | false => simp [Proc.offer, Proc.writeNE, hcall rfl, h]

theorem offer_stdout (w : World) (d : Bytes) (nf : Bool) (hcall : nf = false → d ≠ []) :
    ({ w := w } : Proc).offer .stdout d nf =
      ({ w := w, emitted := (w.stdout.takes d).1 }, (w.stdout.takes d).2) := by
  rw [← writeStdout_fresh]
  cases nf with
  | false => simp only [Proc.offer, Bool.false_eq_true, if_false, if_true, Proc.writeNE, if_neg (hcall rfl), Proc.write]
  | true =>
    simp only [Proc.offer, Proc.write, Proc.writeNE, if_true]
    by_cases hd : d = []
    · rw [hd, if_pos rfl]
      by_cases h : (({ w := w } : Proc).writeStdout []).2 = true
      · rw [if_pos h]
        exact Prod.ext rfl h.symm
      · rw [if_neg h]
    · -- an empty write and then `d` is one write of `d`
      have h := writeStdout_append { w := w } [] d
      rw [List.nil_append] at h
      rw [if_neg hd, h]

theorem deliver_stdout (w : World) (d : Bytes) (nf succ : Bool) (hcall : nf = false → d ≠ []) :
    deliver .stdout w d nf succ =
      ⟨if (w.stdout.takes d).2 && succ then 0 else 1, w, (w.stdout.takes d).1⟩ := by
  simp only [deliver, offer_stdout w d nf hcall, Proc.finish, Proc.result]
  split <;> rfl

theorem deliver_buffered (w : World) (d : Bytes) (nf succ : Bool) (hterm : w.stdout = .terminal) :
    deliver .buffered w d nf succ = ⟨if succ then 0 else 1, w, if succ then d else []⟩ := by
  have : ({ w := w } : Proc).offer .buffered d nf = ({ w := w, buf := d }, true) := by
    by_cases hd : d = [] <;> cases nf <;> simp [Proc.offer, Proc.write, Proc.writeNE, hd]
  cases succ <;> simp [deliver, this, Proc.finish, Proc.writeStdout, Proc.result, hterm]

/-- `-o name` can be opened as the regular file `t`, which will have mode `m` -/
def Writable (w : World) (name : Bytes) (t : Path) (m : Nat) : Prop :=
  resolve w name = some t ∧ ((w.get t = .absent ∧ m = applyUmask 0o666 w.umask) ∨ ∃ c, w.get t = .file c m)

theorem resolve_unique {w : World} {name : Bytes} {t u : Path} (h1 : resolve w name = some t)
    (h2 : resolve w name = some u) : t = u := by
  rw [h1] at h2; exact Option.some.inj h2

theorem exists_resolve_iff {w : World} {name : Bytes} {t : Path} (hr : resolve w name = some t) (P : Path → Prop) :
    (∃ t', resolve w name = some t' ∧ P t') ↔ P t :=
  ⟨fun ⟨_, hr', hp⟩ => resolve_unique hr' hr ▸ hp, fun hp => ⟨t, hr, hp⟩⟩

theorem create_writable {w : World} {name : Bytes} {t : Path} {m : Nat} (h : Writable w name t m) :
    create w name = some (w.set t (.file [] m), t) := by
  obtain ⟨hr, ⟨hg, hm⟩ | ⟨c, hg⟩⟩ := h
  · simp only [create, hr, hg, hm]
  · simp only [create, hr, hg]

/-- otherwise `os.Create` fails, or opens a device that rejects every write -/
theorem write_unwritable {w : World} {name : Bytes} (h : ∀ t m, ¬ Writable w name t m) :
    ∃ q : Proc, q.w = w ∧ q.emitted = [] ∧ ∀ x, ({ w := w } : Proc).write (.lazy name) x = (q, false) := by
  cases hr : resolve w name with
  | none => exact ⟨{ w := w, lz := .failed }, rfl, rfl, fun x => by simp only [Proc.write, create, hr]⟩
  | some t =>
    cases hg : w.get t with
    | absent => exact absurd ⟨hr, Or.inl ⟨hg, rfl⟩⟩ (h t _)
    | file c m => exact absurd ⟨hr, Or.inr ⟨c, hg⟩⟩ (h t m)
    | dir => exact ⟨{ w := w, lz := .failed }, rfl, rfl, fun x => by simp only [Proc.write, create, hr, hg]⟩
    | devFull =>
      exact ⟨{ w := w, lz := .opened t }, rfl, rfl, fun x => by simp only [Proc.write, create, hr, hg, Proc.writeFile]⟩

theorem FileAt.offer {w : World} {t : Path} {m : Nat} {p : Proc} (h : FileAt w t m [] p) (hlz : p.lz = .opened t)
    (name d : Bytes) (nf : Bool) :
    FileAt w t m (accept w.fsize 0 d).1 (p.offer (.lazy name) d nf).1 ∧
    (p.offer (.lazy name) d nf).2 = (accept w.fsize 0 d).2 ∧
    (p.offer (.lazy name) d nf).1.lz = .opened t ∧ (p.offer (.lazy name) d nf).1.emitted = p.emitted := by
  have hwr : ∀ q : Proc, q.lz = .opened t → ∀ x, q.write (.lazy name) x = q.writeFile t x :=
    fun q hq x => by simp only [Proc.write, hq]
  -- the empty write changes nothing
  have h1 : ∃ q, (if nf then p.write (.lazy name) [] else (p, true)) = (q, true) ∧ FileAt w t m [] q ∧
      q.lz = .opened t ∧ q.emitted = p.emitted := by
    cases nf with
    | false => exact ⟨p, rfl, h, hlz, rfl⟩
    | true =>
      have := h.writeFile []
      rw [List.length_nil, accept_nil, List.append_nil] at this
      exact ⟨_, by rw [if_pos rfl, hwr p hlz]; exact Prod.ext rfl this.2, this.1, by simp [hlz], by simp⟩
  obtain ⟨q, hq, hf, hqlz, hqe⟩ := h1
  simp only [Proc.offer, hq, if_true, Proc.writeNE]
  by_cases hd : d = []
  · subst hd
    rw [if_pos rfl, accept_nil]
    exact ⟨hf, rfl, hqlz, hqe⟩
  · rw [if_neg hd, hwr q hqlz]
    have := hf.writeFile d
    rw [List.nil_append, List.length_nil] at this
    exact ⟨this.1, this.2, by simp [hqlz], by simp [hqe]⟩

/-- `out` is the lazily opened file `name` and a write call is made: either the file cannot be
    opened as a regular file, and the run fails at the first call with nothing changed, or it
    can, at `t` with mode `m`, and nothing else changes -/
theorem deliver_lazy (w : World) (name d : Bytes) (nf succ : Bool) (hcall : nf = false → d ≠ []) :
    (deliver (.lazy name) w d nf succ = ⟨1, w, []⟩ ∧ ∀ t m, ¬ Writable w name t m) ∨
    ∃ t m w', Writable w name t m ∧
      deliver (.lazy name) w d nf succ =
        ⟨if (accept w.fsize 0 d).2 && succ && !w.closeFails then 0 else 1, w', []⟩ ∧
      w'.get t = .file (accept w.fsize 0 d).1 m ∧ ∀ u, u ≠ t → w'.get u = w.get u := by
  by_cases h : ∃ t m, Writable w name t m
  · obtain ⟨t, m, h⟩ := h
    have hopen := offer_congr (.lazy name) { w := w } { w := w.set t (.file [] m), lz := .opened t } d nf hcall
      (fun x => by simp only [Proc.write, create_writable h])
    obtain ⟨hf, hok, hlz, he⟩ :=
      (FileAt.set w t m [] { w := w.set t (.file [] m), lz := .opened t } rfl).offer rfl name d nf
    rw [← hopen] at hf hok hlz he
    refine Or.inr ⟨t, m, _, h, ?_, hf.node, hf.frame⟩
    simp only [deliver, Proc.finish, hlz, hok]
    exact hf.close_result he _
  · have hno : ∀ t m, ¬ Writable w name t m := fun t m hw => h ⟨t, m, hw⟩
    obtain ⟨q, hw, he, hq⟩ := write_unwritable hno
    refine Or.inl ⟨?_, hno⟩
    simp only [deliver, offer_of_write_fails (.lazy name) _ q d nf hcall hq, Bool.false_and, Bool.false_eq_true,
      if_false, Proc.result, hw, he]

theorem deliver_exit0_iff (dest : Dest) (w : World) (d : Bytes) (nf succ : Bool)
    (hb : dest = .buffered → w.stdout = .terminal) (hne : nf = false → succ = true → d ≠ []) :
    (deliver dest w d nf succ).exit = 0 ↔ succ = true ∧ Holds dest w (deliver dest w d nf succ) d := by
  cases succ with
  | false => simp [deliver_fail]
  | true =>
    have hcall : nf = false → d ≠ [] := fun h => hne h rfl
    cases dest with
    | stdout =>
      rw [deliver_stdout w d nf true hcall]
      simp only [Holds, ← Stdout.takes_ok_iff]
      cases (w.stdout.takes d).2 <;> simp
    | buffered =>
      rw [deliver_buffered w d nf true (hb rfl)]
      simp [Holds]
    | lazy name =>
      rcases deliver_lazy w name d nf true hcall with ⟨he, hno⟩ | ⟨t, m, w', h, he, hg, _⟩
      · rw [he]
        exact ⟨by simp, fun ⟨_, _, t, m, hr, hg⟩ => absurd ⟨hr, Or.inr ⟨_, hg⟩⟩ (hno t m)⟩
      · rw [he]
        simp only [Holds, true_and, Bool.and_true, exists_and_left]
        rw [file_exit0_iff, exists_resolve_iff h.1, hg]
        simp

/-- exit status 0 exactly when the plan is one that succeeds and its complete
    result is what the output holds afterwards -/
theorem execute_exit0_iff (dest : Dest) (plan : Plan) (w : World)
    (hb : dest = .buffered → w.stdout = .terminal) (hct : ∀ ct, plan = .enc ct → ct ≠ []) :
    (execute dest plan w).exit = 0 ↔
      ∃ result, plan.complete = some result ∧ Holds dest w (execute dest plan w) result := by
  rw [execute_eq_deliver]
  cases hs : plan.stream with
  | none => simp [complete_iff_stream, hs]
  | some x =>
    obtain ⟨d, nf, succ⟩ := x
    simp only [complete_iff_stream, hs, Option.some.injEq, Prod.mk.injEq]
    rw [deliver_exit0_iff dest w d nf succ hb
      (fun h1 h2 => stream_enc_ne plan hct d (by rw [hs, h1, h2]))]
    constructor
    · rintro ⟨rfl, hh⟩
      exact ⟨d, ⟨nf, rfl, rfl, rfl⟩, hh⟩
    · rintro ⟨_, ⟨_, rfl, _, rfl⟩, hh⟩
      exact ⟨rfl, hh⟩

/-- nothing but the path `-o` resolves to changes -/
theorem execute_frame (dest : Dest) (plan : Plan) (w : World) (hb : dest = .buffered → w.stdout = .terminal)
    (u : Path) (hu : ∀ name, dest = .lazy name → resolve w name ≠ some u) :
    (execute dest plan w).world.get u = w.get u := by
  rw [execute_eq_deliver]
  cases hs : plan.stream with
  | none => rfl
  | some x =>
    obtain ⟨d, nf, succ⟩ := x
    simp only
    by_cases hcall : nf = false → d ≠ []
    · cases dest with
      | stdout => rw [deliver_stdout w d nf succ hcall]
      | buffered => rw [deliver_buffered w d nf succ (hb rfl)]
      | lazy name =>
        rcases deliver_lazy w name d nf succ hcall with ⟨he, _⟩ | ⟨t, m, w', h, he, _, hfr⟩
        · rw [he]
        · rw [he]
          exact hfr u (fun e => hu name rfl (e ▸ h.1))
    · obtain ⟨rfl, rfl⟩ : nf = false ∧ d = [] := by simpa using hcall
      rw [deliver_untouched]

/-- a payload failure: non-zero exit, and whatever was written is a prefix of the plaintext -/
theorem execute_payload (dest : Dest) (w : World) (pt : Bytes) (n : Nat)
    (hb : dest = .buffered → w.stdout = .terminal) :
    (execute dest (.dec (.ok pt (some n))) w).exit = 1 ∧
    (execute dest (.dec (.ok pt (some n))) w).stdout <+: pt.take n ∧
    ∀ u, (execute dest (.dec (.ok pt (some n))) w).world.get u = w.get u ∨
      ∃ c m, (execute dest (.dec (.ok pt (some n))) w).world.get u = .file c m ∧ c <+: pt.take n := by
  rw [execute_eq_deliver]
  simp only [Plan.stream]
  refine ⟨deliver_fail .., ?_⟩
  cases dest with
  | stdout =>
    rw [deliver_stdout w _ true false nofun]
    exact ⟨w.stdout.takes_prefix _, fun u => Or.inl rfl⟩
  | buffered =>
    rw [deliver_buffered w _ true false (hb rfl)]
    exact ⟨List.nil_prefix, fun u => Or.inl rfl⟩
  | lazy name =>
    rcases deliver_lazy w name (pt.take n) true false nofun with ⟨he, _⟩ | ⟨t, m, w', _, he, hg, hfr⟩
    · rw [he]
      exact ⟨List.nil_prefix, fun u => Or.inl rfl⟩
    · rw [he]
      refine ⟨List.nil_prefix, fun u => ?_⟩
      by_cases hu : u = t
      · exact Or.inr ⟨_, m, hu ▸ hg, accept_prefix _ 0 _⟩
      · exact Or.inl (hfr u hu)

/-- an output that cannot be created or cannot take the whole result: non-zero exit -/
theorem execute_output_fails (dest : Dest) (plan : Plan) (w : World) (result : Bytes)
    (hct : ∀ ct, plan = .enc ct → ct ≠ [])
    (hc : plan.complete = some result) (hf : OutputFails w result dest) : (execute dest plan w).exit ≠ 0 := by
  rw [execute_eq_deliver]
  obtain ⟨nf, hs⟩ := (complete_iff_stream plan result).1 hc
  rw [hs]
  simp only
  have hcall : nf = false → result ≠ [] := fun h => stream_enc_ne plan hct result (h ▸ hs)
  cases dest with
  | stdout =>
    rw [deliver_stdout w result nf true hcall]
    simp [Stdout.takes_of_outputFails hf]
  | buffered => cases hf
  | lazy name =>
    rcases deliver_lazy w name result nf true hcall with ⟨he, _⟩ | ⟨t, m, w', h, he, _, _⟩
    · simp [he]
    · rw [he]
      have : ((accept w.fsize 0 result).2 && true && !w.closeFails) = false := by
        cases hf with
        | create _ hcr => rw [create_writable h] at hcr; cases hcr
        | fileFull _ t' hr hg =>
          obtain ⟨hr', hg'⟩ := h
          rw [resolve_unique hr' hr, hg] at hg'
          rcases hg' with ⟨h1, _⟩ | ⟨c, h1⟩ <;> cases h1
        | fileCap _ l hfs hlt => rw [hfs, accept_too_long l result hlt]; rfl
        | close _ hcf => rw [hcf]; simp
      rw [this]
      simp

end Cli
end AgeModel
