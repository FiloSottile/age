/-
  Proofs.StreamReader — fuel independence of `decFrom`, the fuel-free `dec`, and one `readChunk` of the Reader
  machine in terms of `dec`. Whole `Read` calls are in Proofs.StreamReaderTop.
-/
import Proofs.StreamCanon
namespace AgeModel
namespace Stream

theorem decFrom_fuel (A : AEAD) (C : Nat) (hE : 0 < C + A.T) (k : Bytes) (sf : Bool) :
    ∀ (f : Nat) (i : Nat) (c : Bytes) (f' : Nat), c.length < f → c.length < f' →
      decFrom A C k sf i c f = decFrom A C k sf i c f' := by
  intro f
  induction f with
  | zero => intro i c f' h; omega
  | succ f ih =>
    intro i c f' h h'
    match f' with
    | 0 => omega
    | f'+1 =>
      by_cases hs : c.length < C + A.T
      · rw [decFrom_short A C k sf i c f hs, decFrom_short A C k sf i c f' hs]
      · -- the two sides differ only in the fuel of the recursive call, on a strictly shorter input
        have hd : (c.drop (C + A.T)).length = c.length - (C + A.T) := List.length_drop
        rw [decFrom, decFrom, ih (i+1) (c.drop (C + A.T)) f' (by omega) (by omega)]

/-- fuel-free decryption from chunk index `i` -/
def dec (A : AEAD) (C : Nat) (k : Bytes) (sf : Bool) (i : Nat) (c : Bytes) : Bytes × Outcome :=
  decFrom A C k sf i c (c.length + 1)

theorem decrypt_eq_dec (A : AEAD) (C : Nat) (k c : Bytes) : decrypt A C k c = dec A C k false 0 c := rfl

/-! `decFrom_short`, `decFrom_full_last` and `decFrom_full_fail` (Proofs.StreamSpec) apply to `dec` as they stand (it unfolds to `decFrom`);
  in the remaining case the recursive call is again fuel-free: -/

section decStep
variable (A : AEAD) (C : Nat) (k : Bytes) (sf : Bool) (i : Nat) (c : Bytes)

theorem dec_full_some (hE : 0 < C + A.T) (h : ¬ c.length < C + A.T) {p : Bytes}
    (hop : A.openF k (nonce i false) (c.take (C + A.T)) = some p) :
    dec A C k sf i c = (p ++ (dec A C k sf (i+1) (c.drop (C + A.T))).1, (dec A C k sf (i+1) (c.drop (C + A.T))).2) := by
  have hd : (c.drop (C + A.T)).length = c.length - (C + A.T) := List.length_drop
  unfold dec
  rw [decFrom_full_some A C k sf i c _ h hop,
    decFrom_fuel A C hE k sf c.length (i+1) (c.drop (C + A.T)) ((c.drop (C + A.T)).length + 1) (by omega) (by omega)]

end decStep

theorem probe_spec (r : Reader) :
    r.probe.err = some (if r.src.data.length = 0 then (if r.src.fail then .srcErr else .eof) else .trailing) ∧
    r.probe.unread = r.unread ∧ r.probe.ctr = r.ctr ∧ r.probe.src.data.length ≤ r.src.data.length ∧
    r.probe.taken = r.taken + 1 := by
  unfold Reader.probe
  split
  · rename_i h
    rw [h]
    exact ⟨rfl, rfl, rfl, Nat.le_succ _, rfl⟩
  · rename_i h
    rw [h]
    exact ⟨rfl, rfl, rfl, Nat.le_refl _, rfl⟩

/-- what a reader state still owes its caller -/
def Reader.denote (A : AEAD) (C : Nat) (k : Bytes) (r : Reader) : Bytes × Outcome :=
  match r.err with
  | some e => (r.unread, e)
  | none =>
    (r.unread ++ (dec A C k r.src.fail r.ctr r.src.data).1, (dec A C k r.src.fail r.ctr r.src.data).2)

/-- no counter wrap can happen while this holds -/
def Reader.Bounded (L : Nat) (r : Reader) : Prop := r.ctr + r.src.data.length < L

/-- What is said about `dec` needs a positive chunk size; the shape of the new state does not. The result is a variable
    `res` so that `apply` finds `P` in a goal in which `readChunk` has been generalised. -/
theorem readChunk_cases (A : AEAD) (C L : Nat) (k : Bytes) (r : Reader) (hu : r.unread = [])
    {P : Reader × Except Outcome Bool → Prop}
    (herr : ∀ e, (0 < C + A.T → (dec A C k r.src.fail r.ctr r.src.data = ([], e) ∧ e ≠ .eof) ∨
        (e = .panic 3 ∧ L ≤ r.ctr + 1 ∧ r.src.data.length ≠ 0)) →
      P ({ r with src := { r.src with data := r.src.data.drop (C + A.T) }, taken := r.taken + (C + A.T) }, .error e))
    (hok : ∀ out last, (0 < C + A.T → r.ctr + 1 < L ∧ r.src.data.length ≠ 0 ∧
      dec A C k r.src.fail r.ctr r.src.data =
        (if last then
          (out, if (r.src.data.drop (C + A.T)).length = 0 then (if r.src.fail then .srcErr else .eof) else .trailing)
        else
          (out ++ (dec A C k r.src.fail (r.ctr + 1) (r.src.data.drop (C + A.T))).1,
            (dec A C k r.src.fail (r.ctr + 1) (r.src.data.drop (C + A.T))).2))) →
      P ({ r with src := { r.src with data := r.src.data.drop (C + A.T) }, taken := r.taken + (C + A.T),
                  ctr := r.ctr + 1, unread := out }, .ok last))
    {res : Reader × Except Outcome Bool} (hres : r.readChunk A C L k = res) : P res := by
  subst hres
  unfold Reader.readChunk
  rw [if_neg (by rw [hu]; exact fun h => h rfl)]
  by_cases hE : C + A.T = 0
  · have herr' := fun e => herr e fun h => absurd hE (Nat.ne_of_gt h)
    refine iteInduction (fun _ => herr' _) fun _ => iteInduction (fun _ => herr' _) fun _ => iteInduction (fun _ => herr' _) fun _ => ?_
    simp only
    split
    · exact herr' _
    · exact iteInduction (fun _ => herr' _) fun _ => hok _ _ fun h => absurd hE (Nat.ne_of_gt h)
  have hE := Nat.pos_of_ne_zero hE
  have hdl : (r.src.data.drop (C + A.T)).length = r.src.data.length - (C + A.T) := List.length_drop
  simp only
  by_cases hs : r.src.data.length < C + A.T
  · -- the rest of the source is shorter than a full chunk: `dec` and `readChunk` go through the same tests
    have hdec : dec A C k r.src.fail r.ctr r.src.data = _ := decFrom_short A C k _ _ _ _ hs
    rw [List.take_of_length_le (Nat.le_of_lt hs)]
    refine iteInduction (motive := P) (fun h => herr _ fun _ => Or.inl ⟨by rw [hdec, if_pos h.2], nofun⟩) fun h1 => ?_
    have hf : ¬ r.src.fail = true := fun h => h1 ⟨hs, h⟩
    rw [if_neg hf] at hdec
    refine iteInduction (motive := P) (fun h => herr _ fun _ => Or.inl ⟨by rw [hdec, if_pos h], nofun⟩) fun h2 => ?_
    rw [if_neg h2] at hdec
    refine iteInduction (motive := P) (fun h => herr _ fun _ => Or.inl ⟨by rw [hdec, if_pos h.2], nofun⟩) fun h3 => ?_
    rw [if_neg (fun h => h3 ⟨hs, h⟩)] at hdec
    rw [decide_eq_true hs]
    cases hop : A.openF k (nonce r.ctr true) r.src.data with
    | none => rw [hop] at hdec; exact herr _ fun _ => Or.inl ⟨hdec, nofun⟩
    | some out =>
      rw [hop] at hdec
      refine iteInduction (motive := P) (fun h => herr _ fun _ => Or.inr ⟨rfl, h, h2⟩) fun h =>
        hok out true fun _ => ⟨by omega, h2, ?_⟩
      rw [hdec, if_pos rfl, if_pos (by omega), if_neg hf]
  · have hn : (r.src.data.take (C + A.T)).length = C + A.T := by rw [List.length_take]; omega
    have hnl : ¬ (r.src.data.take (C + A.T)).length < C + A.T := by rw [hn]; exact Nat.lt_irrefl _
    have h0 : r.src.data.length ≠ 0 := by omega
    rw [if_neg (fun h => hnl h.1), if_neg (by rw [hn]; omega), if_neg (fun h => hnl h.1)]
    rw [decide_eq_false hnl]
    cases hop : A.openF k (nonce r.ctr false) (r.src.data.take (C + A.T)) with
    | some out =>
      refine iteInduction (motive := P) (fun h => herr _ fun _ => Or.inr ⟨rfl, h, h0⟩) fun h =>
        hok out false fun _ => ⟨by omega, h0, ?_⟩
      rw [dec_full_some A C k _ _ _ hE hs hop]
      rfl
    | none =>
      cases hop' : A.openF k (nonce r.ctr true) (r.src.data.take (C + A.T)) with
      | none => exact herr _ fun _ => Or.inl ⟨decFrom_full_fail A C k _ _ _ _ hs hop hop', nofun⟩
      | some out =>
        refine iteInduction (motive := P) (fun h => herr _ fun _ => Or.inr ⟨rfl, h, h0⟩) fun h =>
          hok out true fun _ => ⟨by omega, h0, ?_⟩
        refine (decFrom_full_last A C k _ _ _ _ hs hop hop').trans ?_
        rw [if_pos rfl, ← apply_ite (Prod.mk out)]

theorem readChunk_spec (A : AEAD) (C L : Nat) (hE : 0 < C + A.T) (k : Bytes) (r : Reader)
    (hu : r.unread = []) (hb : r.Bounded L) :
    match r.readChunk A C L k with
    | (r1, .error e) => dec A C k r.src.fail r.ctr r.src.data = ([], e) ∧ e ≠ .eof ∧ r1.unread = []
    | (r1, .ok last) =>
        r1.src.fail = r.src.fail ∧ r1.err = r.err ∧ r1.Bounded L ∧
        r1.src.data.length < r.src.data.length ∧
        (last = false →
          dec A C k r.src.fail r.ctr r.src.data
            = (r1.unread ++ (dec A C k r1.src.fail r1.ctr r1.src.data).1, (dec A C k r1.src.fail r1.ctr r1.src.data).2)) ∧
        (last = true →
          dec A C k r.src.fail r.ctr r.src.data
            = (r1.unread, if r1.src.data.length = 0 then (if r.src.fail then .srcErr else .eof) else .trailing)) := by
  have hb' : r.ctr + r.src.data.length < L := hb
  have hdl : (r.src.data.drop (C + A.T)).length = r.src.data.length - (C + A.T) := List.length_drop
  generalize hres : r.readChunk A C L k = res
  apply readChunk_cases A C L k r hu ?_ ?_ hres
  · intro e h
    rcases h hE with ⟨h1, h2⟩ | ⟨-, h1, h2⟩
    · exact ⟨h1, h2, hu⟩
    · omega
  · intro out last h
    obtain ⟨hL, h0, hdec⟩ := h hE
    refine ⟨rfl, rfl, ?_, ?_, fun hl => ?_, fun hl => ?_⟩
    · show r.ctr + 1 + (r.src.data.drop (C + A.T)).length < L
      omega
    · show (r.src.data.drop (C + A.T)).length < r.src.data.length
      omega
    · rw [hdec, hl]
      rfl
    · rw [hdec, hl]
      rfl

end Stream
end AgeModel
