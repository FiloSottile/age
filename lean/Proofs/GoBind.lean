/-
  Proofs.GoBind — `>>=` in `Go.M`, the monad of translated code: its two equations, and when a
  sequence of calls returns.

  A proof about a large translated function rewrites its first action to `.ok v` or `.error e` and lets
  these fire. They are rewrite rules with a proof term on purpose: unfolding `Except.bind` (or a `rfl`
  lemma, which `simp` applies as a definitional step) leaves the kernel to find the conversion between
  two copies of the whole function body by itself, which is slow to check. On a loop body of a few
  lines unfolding is fine.
-/
import AgeModel.GoSem
namespace AgeModel
namespace Go

theorem bind_ok {α β : Type} (a : α) (f : α → M β) : (Except.ok a : M α) >>= f = f a := by
  show Except.bind _ _ = _
  unfold Except.bind; rfl

theorem bind_error {α β : Type} (e : Fault) (f : α → M β) : (Except.error e : M α) >>= f = .error e := by
  show Except.bind _ _ = _
  unfold Except.bind; rfl

/-! What the "returns exactly when every step succeeded" theorems about the command-line tools
    (`cli_encrypt_returns_iff`, `keygen_convert_returns_iff`, …) are made of. The translator turns a call
    of a function that ends the process (`errorf`, `os.Exit`) into the fault `.panic (1000 + k)`, `k` counting such
    call sites of the enclosing function in source order: its exit sites. -/

theorem step_bind_ok {α β : Type} {x : M α} {f : α → M β} {y : β} :
    (x >>= f) = .ok y ↔ ∃ a, x = .ok a ∧ f a = .ok y := by
  cases x with
  | error e => exact ⟨nofun, fun ⟨_, h, _⟩ => nomatch h⟩
  | ok a => exact ⟨fun h => ⟨a, rfl, h⟩, fun ⟨_, h, h'⟩ => by cases h; exact h'⟩

/-- a translated loop that ran to its end, followed by what comes after it -/
theorem step_loop_next {σ ρ β : Type} (x : M σ) (K : Loop σ ρ → M β) :
    ((x.map fun s => (.next s : Loop σ ρ)) >>= K) = x >>= fun s => K (.next s) := by
  cases x <;> rfl

theorem step_exit_ok {β : Type} {c : Prop} [Decidable c] {e : Fault} {x : M β} {y : β} :
    (if c then .error e else x) = .ok y ↔ ¬c ∧ x = .ok y := by
  by_cases h : c
  · rw [if_pos h]; exact ⟨nofun, fun h' => absurd h h'.1⟩
  · rw [if_neg h]; exact ⟨fun h' => ⟨h, h'⟩, fun h' => h'.2⟩

/-- `err` picks the error out of what the call returns; `site` is the exit taken when it is not nil -/
theorem step_checked_ok {α β : Type} {x : M α} {err : α → Option Err} {site : Nat} {f : α → M β} {y : β} :
    (x >>= fun r => if (err r != none) = true then .error (.panic site) else f r) = .ok y ↔
      ∃ a, x = .ok a ∧ err a = none ∧ f a = .ok y := by
  rw [step_bind_ok]
  refine exists_congr fun a => and_congr_right fun _ => ?_
  cases err a with
  | none => exact ⟨fun h => ⟨rfl, h⟩, fun h => h.2⟩
  | some e => exact ⟨nofun, fun h => nomatch h.1⟩

end Go
end AgeModel
