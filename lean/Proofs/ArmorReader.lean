/-
  Proofs.ArmorReader — what a state of the per-call reader machine still owes its caller (`denote`),
  the measure that decreases with every `Read` (`nu`), and stickiness of the error.
-/
import Proofs.ArmorCanon
namespace AgeModel
namespace Armor
open Format (nl cr sp)
open B64

/-- what a reader state owes beyond the bytes it has buffered -/
def AReader.owed (W : Nat) (fail : Bool) (r : AReader) : Bytes × AOut :=
  match r.err with
  | some e => ([], e)
  | none =>
    match (if r.started then some r.rest else readLeading W fail (r.rest.length + 1) r.rest 0) with
    | none => ([], .err)
    | some rest => body W fail rest

/-- what a reader state still owes its caller: the buffered bytes, then the rest -/
def AReader.denote (W : Nat) (fail : Bool) (r : AReader) : Bytes × AOut :=
  (r.unread ++ (r.owed W fail).1, (r.owed W fail).2)

theorem denote_eq (W : Nat) (fail : Bool) (r : AReader) :
    r.denote W fail = (r.unread ++ (r.owed W fail).1, (r.owed W fail).2) := rfl

theorem denote_new (W : Nat) (fail : Bool) (t : Bytes) : (AReader.new t).denote W fail = read W fail t := by
  unfold AReader.denote AReader.owed AReader.new read
  simp only [Bool.false_eq_true, if_false]
  cases readLeading W fail (t.length + 1) t 0 with
  | none => rfl
  | some rest => rfl

def AReader.nu (W : Nat) (fail : Bool) (r : AReader) : Nat :=
  (r.denote W fail).1.length + (if r.err = none then r.rest.length + (if r.started then 0 else 1) + 1 else 0)

theorem read1_sticky (W : Nat) (fail : Bool) (r : AReader) (e : AOut) (he : r.err = some e) (hu : r.unread = []) (n : Nat) :
    r.read1 W fail n = (r, [], some e) := by
  unfold AReader.read1; simp [he, hu]

end Armor
end AgeModel
