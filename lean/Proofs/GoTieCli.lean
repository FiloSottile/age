/-
  Proofs.GoTieCli — which parser the command line hands an argument to, as it stands in the source.

  `parseRecipient` and `parseIdentity` of cmd/age/parse.go are TRANSLATED on every run; the
  constructors they route to (`plugin.NewRecipient`, `age.ParseX25519Recipient`,
  `agessh.ParseRecipient`, `plugin.NewIdentity`, `age.ParseX25519Identity`) are parameters. The
  theorems give the routing for EVERY argument, in the shape of the model's `Keys.cliParseRecipient`
  / `cliParseIdentity`: a plugin client is constructed exactly for arguments that start with "age1"
  and contain a second "1" (resp. start with "AGE-PLUGIN-"); handed a plugin constructor that FAULTS
  when called, the translated code still returns normally for every other argument.
-/
import AgeModel.GoSem
import AgeModel.Keys
import AgeModel.Extracted.Funcs
namespace AgeModel
namespace GoTie
open Extracted Keys

theorem countFrom_byte (c : UInt8) : ∀ (s : Bytes) (fuel : Nat), s.length < fuel → Go.countFrom [c] fuel s = s.count c
  | _, 0, h => absurd h (Nat.not_lt_zero _)
  | [], _ + 1, _ => rfl
  | x :: xs, f + 1, h => by
    have hp : ([c] : Bytes).isPrefixOf (x :: xs) = (c == x) := Bool.and_true _
    rw [Go.countFrom, hp, List.length_singleton, List.drop_succ_cons, List.drop_zero,
      countFrom_byte c xs f (Nat.lt_of_succ_lt_succ h), List.count_cons]
    by_cases hx : x = c
    · rw [hx, beq_self_eq_true, if_pos rfl, if_pos rfl, Nat.add_comm]
    · rw [if_neg (fun e => hx (beq_iff_eq.mp e).symm), if_neg (fun e => hx (beq_iff_eq.mp e)), Nat.add_zero]

theorem strings_Count_byte (s : Bytes) (c : UInt8) : Go.strings_Count s [c] = Int.ofNat (countByte s c) := by
  simp only [Go.strings_Count, List.cons_ne_nil, if_false, countByte]
  rw [countFrom_byte c s (s.length + 1) (by omega)]

theorem cli_parseRecipient_tie {ρ υ : Type} (NR : Bytes → υ → Go.M (ρ × Option Go.Err)) (ui : υ)
    (PX PS : Bytes → Go.M (ρ × Option Go.Err)) (nilρ : ρ) (arg : Bytes) :
    main_parseRecipient NR ui PX PS nilρ arg =
      if (hasPrefix arg pfxAge1 && decide (countByte arg 0x31 > 1)) = true then NR arg ui
      else if hasPrefix arg pfxAge1 = true then PX arg
      else if hasPrefix arg pfxSsh = true then PS arg
      else if hasPrefix arg pfxGithub = true then .ok (nilρ, some ⟨"main.gitHubRecipientError", 0, []⟩)
      else .ok (nilρ, some ⟨"main.parseRecipient", 0, []⟩) := by
  have hc : decide (Go.strings_Count arg [49] > (1 : Int)) = decide (countByte arg 0x31 > 1) := by
    rw [strings_Count_byte]
    simp only [Int.ofNat_eq_natCast, gt_iff_lt, decide_eq_decide]
    omega
  unfold main_parseRecipient
  simp only [hc, bind_pure]
  rfl

theorem cli_parseIdentity_tie {ι υ : Type} (NI : Bytes → υ → Go.M (ι × Option Go.Err)) (ui : υ)
    (PX : Bytes → Go.M (ι × Option Go.Err)) (nilι : ι) (s : Bytes) :
    main_parseIdentity NI ui PX nilι s =
      if hasPrefix s pfxPlugin = true then NI s ui
      else if hasPrefix s pfxSecret1 = true then PX s
      else .ok (nilι, some ⟨"main.parseIdentity", 0, []⟩) := by
  unfold main_parseIdentity
  simp only [bind_pure]
  rfl

/-- no plugin client is constructed for an argument that is not of the plugin form: the
    constructor may fault when called, the function still returns whatever the other parser says -/
theorem cli_native_no_plugin {ρ υ : Type} (ui : υ) (PX PS : Bytes → Go.M (ρ × Option Go.Err)) (nilρ : ρ) (arg : Bytes)
    (h : (hasPrefix arg pfxAge1 && decide (countByte arg 0x31 > 1)) = false) :
    main_parseRecipient (fun _ _ => .error (.panic 99)) ui PX PS nilρ arg =
      if hasPrefix arg pfxAge1 = true then PX arg
      else if hasPrefix arg pfxSsh = true then PS arg
      else if hasPrefix arg pfxGithub = true then .ok (nilρ, some ⟨"main.gitHubRecipientError", 0, []⟩)
      else .ok (nilρ, some ⟨"main.parseRecipient", 0, []⟩) := by
  rw [cli_parseRecipient_tie, h]
  simp

end GoTie
end AgeModel
