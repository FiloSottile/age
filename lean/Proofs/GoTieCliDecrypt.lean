/-
  Proofs.GoTieCliDecrypt — the order of effects of `age -d`, as it stands in the source.

  `decrypt` of cmd/age/age.go is TRANSLATED on every run; `armor.NewReader`, `age.Decrypt`,
  `out.Write` and `io.Copy` are parameters, and `errorf` / `errorWithHint` — which end the process
  with status 1 — are exit sites (faults 1000 … 1003 of the translation). `cli_decrypt_tie` gives the
  whole function as a chain: PowerShell-mangled intro → exit; armor detected by the exact BEGIN
  line → the de-armoring reader; `age.Decrypt`; ONLY IF it returned no error: the empty write that
  makes the lazy opener create the file, then the copy. `cli_decrypt_refused`: when `age.Decrypt`
  refuses (no matching identity, wrong passphrase, malformed or altered header), the process exits
  with status 1 WITHOUT ANY WRITE to the output — `out.Write` and `io.Copy` may fault when called,
  they are not reached — which, with `Tie.C15.lazy_write_unopened` and `lazy_write_opened` (the file is created by the first
  `Write` only), is "the -o file is neither created nor modified" on the source text.
-/
import AgeModel.Extracted.Funcs
import Proofs.GoBind
namespace AgeModel
namespace GoTie
open Extracted

def crlfIntro : Bytes := [97, 103, 101, 45, 101, 110, 99, 114, 121, 112, 116, 105, 111, 110, 46, 111, 114, 103, 47, 118, 49, 13]
def utf16Intro : Bytes := [255, 254, 97, 0, 103, 0, 101, 0, 45, 0, 101, 0, 110, 0, 99, 0, 114, 0, 121, 0, 112, 0]
def armorBegin : Bytes := [45, 45, 45, 45, 45, 66, 69, 71, 73, 78, 32, 65, 71, 69, 32, 69, 78, 67, 82, 89, 80, 84, 69, 68, 32, 70, 73, 76, 69, 45, 45, 45, 45, 45]

/-- the input starts with an intro line mangled by PowerShell redirection -/
def mangled (inp : Bytes) : Bool := (Go.bufio_Peek inp 22).1 == crlfIntro || (Go.bufio_Peek inp 22).1 == utf16Intro
/-- the input starts with the exact armor BEGIN line -/
def armored (inp : Bytes) : Bool := (Go.bufio_Peek inp 34).1 == armorBegin

theorem cli_decrypt_tie {δ ι : Type} (NR : Bytes → Go.M Bytes) (D : Bytes → List ι → Go.M (Bytes × Option Go.Err))
    (W : δ → Bytes → Go.M (Int × Option Go.Err × δ)) (Cp : δ → Bytes → Go.M (Int × Option Go.Err × δ))
    (ids : List ι) (inp : Bytes) (out : δ) :
    main_decrypt NR D W Cp ids inp out =
      if mangled inp = true then .error (.panic 1000)
      else (do
        let in' ← (if armored inp = true then NR inp else pure inp)
        let t ← D in' ids
        if (t.2 != none) = true then .error (.panic 1001)
        else do
          let w ← W out []
          if (w.2.1 != none) = true then .error (.panic 1002)
          else do
            let c ← Cp w.2.2 t.1
            if (c.2.1 != none) = true then .error (.panic 1003) else pure c.2.2) := by
  unfold main_decrypt mangled armored crlfIntro utf16Intro armorBegin
  simp only [bind, Except.bind, pure, Except.pure, throw, throwThe, MonadExceptOf.throw]
  generalize ((Go.bufio_Peek inp 22).1 == _ || _) = m
  generalize ((Go.bufio_Peek inp 34).1 == _) = a
  cases m <;> cases a <;> rfl

/-- a refused decryption writes nothing: the process exits with status 1 before the output is touched -/
theorem cli_decrypt_refused {δ ι : Type} (NR : Bytes → Go.M Bytes) (D : Bytes → List ι → Go.M (Bytes × Option Go.Err))
    (ids : List ι) (inp : Bytes) (out : δ) (in' : Bytes)
    (hin : (if armored inp = true then NR inp else pure inp) = .ok in')
    (r : Bytes) (e : Go.Err) (hD : D in' ids = .ok (r, some e)) :
    main_decrypt NR D (fun _ _ => .error (.panic 77)) (fun _ _ => .error (.panic 78)) ids inp out =
      .error (.panic (if mangled inp = true then 1000 else 1001)) := by
  rw [cli_decrypt_tie]
  by_cases hm : mangled inp = true
  · rw [if_pos hm, if_pos hm]
  · rw [if_neg hm, if_neg hm, hin, Go.bind_ok, hD]
    rfl

end GoTie
end AgeModel
