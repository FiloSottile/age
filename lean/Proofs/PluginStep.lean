/-
  One message, any state: `UI.handle`, what the two step functions have in
  common (`ClientStep`), and the arms each machine has of its own.
-/
import Proofs.PluginRun
namespace AgeModel
namespace Plugin

variable {σ : Type}

section Handle
variable (ui : UI σ) (dec : String → Option Bytes)

theorem handle_msg (st : σ) (m : Stanza) (hm : m.type = "msg") :
    ui.handle dec st m =
      match ui.display with
      | none => .reply st failS
      | some f => .reply (f st m.body).1 (if (f st m.body).2 then okS else failS) :=
  if_pos hm

theorem handle_request (st : σ) (m : Stanza) (hm : m.type = "request-secret" ∨ m.type = "request-public") :
    ui.handle dec st m =
      match ui.request with
      | none => .reply st failS
      | some f =>
        match (f st m.body (decide (m.type = "request-secret"))).2 with
        | none => .reply (f st m.body (decide (m.type = "request-secret"))).1 failS
        | some v => .reply (f st m.body (decide (m.type = "request-secret"))).1 (okBody v) := by
  have h1 : m.type ≠ "msg" := by rcases hm with h | h <;> simp [h]
  exact (if_neg h1).trans (if_pos hm)

def confirmOptions (dec : String → Option Bytes) : List String → Option (Bytes × Bytes)
  | [y] => (dec y).map (·, [])
  | [y, n] => (dec y).bind fun yes => (dec n).map (yes, ·)
  | _ => none

theorem handle_confirm (st : σ) (m : Stanza) (hm : m.type = "confirm") :
    ui.handle dec st m =
      if m.args.length ≠ 1 ∧ m.args.length ≠ 2 then .fatal
      else
        match ui.confirm with
        | none => .reply st failS
        | some f =>
          match confirmOptions dec m.args with
          | none => .fatal
          | some (yes, no) =>
            .reply (f st m.body yes no).1 (match (f st m.body yes no).2 with | none => failS | some c => okChoice c) := by
  have h1 : m.type ≠ "msg" := by simp [hm]
  have h2 : ¬ (m.type = "request-secret" ∨ m.type = "request-public") := by simp [hm]
  refine (if_neg h1).trans ((if_neg h2).trans ((if_pos hm).trans ?_))
  by_cases hn : m.args.length ≠ 1 ∧ m.args.length ≠ 2
  · rw [if_pos hn, if_pos hn]
  rw [if_neg hn, if_neg hn]
  cases ui.confirm with
  | none => rfl
  | some f =>
    dsimp only
    generalize m.args = as at hn
    match as with
    | [] => simp at hn
    | [y] =>
      simp only [confirmOptions]
      cases dec y with
      | none => rfl
      | some yes => dsimp only [Option.map]; split <;> simp only [*]
    | [y, n] =>
      simp only [confirmOptions]
      cases dec y with
      | none => rfl
      | some yes =>
        cases dec n with
        | none => rfl
        | some no => dsimp only [Option.bind, Option.map]; split <;> simp only [*]
    | _ :: _ :: _ :: _ => simp at hn

theorem handle_confirm_argcount (st : σ) (m : Stanza)
    (hm : m.type = "confirm") (hn : m.args.length ≠ 1 ∧ m.args.length ≠ 2) :
    ui.handle dec st m = .fatal :=
  (handle_confirm ui dec st m hm).trans (if_pos hn)

theorem handle_confirm_absent (st : σ) (m : Stanza)
    (hm : m.type = "confirm") (hn : m.args.length = 1 ∨ m.args.length = 2) (hc : ui.confirm = none) :
    ui.handle dec st m = .reply st failS := by
  rw [handle_confirm ui dec st m hm, if_neg (by omega), hc]

theorem handle_confirm_present (st : σ) (m : Stanza) (hm : m.type = "confirm")
    (hn : m.args.length = 1 ∨ m.args.length = 2)
    (f : σ → Bytes → Bytes → Bytes → σ × Option Bool) (hc : ui.confirm = some f) :
    ui.handle dec st m =
      match confirmOptions dec m.args with
      | none => .fatal
      | some (yes, no) =>
        .reply (f st m.body yes no).1 (match (f st m.body yes no).2 with | none => failS | some c => okChoice c) := by
  rw [handle_confirm ui dec st m hm, if_neg (by omega), hc]

theorem confirmOptions_eq_none (as : List String) (hbad : ∃ a ∈ as, dec a = none) :
    confirmOptions dec as = none := by
  obtain ⟨a, ha, hda⟩ := hbad
  match as with
  | [] => rfl
  | [y] => rw [List.mem_singleton.mp ha] at hda; simp only [confirmOptions, hda, Option.map_none]
  | [y, n] =>
    simp only [List.mem_cons, List.not_mem_nil, or_false] at ha
    rcases ha with rfl | rfl
    · simp only [confirmOptions, hda, Option.bind_none]
    · cases hy : dec y <;> simp [confirmOptions, hda]
  | _ :: _ :: _ :: _ => rfl

theorem confirmOptions_eq_some (as : List String) (y : String) (yes no : Bytes) (hy : dec y = some yes)
    (hargs : (as = [y] ∧ no = []) ∨ ∃ n, as = [y, n] ∧ dec n = some no) :
    confirmOptions dec as = some (yes, no) := by
  rcases hargs with ⟨rfl, rfl⟩ | ⟨n, rfl, hn⟩ <;> simp [confirmOptions, *]

theorem handle_unknown (st : σ) (m : Stanza)
    (hm : m.type ∉ uiCommands) : ui.handle dec st m = .unknown := by
  simp only [uiCommands, List.mem_cons, List.not_mem_nil, or_false, not_or] at hm
  exact (if_neg hm.1).trans ((if_neg (not_or.mpr ⟨hm.2.1, hm.2.2.1⟩)).trans (if_neg hm.2.2.2))

theorem handle_known (st : σ) (m : Stanza) (hm : m.type ∈ uiCommands) :
    (ui.handle dec st m = .fatal ∧ m.type = "confirm") ∨
    ∃ st' r, ui.handle dec st m = .reply st' r ∧ (r.type = "ok" ∨ r.type = "fail") := by
  simp only [uiCommands, List.mem_cons, List.not_mem_nil, or_false] at hm
  have ok : ∀ b : Bool, (if b then okS else failS).type = "ok" ∨ (if b then okS else failS).type = "fail" :=
    fun b => by cases b <;> simp [okS, failS]
  obtain h | h | h : m.type = "msg" ∨ (m.type = "request-secret" ∨ m.type = "request-public") ∨
      m.type = "confirm" := by
    rcases hm with h | h | h | h <;> simp [h]
  · rw [handle_msg ui dec st m h]
    cases ui.display with
    | none => exact .inr ⟨_, _, rfl, .inr rfl⟩
    | some f => exact .inr ⟨_, _, rfl, ok _⟩
  · rw [handle_request ui dec st m h]
    cases ui.request with
    | none => exact .inr ⟨_, _, rfl, .inr rfl⟩
    | some f =>
      dsimp only
      split
      · exact .inr ⟨_, _, rfl, .inr rfl⟩
      · exact .inr ⟨_, _, rfl, .inl rfl⟩
  · by_cases hn : m.args.length ≠ 1 ∧ m.args.length ≠ 2
    · exact .inl ⟨handle_confirm_argcount ui dec st m h hn, h⟩
    have hn' : m.args.length = 1 ∨ m.args.length = 2 := by omega
    cases hc : ui.confirm with
    | none => exact .inr ⟨_, _, handle_confirm_absent ui dec st m h hn' hc, .inr rfl⟩
    | some f =>
      rw [handle_confirm_present ui dec st m h hn' f hc]
      cases confirmOptions dec m.args with
      | none => exact .inl ⟨rfl, h⟩
      | some p =>
        refine .inr ⟨_, _, rfl, ?_⟩
        split
        · exact .inr rfl
        · exact .inl rfl

end Handle

variable {S α : Type}

theorem uiCommands_ne {t : String} (h : t ∈ uiCommands) : t ≠ "error" ∧ t ≠ "done" := by
  simp only [uiCommands, List.mem_cons, List.not_mem_nil, or_false] at h
  rcases h with h | h | h | h <;> simp [h]

/-- `knownCommands ["recipient-stanza", "labels"] = recipientCommands` and
    `knownCommands ["file-key"] = identityCommands` hold by `rfl`: that is how the
    statements of `Props.C16` about unknown commands meet the lemmas below. -/
def knownCommands (own : List String) : List String := own ++ "error" :: "done" :: uiCommands

theorem mem_knownCommands {own : List String} {t : String} :
    t ∈ knownCommands own ↔ t ∈ own ∨ t = "error" ∨ t = "done" ∨ t ∈ uiCommands := by
  simp only [knownCommands, List.mem_append, List.mem_cons]

/-- The arms `error`, `done` and `default` of the two Go `switch` statements are the
    same. `own` are the commands with an arm of the machine's own, tested first. -/
structure ClientStep (ui : UI σ) (dec : String → Option Bytes) (own : List String)
    (uiOf : S → σ) (setUi : S → σ → S) (step : S → Stanza → Step S α) : Prop where
  /-- an arm of the machine's own: `ok` and go on, or a protocol error -/
  own_step : ∀ s m, m.type ∈ own → step s m = .halt [] (.error .protocol) ∨ ∃ s', step s m = .next s' okS
  error : ∀ s m, m.type = "error" → step s m = .halt [okS] (.error (.pluginError m.body))
  done : ∀ s m, m.type = "done" → ∃ res, step s m = .halt [] res ∧ ¬ Hard res
  handled : ∀ s m, m.type ∉ own → m.type ≠ "error" → m.type ≠ "done" → step s m =
    match ui.handle dec (uiOf s) m with
    | .reply st r => .next (setUi s st) r
    | .fatal => .halt [] (.error .protocol)
    | .unknown => .next s unsupportedS
  ui_not_own : ∀ t ∈ uiCommands, t ∉ own
  uiOf_setUi : ∀ s st, uiOf (setUi s st) = st

namespace ClientStep

variable {ui : UI σ} {dec : String → Option Bytes} {own : List String} {uiOf : S → σ} {setUi : S → σ → S}
  {step : S → Stanza → Step S α} (hc : ClientStep ui dec own uiOf setUi step)
include hc

theorem handled_ui (s : S) (m : Stanza) (hu : m.type ∈ uiCommands) : step s m =
    match ui.handle dec (uiOf s) m with
    | .reply st r => .next (setUi s st) r
    | .fatal => .halt [] (.error .protocol)
    | .unknown => .next s unsupportedS :=
  hc.handled s m (hc.ui_not_own _ hu) (uiCommands_ne hu).1 (uiCommands_ne hu).2

theorem unknown (s : S) (m : Stanza) (hm : m.type ∉ knownCommands own) : step s m = .next s unsupportedS := by
  simp only [mem_knownCommands, not_or] at hm
  rw [hc.handled s m hm.1 hm.2.1 hm.2.2.1, handle_unknown ui dec _ m hm.2.2.2]

theorem halt_cases {s : S} {m : Stanza} {rs : List Stanza} {res : Except ClientErr α}
    (h : step s m = .halt rs res) :
    (m.type = "error" ∧ rs = [okS] ∧ res = .error (.pluginError m.body)) ∨
    (m.type = "done" ∧ rs = [] ∧ ¬ Hard res) ∨
    (m.type ≠ "done" ∧ rs = [] ∧ res = .error .protocol) := by
  by_cases he : m.type = "error"
  · rw [hc.error s m he] at h
    cases h
    exact .inl ⟨he, rfl, rfl⟩
  by_cases hd : m.type = "done"
  · obtain ⟨res', h', hs⟩ := hc.done s m hd
    rw [h'] at h
    cases h
    exact .inr (.inl ⟨hd, rfl, hs⟩)
  refine .inr (.inr ⟨hd, ?_⟩)
  by_cases ho : m.type ∈ own
  · rcases hc.own_step s m ho with h' | ⟨s', h'⟩ <;> rw [h'] at h <;> cases h
    exact ⟨rfl, rfl⟩
  · rw [hc.handled s m ho he hd] at h
    split at h <;> cases h
    exact ⟨rfl, rfl⟩

theorem noEndHalt : NoEndHalt step := by
  intro s m rs res h e hr
  rcases hc.halt_cases h with ⟨_, _, h'⟩ | ⟨_, _, h'⟩ | ⟨_, _, h'⟩
  · rw [h'] at hr; cases hr
  · exact h' (hr ▸ hard_ended e)
  · rw [h'] at hr; cases hr

theorem hardHalt (s : S) (m : Stanza) (rs : List Stanza) (res : Except ClientErr α) (hm : m.type ≠ "done")
    (h : step s m = .halt rs res) : Hard res := by
  rcases hc.halt_cases h with ⟨_, _, h'⟩ | ⟨hd, _⟩ | ⟨_, _, h'⟩
  · exact h' ▸ hard_pluginError _
  · exact absurd hd hm
  · exact h' ▸ hard_protocol

theorem reply_ne_unsupported (s s' : S) (m r : Stanza) (hm : m.type ∈ knownCommands own)
    (h : step s m = .next s' r) : r ≠ unsupportedS := by
  rcases mem_knownCommands.mp hm with ho | he | hd | hu
  · rcases hc.own_step s m ho with h' | ⟨_, h'⟩ <;> rw [h'] at h <;> cases h
    simp [okS, unsupportedS]
  · rw [hc.error s m he] at h; cases h
  · obtain ⟨_, h', _⟩ := hc.done s m hd
    rw [h'] at h; cases h
  · rw [hc.handled_ui s m hu] at h
    rcases handle_known ui dec (uiOf s) m hu with ⟨hf, _⟩ | ⟨st', r', hr, ht⟩
    · rw [hf] at h; cases h
    · rw [hr] at h
      cases h
      intro hr'
      rw [hr'] at ht
      simp [unsupportedS] at ht

theorem halt_no_unsupported (s : S) (m : Stanza) (rs : List Stanza) (res : Except ClientErr α)
    (h : step s m = .halt rs res) : unsupportedS ∉ rs := by
  rcases hc.halt_cases h with ⟨_, h', _⟩ | ⟨_, h', _⟩ | ⟨_, h', _⟩ <;> simp [h', okS, unsupportedS]

theorem harmless_next (s : S) (m : Stanza) (ho : m.type ∉ own) (he : m.type ≠ "error")
    (hd : m.type ≠ "done") (hcf : m.type ≠ "confirm") : ∃ s' r, step s m = .next s' r := by
  rw [hc.handled s m ho he hd]
  split
  · exact ⟨_, _, rfl⟩
  · rename_i hf
    by_cases hu : m.type ∈ uiCommands
    · rcases handle_known ui dec (uiOf s) m hu with ⟨_, h⟩ | ⟨_, _, h, _⟩
      · exact absurd h hcf
      · rw [h] at hf; cases hf
    · rw [handle_unknown ui dec _ m hu] at hf; cases hf
  · exact ⟨_, _, rfl⟩

end ClientStep

theorem not_hard_done {c : Prop} [Decidable c] {err : ClientErr} (he : ¬ err.hard) (v : α) :
    ¬ Hard (if c then .error err else .ok v : Except ClientErr α) := by
  split <;> rintro ⟨_, h, hh⟩ <;> cases h
  exact he hh

section Machines
variable {ui : UI σ} {dec : String → Option Bytes}

theorem recipientStep_rs (s : RState σ) (m : Stanza) (hm : m.type = "recipient-stanza") :
    recipientStep ui dec s m =
      match m.args with
      | idx :: ty :: as =>
        match atoi idx with
        | none => .halt [] (.error .protocol)
        | some n =>
          if n ≠ 0 then .halt [] (.error .protocol)
          else .next { s with stanzas := s.stanzas ++ [⟨ty, as, m.body⟩] } okS
      | _ => .halt [] (.error .protocol) :=
  if_pos hm

theorem recipientStep_labels (s : RState σ) (m : Stanza) (hm : m.type = "labels") :
    recipientStep ui dec s m =
      match s.labels with
      | some _ => .halt [] (.error .protocol)
      | none => .next { s with labels := some m.args } okS := by
  have h1 : m.type ≠ "recipient-stanza" := by simp [hm]
  exact (if_neg h1).trans (if_pos hm)

theorem recipientStep_error (s : RState σ) (m : Stanza) (hm : m.type = "error") :
    recipientStep ui dec s m = .halt [okS] (.error (.pluginError m.body)) := by
  have h1 : m.type ≠ "recipient-stanza" := by simp [hm]
  have h2 : m.type ≠ "labels" := by simp [hm]
  exact (if_neg h1).trans ((if_neg h2).trans (if_pos hm))

theorem recipientStep_done (s : RState σ) (m : Stanza) (hm : m.type = "done") :
    recipientStep ui dec s m =
      .halt [] (if s.stanzas = [] then .error .noStanzas else .ok (s.stanzas, s.labels)) := by
  have h1 : m.type ≠ "recipient-stanza" := by simp [hm]
  have h2 : m.type ≠ "labels" := by simp [hm]
  have h3 : m.type ≠ "error" := by simp [hm]
  exact (if_neg h1).trans ((if_neg h2).trans ((if_neg h3).trans (if_pos hm)))

theorem recipientStep_handle (s : RState σ) (m : Stanza)
    (h1 : m.type ≠ "recipient-stanza") (h2 : m.type ≠ "labels") (h3 : m.type ≠ "error") (h4 : m.type ≠ "done") :
    recipientStep ui dec s m =
      match ui.handle dec s.ui m with
      | .reply st r => .next { s with ui := st } r
      | .fatal => .halt [] (.error .protocol)
      | .unknown => .next s unsupportedS :=
  (if_neg h1).trans ((if_neg h2).trans ((if_neg h3).trans (if_neg h4)))

theorem recipientStep_badIndex (s : RState σ) (m : Stanza)
    (hm : m.type = "recipient-stanza") (hi : ∀ idx rest, m.args = idx :: rest → atoi idx ≠ some 0) :
    recipientStep ui dec s m = .halt [] (.error .protocol) := by
  rw [recipientStep_rs s m hm]
  split
  · rename_i idx ty as heq
    split
    · rfl
    · rename_i n hn
      rw [if_pos fun h0 : n = 0 => hi idx _ heq (h0 ▸ hn)]
  · rfl

theorem recipientStep_accept (s : RState σ) (m : Stanza)
    (hm : m.type = "recipient-stanza") (idx ty : String) (as : List String)
    (ha : m.args = idx :: ty :: as) (hi : atoi idx = some 0) :
    recipientStep ui dec s m = .next { s with stanzas := s.stanzas ++ [⟨ty, as, m.body⟩] } okS := by
  rw [recipientStep_rs s m hm, ha]
  simp only [hi]
  rfl

theorem recipientStep_rs_next {s s' : RState σ} {m r : Stanza}
    (hm : m.type = "recipient-stanza") (h : recipientStep ui dec s m = .next s' r) :
    ∃ idx ty as, m.args = idx :: ty :: as ∧ atoi idx = some 0 ∧
      s' = { s with stanzas := s.stanzas ++ [⟨ty, as, m.body⟩] } ∧ r = okS := by
  rw [recipientStep_rs s m hm] at h
  split at h
  · rename_i idx ty as heq
    split at h
    · cases h
    · rename_i n hn
      split at h
      · cases h
      · rename_i h0
        cases h
        exact ⟨idx, ty, as, heq, (Classical.not_not.mp h0) ▸ hn, rfl, rfl⟩
  · cases h

theorem recipientStep_labels_dup (s : RState σ) (m : Stanza)
    (hm : m.type = "labels") (hl : s.labels ≠ none) :
    recipientStep ui dec s m = .halt [] (.error .protocol) := by
  rw [recipientStep_labels s m hm]
  split
  · rfl
  · rename_i h; exact absurd h hl

theorem recipientStep_labels_next {s s' : RState σ} {m r : Stanza}
    (hm : m.type = "labels") (h : recipientStep ui dec s m = .next s' r) :
    s.labels = none ∧ s' = { s with labels := some m.args } ∧ r = okS := by
  rw [recipientStep_labels s m hm] at h
  split at h <;> cases h
  exact ⟨‹_›, rfl, rfl⟩

theorem recipientStep_client :
    ClientStep ui dec ["recipient-stanza", "labels"] RState.ui (fun s st => { s with ui := st })
      (recipientStep ui dec) where
  own_step s m hm := by
    simp only [List.mem_cons, List.not_mem_nil, or_false] at hm
    rcases hm with hm | hm
    · rw [recipientStep_rs s m hm]
      repeat' split
      all_goals first
        | exact .inl rfl
        | exact .inr ⟨_, rfl⟩
    · rw [recipientStep_labels s m hm]
      split
      · exact .inl rfl
      · exact .inr ⟨_, rfl⟩
  error := recipientStep_error
  done s m hm := ⟨_, recipientStep_done s m hm, not_hard_done id _⟩
  handled s m ho := by
    simp only [List.mem_cons, List.not_mem_nil, or_false, not_or] at ho
    exact recipientStep_handle s m ho.1 ho.2
  ui_not_own := by simp [uiCommands]
  uiOf_setUi _ _ := rfl

theorem recipientStep_frame {s s' : RState σ} {m r : Stanza} (h : recipientStep ui dec s m = .next s' r) :
    (m.type ≠ "recipient-stanza" → s'.stanzas = s.stanzas) ∧ (m.type ≠ "labels" → s'.labels = s.labels) := by
  by_cases h1 : m.type = "recipient-stanza"
  · obtain ⟨_, _, _, _, _, hs, _⟩ := recipientStep_rs_next h1 h
    exact ⟨fun hn => absurd h1 hn, fun _ => hs ▸ rfl⟩
  by_cases h2 : m.type = "labels"
  · exact ⟨fun _ => (recipientStep_labels_next h2 h).2.1 ▸ rfl, fun hn => absurd h2 hn⟩
  by_cases h3 : m.type = "error"
  · rw [recipientStep_error s m h3] at h; cases h
  by_cases h4 : m.type = "done"
  · rw [recipientStep_done s m h4] at h; cases h
  rw [recipientStep_handle s m h1 h2 h3 h4] at h
  split at h <;> cases h <;> exact ⟨fun _ => rfl, fun _ => rfl⟩

theorem recipientStep_labels_inv (s : RState σ) (m : Stanza) (s' : RState σ) (r : Stanza)
    (hl : s.labels ≠ none) (h : recipientStep ui dec s m = .next s' r) : s'.labels ≠ none := by
  by_cases hm : m.type = "labels"
  · exact absurd (recipientStep_labels_next hm h).1 hl
  · exact (recipientStep_frame h).2 hm ▸ hl

theorem identityStep_filekey (s : IState σ) (m : Stanza) (hm : m.type = "file-key") :
    identityStep ui dec s m =
      match m.args with
      | [idx] =>
        match atoi idx with
        | none => .halt [] (.error .protocol)
        | some n =>
          if n ≠ 0 then .halt [] (.error .protocol)
          else if s.got then .halt [] (.error .protocol)
          else .next { s with got := true, fileKey := m.body } okS
      | _ => .halt [] (.error .protocol) :=
  if_pos hm

theorem identityStep_error (s : IState σ) (m : Stanza) (hm : m.type = "error") :
    identityStep ui dec s m = .halt [okS] (.error (.pluginError m.body)) := by
  have h1 : m.type ≠ "file-key" := by simp [hm]
  exact (if_neg h1).trans (if_pos hm)

theorem identityStep_done (s : IState σ) (m : Stanza) (hm : m.type = "done") :
    identityStep ui dec s m =
      .halt [] (if s.fileKey = [] then .error .incorrectIdentity else .ok s.fileKey) := by
  have h1 : m.type ≠ "file-key" := by simp [hm]
  have h3 : m.type ≠ "error" := by simp [hm]
  exact (if_neg h1).trans ((if_neg h3).trans (if_pos hm))

theorem identityStep_handle (s : IState σ) (m : Stanza)
    (h1 : m.type ≠ "file-key") (h3 : m.type ≠ "error") (h4 : m.type ≠ "done") :
    identityStep ui dec s m =
      match ui.handle dec s.ui m with
      | .reply st r => .next { s with ui := st } r
      | .fatal => .halt [] (.error .protocol)
      | .unknown => .next s unsupportedS :=
  (if_neg h1).trans ((if_neg h3).trans (if_neg h4))

theorem identityStep_badIndex (s : IState σ) (m : Stanza)
    (hm : m.type = "file-key") (hi : ∀ idx rest, m.args = idx :: rest → atoi idx ≠ some 0) :
    identityStep ui dec s m = .halt [] (.error .protocol) := by
  rw [identityStep_filekey s m hm]
  split
  · rename_i idx heq
    split
    · rfl
    · rename_i n hn
      rw [if_pos fun h0 : n = 0 => hi idx _ heq (h0 ▸ hn)]
  · rfl

theorem identityStep_argcount (ui : UI σ) (dec : String → Option Bytes) (s : IState σ) (m : Stanza)
    (hm : m.type = "file-key") (ha : m.args.length ≠ 1) :
    identityStep ui dec s m = .halt [] (.error .protocol) := by
  rw [identityStep_filekey s m hm]
  split
  · rename_i idx heq
    rw [heq] at ha
    exact absurd rfl ha
  · rfl

theorem identityStep_dup (s : IState σ) (m : Stanza) (hm : m.type = "file-key") (hg : s.got = true) :
    identityStep ui dec s m = .halt [] (.error .protocol) := by
  rw [identityStep_filekey s m hm]
  simp only [hg, if_true]
  repeat' split
  all_goals rfl

theorem identityStep_accept (s : IState σ) (m : Stanza)
    (hm : m.type = "file-key") (idx : String) (ha : m.args = [idx]) (hi : atoi idx = some 0)
    (hg : s.got = false) :
    identityStep ui dec s m = .next { s with got := true, fileKey := m.body } okS := by
  rw [identityStep_filekey s m hm, ha]
  simp only [hi, hg]
  rfl

/-- a continuing step on `file-key` sets `gotFileKey` (and it was not set before) -/
theorem identityStep_filekey_next {s s' : IState σ} {m r : Stanza}
    (hm : m.type = "file-key") (h : identityStep ui dec s m = .next s' r) :
    s.got = false ∧ s'.got = true ∧ s'.fileKey = m.body ∧ s'.ui = s.ui ∧ r = okS := by
  rw [identityStep_filekey s m hm] at h
  repeat' split at h
  all_goals cases h
  exact ⟨Bool.eq_false_iff.mpr ‹_›, rfl, rfl, rfl, rfl⟩

theorem identityStep_client :
    ClientStep ui dec ["file-key"] IState.ui (fun s st => { s with ui := st }) (identityStep ui dec) where
  own_step s m hm := by
    rw [identityStep_filekey s m (List.mem_singleton.mp hm)]
    repeat' split
    all_goals first
      | exact .inl rfl
      | exact .inr ⟨_, rfl⟩
  error := identityStep_error
  done s m hm := ⟨_, identityStep_done s m hm, not_hard_done id _⟩
  handled s m ho := identityStep_handle s m fun h => ho (List.mem_singleton.mpr h)
  ui_not_own := by simp [uiCommands]
  uiOf_setUi _ _ := rfl

theorem identityStep_frame {s s' : IState σ} {m r : Stanza}
    (hm : m.type ≠ "file-key") (h : identityStep ui dec s m = .next s' r) :
    s'.got = s.got ∧ s'.fileKey = s.fileKey := by
  by_cases h3 : m.type = "error"
  · rw [identityStep_error s m h3] at h; cases h
  by_cases h4 : m.type = "done"
  · rw [identityStep_done s m h4] at h; cases h
  rw [identityStep_handle s m hm h3 h4] at h
  split at h <;> cases h <;> exact ⟨rfl, rfl⟩

/-- `gotFileKey` is never reset -/
theorem identityStep_got_inv (s : IState σ) (m : Stanza) (s' : IState σ) (r : Stanza)
    (hg : s.got = true) (h : identityStep ui dec s m = .next s' r) : s'.got = true := by
  by_cases hm : m.type = "file-key"
  · exact (identityStep_filekey_next hm h).2.1
  · exact (identityStep_frame hm h).1 ▸ hg

end Machines

end Plugin
end AgeModel
