/-
  Proofs.GoTieCliModes — how cmd/age turns its flags into identities and recipients
  (`decryptNotPass`, `encryptPass`, `encryptNotPass`, `(rejectScryptIdentity).Unwrap` of
  cmd/age/age.go), as they stand in the source. Translated on every run (one explicit outside state; `errorf` / `errorWithHint` are
  exit sites).

  `age -d -i … -j …`: the list of identities handed to `decrypt` ALWAYS starts with
  `rejectScryptIdentity{}` — which answers a header that is exactly one passphrase stanza by ending
  the process (site 1000) and everything else with "incorrect identity" — followed by the identities
  of the `-i` files and the `-j` plugins in the order of the flags; the ONLY thing done with a `-j`
  value is `plugin.NewIdentityWithoutData(value, ui)`; a failure to read a file or to initialise a
  plugin ends the process before `decrypt` is called. `age -p`: the passphrase the prompt returned,
  and only it, becomes the one recipient. `age -e -r … -R … -i … -j …`: the recipients handed to
  `encrypt` are those of the `-r` arguments, of the `-R` files and of the `-i` / `-j` flags, in that
  order; any failure ends the process before `encrypt` is called.
-/
import AgeModel.Extracted.Funcs
import Proofs.GoBind
import Proofs.GoTieLit
namespace AgeModel
namespace GoTie
open Extracted

theorem rejectScrypt_unwrap_tie (stanzas : List age_Stanza) :
    main_rejectScryptIdentity_Unwrap ⟨⟩ stanzas =
      match stanzas with
      | [s] => if s.Type_ = "scrypt".toUTF8.toList then .error (.panic 1000) else .ok ([], age_ErrIncorrectIdentity)
      | _ => .ok ([], age_ErrIncorrectIdentity) := by
  have hlit : ("scrypt".toUTF8.toList : List UInt8) = [115, 99, 114, 121, 112, 116] := by
    rw [byteArray_toList]; decide +kernel
  match stanzas with
  | [] => rfl
  | [s] =>
    rw [hlit]
    -- with one stanza the length test and the indexing compute, and the type test is what is left
    show (if (s.Type_ != [115, 99, 114, 121, 112, 116]) = true then Except.ok ([], age_ErrIncorrectIdentity)
      else Except.error (Go.Fault.panic 1000) : Go.M (Bytes × Option Go.Err)) = _
    simp only [bne_iff_ne, ne_eq, ite_not]
  | a :: b :: rest => rfl

section
variable {ζ ι τ υ : Type} (reject : ι) (PIF : Bytes → τ → Go.M (List ι × Option Go.Err × τ)) (ui : υ)
  (NI : Bytes → υ → τ → Go.M (ι × Option Go.Err × τ)) (D : List ι → Bytes → ζ → τ → Go.M τ)

/-- the identities of the flags, in order, appended to `acc` -/
def collectIds : List main_identityFlag → τ → List ι → Go.M (τ × List ι)
  | [], t, acc => pure (t, acc)
  | f :: rest, t, acc =>
    if f.Type_ = [105] then do          -- "i"
      let r ← PIF f.Value t
      if (r.2.1 != none) = true then .error (.panic 1000) else collectIds rest r.2.2 (acc ++ r.1)
    else if f.Type_ = [106] then do     -- "j"
      let r ← NI f.Value ui t
      if (r.2.1 != none) = true then .error (.panic 1001) else collectIds rest r.2.2 (acc ++ [r.1])
    else collectIds rest t acc

theorem decryptNotPass_loop (flags : List main_identityFlag) : ∀ (t : τ) (acc : List ι),
    main_decryptNotPass_loop1 PIF ui NI flags t acc =
      (collectIds PIF ui NI flags t acc).map fun r => (.next r : Go.Loop (τ × List ι) τ) := by
  induction flags with
  | nil => intro t acc; rfl
  | cons f rest ih =>
    intro t acc
    simp only [main_decryptNotPass_loop1, collectIds, beq_iff_eq]
    by_cases hi : f.Type_ = [105]
    · rw [if_pos hi, if_pos hi]
      rcases PIF f.Value t with e | ⟨ids, e | e, t'⟩
      · rfl
      · exact ih _ _
      · rfl
    rw [if_neg hi, if_neg hi]
    by_cases hj : f.Type_ = [106]
    · rw [if_pos hj, if_pos hj]
      rcases NI f.Value ui t with e | ⟨id, e | e, t'⟩
      · rfl
      · exact ih _ _
      · rfl
    rw [if_neg hj, if_neg hj]
    exact ih _ _

theorem decryptNotPass_tie (flags : List main_identityFlag) (inp : Bytes) (out : ζ) (t0 : τ) :
    main_decryptNotPass reject PIF ui NI D flags inp out t0 =
      (do let r ← collectIds PIF ui NI flags t0 [reject]
          D r.2 inp out r.1) := by
  simp only [main_decryptNotPass, decryptNotPass_loop, Go.step_loop_next, bind_pure]

/-- whatever the flags, the identities collected extend the starting list: `rejectScryptIdentity{}` stays first -/
theorem collectIds_prefix (flags : List main_identityFlag) : ∀ (t : τ) (acc : List ι) (r : τ × List ι),
    collectIds PIF ui NI flags t acc = .ok r → ∃ more, r.2 = acc ++ more := by
  induction flags with
  | nil => intro t acc r h; cases h; exact ⟨[], by simp⟩
  | cons f rest ih =>
    intro t acc r h
    rw [collectIds] at h
    by_cases hi : f.Type_ = [105]
    · rw [if_pos hi] at h
      obtain ⟨x, _, _, h⟩ := Go.step_checked_ok.1 h
      obtain ⟨m, hm⟩ := ih _ _ _ h
      exact ⟨x.1 ++ m, by rw [hm, List.append_assoc]⟩
    rw [if_neg hi] at h
    by_cases hj : f.Type_ = [106]
    · rw [if_pos hj] at h
      obtain ⟨x, _, _, h⟩ := Go.step_checked_ok.1 h
      obtain ⟨m, hm⟩ := ih _ _ _ h
      exact ⟨[x.1] ++ m, by rw [hm, List.append_assoc]⟩
    rw [if_neg hj] at h
    exact ih _ _ _ h

/-- `decrypt` is only ever called with a list that starts with `rejectScryptIdentity{}` -/
theorem decryptNotPass_reject_first (flags : List main_identityFlag) (t0 : τ) (r : τ × List ι)
    (h : collectIds PIF ui NI flags t0 [reject] = .ok r) : ∃ more, r.2 = reject :: more := by
  obtain ⟨m, hm⟩ := collectIds_prefix PIF ui NI flags t0 [reject] r h
  exact ⟨m, by simpa using hm⟩

end

section
variable {ζ ρ τ : Type} (Pr : τ → Go.M (Bytes × Option Go.Err × τ)) (NS : Bytes → τ → Go.M (ρ × Option Go.Err × τ))
  (Cfg : ρ → Go.M Unit) (E : List ρ → Bytes → ζ → Bool → τ → Go.M τ)

theorem encryptPass_tie (inp : Bytes) (out : ζ) (armor : Bool) (t0 : τ) :
    main_encryptPass Pr NS Cfg E inp out armor t0 =
      (do let p ← Pr t0
          if (p.2.1 != none) = true then .error (.panic 1000)
          else do
            let r ← NS p.1 p.2.2
            if (r.2.1 != none) = true then .error (.panic 1001)
            else do
              Cfg r.1
              E [r.1] inp out armor r.2.2) := by
  simp only [main_encryptPass, bind_pure]
  rfl
end

/-! ## `encryptNotPass`: recipients from `-r`, `-R`, `-i`, `-j`, in that order -/

section
variable {ζ ι ρ τ υ : Type} (PR : Bytes → τ → Go.M (ρ × Option Go.Err × τ)) (PRF : Bytes → τ → Go.M (List ρ × Option Go.Err × τ))
  (PIF : Bytes → τ → Go.M (List ι × Option Go.Err × τ)) (I2R : List ι → τ → Go.M (List ρ × Option Go.Err × τ)) (ui : υ)
  (NI : Bytes → υ → τ → Go.M (ι × Option Go.Err × τ)) (IR : ι → τ → Go.M (ρ × τ)) (E : List ρ → Bytes → ζ → Bool → τ → Go.M τ)

/-- the `-r` arguments: each parsed; a `github:` recipient ends the process with a hint (site 1000), any other failure with
    the error (site 1001) -/
def collectR : List Bytes → τ → List ρ → Go.M (τ × List ρ)
  | [], t, acc => pure (t, acc)
  | a :: rest, t, acc => do
    let r ← PR a t
    if Go.errIsType r.2.1 "main.gitHubRecipientError" = true then .error (.panic 1000)
    else if (r.2.1 != none) = true then .error (.panic 1001)
    else collectR rest r.2.2 (acc ++ [r.1])

/-- the `-R` files -/
def collectRF : List Bytes → τ → List ρ → Go.M (τ × List ρ)
  | [], t, acc => pure (t, acc)
  | f :: rest, t, acc => do
    let r ← PRF f t
    if (r.2.1 != none) = true then .error (.panic 1002) else collectRF rest r.2.2 (acc ++ r.1)

/-- the `-i` / `-j` flags, turned into recipients -/
def collectIR : List main_identityFlag → τ → List ρ → Go.M (τ × List ρ)
  | [], t, acc => pure (t, acc)
  | f :: rest, t, acc =>
    if f.Type_ = [105] then do
      let r ← PIF f.Value t
      if (r.2.1 != none) = true then .error (.panic 1003)
      else do
        let q ← I2R r.1 r.2.2
        if (q.2.1 != none) = true then .error (.panic 1004) else collectIR rest q.2.2 (acc ++ q.1)
    else if f.Type_ = [106] then do
      let r ← NI f.Value ui t
      if (r.2.1 != none) = true then .error (.panic 1005)
      else do
        let q ← IR r.1 r.2.2
        collectIR rest q.2 (acc ++ [q.1])
    else collectIR rest t acc

theorem encryptNotPass_loop1 (recs : List Bytes) : ∀ (t : τ) (acc : List ρ),
    main_encryptNotPass_loop1 PR recs t acc = (collectR PR recs t acc).map fun r => (.next r : Go.Loop (τ × List ρ) τ) := by
  induction recs with
  | nil => intro t acc; rfl
  | cons a rest ih =>
    intro t acc
    simp only [main_encryptNotPass_loop1, collectR]
    rcases PR a t with e | ⟨r, e, t'⟩
    · rfl
    by_cases hg : Go.errIsType e "main.gitHubRecipientError" = true
    · simp only [Go.bind_ok, hg, if_true]; rfl
    cases e with
    | none => exact ih _ _
    | some e => simp only [Go.bind_ok, hg]; rfl

theorem encryptNotPass_loop2 (files : List Bytes) : ∀ (t : τ) (acc : List ρ),
    main_encryptNotPass_loop2 PRF files t acc = (collectRF PRF files t acc).map fun r => (.next r : Go.Loop (τ × List ρ) τ) := by
  induction files with
  | nil => intro t acc; rfl
  | cons f rest ih =>
    intro t acc
    simp only [main_encryptNotPass_loop2, collectRF]
    rcases PRF f t with e | ⟨rs, e | e, t'⟩
    · rfl
    · exact ih _ _
    · rfl

theorem encryptNotPass_loop3 (flags : List main_identityFlag) : ∀ (t : τ) (acc : List ρ),
    main_encryptNotPass_loop3 PIF I2R ui NI IR flags t acc =
      (collectIR PIF I2R ui NI IR flags t acc).map fun r => (.next r : Go.Loop (τ × List ρ) τ) := by
  induction flags with
  | nil => intro t acc; rfl
  | cons f rest ih =>
    intro t acc
    simp only [main_encryptNotPass_loop3, collectIR, beq_iff_eq]
    by_cases hi : f.Type_ = [105]
    · rw [if_pos hi, if_pos hi]
      rcases PIF f.Value t with e | ⟨ids, e | e, t'⟩
      · rfl
      · simp only [Go.bind_ok]
        rcases I2R ids t' with e | ⟨rs, e | e, t''⟩
        · rfl
        · exact ih _ _
        · rfl
      · rfl
    rw [if_neg hi, if_neg hi]
    by_cases hj : f.Type_ = [106]
    · rw [if_pos hj, if_pos hj]
      rcases NI f.Value ui t with e | ⟨id, e | e, t'⟩
      · rfl
      · simp only [Go.bind_ok]
        rcases IR id t' with e | q
        · rfl
        · exact ih _ _
      · rfl
    rw [if_neg hj, if_neg hj]
    exact ih _ _

/-- `age -e -r … -R … -i … -j …`: the recipients handed to `encrypt` are those of the `-r` arguments, then those of the `-R`
    files, then those derived from the `-i` files and `-j` plugins — each group in the order given —; any failure ends the
    process before `encrypt` is called -/
theorem encryptNotPass_tie (recs files : List Bytes) (flags : List main_identityFlag) (inp : Bytes) (out : ζ) (armor : Bool) (t0 : τ) :
    main_encryptNotPass PR PRF PIF I2R ui NI IR E recs files flags inp out armor t0 =
      (do let a ← collectR PR recs t0 []
          let b ← collectRF PRF files a.1 a.2
          let c ← collectIR PIF I2R ui NI IR flags b.1 b.2
          E c.2 inp out armor c.1) := by
  simp only [main_encryptNotPass, encryptNotPass_loop1, encryptNotPass_loop2, encryptNotPass_loop3, Go.step_loop_next, bind_pure]

end

end GoTie
end AgeModel
