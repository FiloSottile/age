/-
  Proofs.FileDecrypt — what a successful `decryptInit` implies.
-/
import AgeModel.File
namespace AgeModel
open Format Stream

theorem identityLoop_key (P : Prims) (ss : List Stanza) :
    ∀ (ids : List Identity) (n c : Nat) (fk : Bytes) (c' : Nat),
      identityLoop P ss ids n c = (.ok (some fk), c') → ∃ i ∈ ids, i.unwrap P ss = .key fk := by
  intro ids
  induction ids with
  | nil => intro n c fk c' h; simp [identityLoop] at h
  | cons i ids ih =>
    intro n c fk c' h
    unfold identityLoop at h
    cases hu : i.unwrap P ss with
    | incorrect =>
      simp only [hu] at h
      obtain ⟨j, hj, hk⟩ := ih _ _ _ _ h
      exact ⟨j, by simp [hj], hk⟩
    | fatal => simp [hu] at h
    | key k' =>
      simp only [hu, Prod.mk.injEq, Except.ok.injEq, Option.some.injEq] at h
      exact ⟨i, by simp, by rw [hu, h.1]⟩

theorem decryptInit_ok (P : Prims) (ids : List Identity) (file k payload : Bytes) (c : Nat)
    (h : decryptInit P ids file = (.ok (k, payload), c)) :
    ∃ hdr rest fk, parse file = .ok (hdr, rest) ∧ (∃ i ∈ ids, i.unwrap P hdr.stanzas = .key fk) ∧
      (fk ≠ [] ∨ endsNonNil P hdr.stanzas ids = true) ∧ headerMAC P fk hdr.stanzas = hdr.mac ∧ 16 ≤ rest.length ∧
      k = streamKey P fk (rest.take 16) ∧ payload = rest.drop 16 := by
  unfold decryptInit at h
  by_cases hids : ids.isEmpty = true
  · rw [if_pos hids] at h; cases h
  rw [if_neg hids] at h
  cases hp : parse file with
  | error e => simp only [hp] at h; cases h
  | ok v =>
    obtain ⟨hdr, rest⟩ := v
    simp only [hp] at h
    generalize hl : identityLoop P hdr.stanzas ids 0 0 = r at h
    obtain ⟨res, c0⟩ := r
    match res, h with
    | .error e, h => cases h
    | .ok none, h => cases h
    | .ok (some fk), h =>
      simp only at h
      by_cases hnil : (fk.isEmpty && !endsNonNil P hdr.stanzas ids) = true
      · rw [if_pos hnil] at h; cases h
      rw [if_neg hnil] at h
      by_cases hmac : headerMAC P fk hdr.stanzas ≠ hdr.mac
      · rw [if_pos hmac] at h; cases h
      rw [if_neg hmac] at h
      by_cases hlen : rest.length < streamNonceSize
      · rw [if_pos hlen] at h; cases h
      rw [if_neg hlen] at h
      cases h
      refine ⟨hdr, rest, fk, rfl, identityLoop_key P hdr.stanzas ids 0 0 fk c hl, ?_, Decidable.of_not_not hmac,
        Nat.le_of_not_lt hlen, rfl, rfl⟩
      cases hnn : endsNonNil P hdr.stanzas ids with
      | true => exact Or.inr rfl
      | false => left; intro e; subst e; simp [hnn] at hnil

/-- an error result carries no reader: by the type of `decryptInit` (an `Except`) -/
theorem decryptInit_error_no_reader (P : Prims) (ids : List Identity) (file : Bytes) (e : DecErr) (c : Nat)
    (h : decryptInit P ids file = (.error e, c)) : ∀ k payload, (decryptInit P ids file).1 ≠ .ok (k, payload) := by
  intro k payload; rw [h]; simp

end AgeModel
