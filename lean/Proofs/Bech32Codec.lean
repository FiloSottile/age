/-
  Proofs.Bech32Codec — `encode` / `decode` as wholes: what `decode` does on a string put together from an
  HRP, the separator and a data part (`decode_assembled`, behind the round trips and the padding
  rejections), what it has checked when it succeeds (`decode_ok`), on which HRPs `encode` succeeds
  (`encode_spec`), and the two round trips.
-/
import Proofs.Bech32Poly
namespace AgeModel
namespace Bech32

theorem forall_u8 (P : UInt8 → Prop) (h : ∀ n : Fin 256, P (UInt8.ofNat n.val)) : ∀ c, P c := by
  intro c
  have := h ⟨c.toNat, c.toNat_lt⟩
  simpa using this

theorem byte_facts : ∀ c : UInt8,
    lowerByte (lowerByte c) = lowerByte c ∧ upperByte (upperByte c) = upperByte c ∧
    upperByte (lowerByte c) = upperByte c ∧ lowerByte (upperByte c) = lowerByte c ∧
    badByte (lowerByte c) = badByte c ∧ badByte (upperByte c) = badByte c ∧
    (lowerByte c = 0x31 ↔ c = 0x31) ∧ (upperByte c = 0x31 ↔ c = 0x31) := by
  apply forall_u8; decide +kernel

theorem lowerByte_cases (c : UInt8) :
    (65 ≤ c.toNat ∧ c.toNat ≤ 90 ∧ (lowerByte c).toNat = c.toNat + 32) ∨
    (¬ (65 ≤ c.toNat ∧ c.toNat ≤ 90) ∧ lowerByte c = c) := by
  simp only [lowerByte, UInt8.le_iff_toNat_le, UInt8.reduceToNat]
  by_cases h : 65 ≤ c.toNat ∧ c.toNat ≤ 90
  · rw [if_pos h, UInt8.toNat_add]
    exact Or.inl ⟨h.1, h.2, Nat.mod_eq_of_lt (Nat.add_lt_add_right (Nat.lt_of_le_of_lt h.2 (by decide)) 32)⟩
  · rw [if_neg h]
    exact Or.inr ⟨h, rfl⟩

theorem upperByte_cases (c : UInt8) :
    (97 ≤ c.toNat ∧ c.toNat ≤ 122 ∧ (upperByte c).toNat + 32 = c.toNat) ∨
    (¬ (97 ≤ c.toNat ∧ c.toNat ≤ 122) ∧ upperByte c = c) := by
  simp only [upperByte, UInt8.le_iff_toNat_le, UInt8.reduceToNat]
  by_cases h : 97 ≤ c.toNat ∧ c.toNat ≤ 122
  · have h32 : 32 ≤ c.toNat := Nat.le_trans (by decide) h.1
    rw [if_pos h, UInt8.toNat_sub_of_le c 32 (UInt8.le_iff_toNat_le.mpr h32)]
    exact Or.inl ⟨h.1, h.2, Nat.sub_add_cancel h32⟩
  · rw [if_neg h]
    exact Or.inr ⟨h, rfl⟩

theorem charset_chars : ∀ c ∈ charset, lowerByte c = c ∧ badByte c = false ∧ c ≠ 0x31 := by decide +kernel

theorem charset_nodup : charset.Nodup := by decide +kernel

/-- every symbol < 32 has a character, which is lower case, printable, not the separator, and —
    the charset having no repetition — maps back to the symbol -/
theorem sym_facts (p : UInt8) (hp : p.toNat < 32) :
    ∃ c, charsetAt p = some c ∧ lowerByte c = c ∧ badByte c = false ∧ c ≠ 0x31 ∧ charsetIdx c = some p := by
  have hlen : p.toNat < charset.length := hp
  obtain ⟨h1, h2, h3⟩ := charset_chars _ (List.getElem_mem hlen)
  refine ⟨charset[p.toNat], by rw [charsetAt, List.getElem?_eq_getElem hlen], h1, h2, h3, ?_⟩
  have hidx : charset.findIdx? (· == charset[p.toNat]) = some p.toNat :=
    List.findIdx?_eq_some_iff_getElem.mpr ⟨hlen, beq_self_eq_true _, fun j hj => by
      simpa using List.pairwise_iff_getElem.mp charset_nodup j p.toNat (Nat.lt_trans hj hlen) hlen hj⟩
  simp only [charsetIdx, hidx, Nat.toUInt8, UInt8.ofNat_toNat]

theorem idx_facts (c p : UInt8) (h : charsetIdx c = some p) : p.toNat < 32 ∧ charsetAt p = some c := by
  unfold charsetIdx at h
  split at h
  · rename_i i hi
    obtain ⟨hlt, hc, _⟩ := List.findIdx?_eq_some_iff_getElem.mp hi
    have hlt' : i < 32 := hlt
    have hp : p.toNat = i := by
      cases h
      simp only [Nat.toUInt8, UInt8.toNat_ofNat']
      omega
    rw [charsetAt, hp, List.getElem?_eq_getElem hlt, beq_iff_eq.mp hc]
    exact ⟨hlt', rfl⟩
  · cases h

theorem toLower_append (a b : Bytes) : toLower (a ++ b) = toLower a ++ toLower b := by simp [toLower]
theorem toUpper_append (a b : Bytes) : toUpper (a ++ b) = toUpper a ++ toUpper b := by simp [toUpper]
@[simp] theorem toLower_length (a : Bytes) : (toLower a).length = a.length := by simp [toLower]
@[simp] theorem toUpper_length (a : Bytes) : (toUpper a).length = a.length := by simp [toUpper]
theorem toLower_cons (c : UInt8) (a : Bytes) : toLower (c :: a) = lowerByte c :: toLower a := rfl
theorem toUpper_cons (c : UInt8) (a : Bytes) : toUpper (c :: a) = upperByte c :: toUpper a := rfl

theorem toLower_idem (a : Bytes) : toLower (toLower a) = toLower a := by
  simp only [toLower, List.map_map, Function.comp_def, (byte_facts _).1]

theorem toUpper_idem (a : Bytes) : toUpper (toUpper a) = toUpper a := by
  simp only [toUpper, List.map_map, Function.comp_def, (byte_facts _).2.1]

theorem toUpper_toLower (a : Bytes) : toUpper (toLower a) = toUpper a := by
  simp only [toUpper, toLower, List.map_map, Function.comp_def, (byte_facts _).2.2.1]

theorem toLower_toUpper (a : Bytes) : toLower (toUpper a) = toLower a := by
  simp only [toUpper, toLower, List.map_map, Function.comp_def, (byte_facts _).2.2.2.1]

theorem hasBadByte_append (a b : Bytes) : hasBadByte (a ++ b) = (hasBadByte a || hasBadByte b) := by
  simp [hasBadByte]

theorem hasBadByte_toLower (a : Bytes) : hasBadByte (toLower a) = hasBadByte a := by
  simp only [hasBadByte, toLower, List.any_map, Function.comp_def, (byte_facts _).2.2.2.2.1]

theorem hasBadByte_toUpper (a : Bytes) : hasBadByte (toUpper a) = hasBadByte a := by
  simp only [hasBadByte, toUpper, List.any_map, Function.comp_def, (byte_facts _).2.2.2.2.2.1]

theorem sep_mem_toLower (a : Bytes) : (0x31 : UInt8) ∈ toLower a ↔ (0x31 : UInt8) ∈ a := by
  simp only [toLower, List.mem_map, (byte_facts _).2.2.2.2.2.2.1, exists_eq_right]

theorem sep_mem_toUpper (a : Bytes) : (0x31 : UInt8) ∈ toUpper a ↔ (0x31 : UInt8) ∈ a := by
  simp only [toUpper, List.mem_map, (byte_facts _).2.2.2.2.2.2.2, exists_eq_right]

theorem map_append_fixed {f : UInt8 → UInt8} {a b : Bytes} (h : (a ++ b).map f = a ++ b) : a.map f = a ∧ b.map f = b := by
  rw [List.map_append] at h
  exact List.append_inj h (List.length_map _)

theorem lower_left {a b : Bytes} (h : toLower (a ++ b) = a ++ b) : toLower a = a := (map_append_fixed h).1

theorem lower_right {a b : Bytes} (h : toLower (a ++ b) = a ++ b) : toLower b = b := (map_append_fixed h).2

theorem upper_left {a b : Bytes} (h : toUpper (a ++ b) = a ++ b) : toUpper a = a := (map_append_fixed h).1

theorem upper_right {a b : Bytes} (h : toUpper (a ++ b) = a ++ b) : toUpper b = b := (map_append_fixed h).2

theorem unmixed_left {a b : Bytes} (h : toLower (a ++ b) = a ++ b ∨ toUpper (a ++ b) = a ++ b) :
    toLower a = a ∨ toUpper a = a :=
  h.imp lower_left upper_left

theorem lastIndex_none {c : UInt8} : ∀ {s : Bytes}, lastIndex c s = none ↔ c ∉ s
  | [] => by simp [lastIndex]
  | x :: xs => by
    rw [List.mem_cons, not_or, ← lastIndex_none, lastIndex]
    cases lastIndex c xs with
    | some i => simp
    | none =>
      by_cases hx : x = c
      · simp [hx]
      · simp [hx, Ne.symm hx]

theorem lastIndex_append (c : UInt8) : ∀ (a b : Bytes), c ∉ b → lastIndex c (a ++ c :: b) = some a.length
  | [], b, h => by
    simp only [List.nil_append, lastIndex, lastIndex_none.mpr h, if_true, List.length_nil]
  | x :: a, b, h => by
    simp only [List.cons_append, lastIndex, lastIndex_append c a b h, List.length_cons]

theorem lastIndex_some {c : UInt8} : ∀ {s : Bytes} {p : Nat}, lastIndex c s = some p →
    ∃ a b, s = a ++ c :: b ∧ c ∉ b ∧ a.length = p
  | [], p, h => by simp [lastIndex] at h
  | x :: xs, p, h => by
    simp only [lastIndex] at h
    cases hx : lastIndex c xs with
    | some i =>
      rw [hx] at h
      cases h
      obtain ⟨a, b, rfl, hb, rfl⟩ := lastIndex_some hx
      exact ⟨x :: a, b, rfl, hb, rfl⟩
    | none =>
      rw [hx] at h
      by_cases hc : x = c
      · rw [if_pos hc] at h
        cases h
        exact ⟨[], xs, by rw [hc]; rfl, lastIndex_none.mp hx, rfl⟩
      · rw [if_neg hc] at h
        cases h

/-- the data part of a string, as `Decode` cuts it out after lower-casing -/
theorem drop_sep (a b : Bytes) : (toLower (a ++ 0x31 :: b)).drop (a.length + 1) = toLower b := by
  simp [toLower_append, toLower_cons, List.drop_append]

theorem mapOpt_cons_eq_some {α β : Type} {f : α → Option β} {x : α} {a : List α} {r : List β}
    (h : mapOpt f (x :: a) = some r) : ∃ y ys, f x = some y ∧ mapOpt f a = some ys ∧ r = y :: ys := by
  simp only [mapOpt] at h
  cases hx : f x with
  | none => simp [hx] at h
  | some y =>
    cases hr : mapOpt f a with
    | none => simp [hx, hr] at h
    | some ys =>
      simp only [hx, hr, Option.some.injEq] at h
      exact ⟨y, ys, rfl, rfl, h.symm⟩

theorem mapOpt_append {α β : Type} (f : α → Option β) : ∀ (a b : List α) (ra rb : List β),
    mapOpt f a = some ra → mapOpt f b = some rb → mapOpt f (a ++ b) = some (ra ++ rb)
  | [], b, ra, rb, ha, hb => by
    cases ha
    exact hb
  | x :: a, b, ra, rb, ha, hb => by
    obtain ⟨y, ys, hx, hr, rfl⟩ := mapOpt_cons_eq_some ha
    simp only [List.cons_append, mapOpt, hx, mapOpt_append f a b ys rb hr hb]

theorem mapOpt_length {α β : Type} (f : α → Option β) : ∀ (a : List α) (r : List β), mapOpt f a = some r → r.length = a.length
  | [], r, h => by cases h; rfl
  | x :: a, r, h => by
    obtain ⟨y, ys, _, hr, rfl⟩ := mapOpt_cons_eq_some h
    rw [List.length_cons, List.length_cons, mapOpt_length f a ys hr]

theorem syms_checksum_lt {d5 : Bytes} (h : ∀ x ∈ d5, x.toNat < 32) (hrp : Bytes) :
    ∀ x ∈ d5 ++ createChecksum hrp d5, x.toNat < 32 := fun x hx =>
  (List.mem_append.mp hx).elim (h x) (createChecksum_lt _ _ x)

theorem chars_of_syms : ∀ (l : Bytes), (∀ x ∈ l, x.toNat < 32) →
    ∃ cs, mapOpt charsetAt l = some cs ∧ toLower cs = cs ∧ hasBadByte cs = false ∧ (0x31 : UInt8) ∉ cs ∧
      mapOpt charsetIdx cs = some l
  | [], _ => ⟨[], rfl, rfl, rfl, by simp, rfl⟩
  | p :: l, h => by
    obtain ⟨cs, h1, h2, h3, h4, h5⟩ := chars_of_syms l (fun x hx => h x (by simp [hx]))
    obtain ⟨c, hc, p1, p2, p3, p4⟩ := sym_facts p (h p (by simp))
    refine ⟨c :: cs, by simp [mapOpt, hc, h1], by simp [toLower_cons, p1, h2], ?_, ?_, by simp [mapOpt, p4, h5]⟩
    · simp only [hasBadByte, List.any_cons, p2, Bool.false_or] at h3 ⊢
      exact h3
    · simp only [List.mem_cons, not_or]
      exact ⟨fun e => p3 e.symm, h4⟩

theorem syms_of_chars : ∀ (cs l : Bytes), mapOpt charsetIdx cs = some l →
    (∀ x ∈ l, x.toNat < 32) ∧ mapOpt charsetAt l = some cs
  | [], l, h => by
    simp only [mapOpt, Option.some.injEq] at h
    subst h
    exact ⟨by simp, rfl⟩
  | c :: cs, l, h => by
    obtain ⟨p, r, hp, hr, rfl⟩ := mapOpt_cons_eq_some h
    have hc := idx_facts c p hp
    obtain ⟨ih1, ih2⟩ := syms_of_chars cs r hr
    refine ⟨?_, by simp only [mapOpt, hc.2, ih2]⟩
    intro x hx
    rcases List.mem_cons.mp hx with rfl | hx
    · exact hc.1
    · exact ih1 x hx

theorem mapOpt_inj_chars (l cs cs' : Bytes) (h : mapOpt charsetAt l = some cs) (h' : mapOpt charsetAt l = some cs') :
    cs = cs' := by rw [h] at h'; cases h'; rfl

theorem hrpExpand_toLower (hrp : Bytes) : hrpExpand (toLower hrp) = hrpExpand hrp := by
  simp only [hrpExpand, toLower_idem]

theorem hrpExpand_toUpper (hrp : Bytes) : hrpExpand (toUpper hrp) = hrpExpand hrp := by
  simp only [hrpExpand, toLower_toUpper]

theorem createChecksum_toLower (hrp d : Bytes) : createChecksum (toLower hrp) d = createChecksum hrp d := by
  simp only [createChecksum, hrpExpand_toLower]

theorem verifyChecksum_toLower (hrp d : Bytes) : verifyChecksum (toLower hrp) d = verifyChecksum hrp d := by
  simp only [verifyChecksum, hrpExpand_toLower]

/-- `decode` on `H ++ "1" ++ D` where `D` is a well-formed data part for the
    symbols `d5` followed by their checksum -/
theorem decode_assembled (H D d5 : Bytes) (hH : H ≠ []) (hHb : hasBadByte H = false) (hDb : hasBadByte D = false)
    (hD1 : (0x31 : UInt8) ∉ D)
    (hcase : toLower (H ++ 0x31 :: D) = H ++ 0x31 :: D ∨ toUpper (H ++ 0x31 :: D) = H ++ 0x31 :: D)
    (hidx : mapOpt charsetIdx (toLower D) = some (d5 ++ createChecksum H d5)) :
    decode (H ++ 0x31 :: D) =
      match convertBits d5 5 8 false with
      | .error e => .error e
      | .ok b => .ok (H, b) := by
  have hbad : hasBadByte (H ++ 0x31 :: D) = false := by
    rw [hasBadByte_append, hHb]
    simp only [hasBadByte, List.any_cons, Bool.false_or] at hDb ⊢
    rw [hDb]; decide
  have hmixed : ¬ (toLower (H ++ 0x31 :: D) ≠ H ++ 0x31 :: D ∧ toUpper (H ++ 0x31 :: D) ≠ H ++ 0x31 :: D) :=
    fun hh => hcase.elim hh.1 hh.2
  have hlen := mapOpt_length _ _ _ hidx
  simp only [List.length_append, createChecksum_length, toLower_length] at hlen
  have hpos : ¬ (H.length < 1 ∨ H.length + 7 > (H ++ 0x31 :: D).length) := by
    have : 0 < H.length := List.length_pos_iff.mpr hH
    simp only [List.length_append, List.length_cons]
    omega
  have hver : verifyChecksum H (d5 ++ createChecksum H d5) = true := verify_createChecksum H d5
  have htk : (d5 ++ createChecksum H d5).take ((d5 ++ createChecksum H d5).length - 6) = d5 := by
    simp [createChecksum_length]
  simp only [decode, hbad, eq_false hmixed, lastIndex_append _ _ _ hD1, eq_false hpos, List.take_left, hHb, drop_sep, hidx, hver,
    htk, Bool.false_eq_true, Bool.not_true, if_false]
  rfl

theorem decode_ok {s hrp bytes : Bytes} (h : decode s = .ok (hrp, bytes)) :
    ∃ D d5, s = hrp ++ 0x31 :: D ∧ hasBadByte s = false ∧ (toLower s = s ∨ toUpper s = s) ∧
      mapOpt charsetIdx (toLower D) = some (d5 ++ createChecksum hrp d5) ∧
      convertBits d5 5 8 false = .ok bytes ∧
      (0x31 : UInt8) ∉ D ∧ hrp ≠ [] ∧ (∀ x ∈ d5, x.toNat < 32) := by
  unfold decode at h
  obtain ⟨hbad, h⟩ := ok_of_ite_error h
  obtain ⟨hmix, h⟩ := ok_of_ite_error h
  cases hli : lastIndex 0x31 s with
  | none => rw [hli] at h; cases h
  | some pos =>
    rw [hli] at h
    obtain ⟨a, b, rfl, l3, rfl⟩ := lastIndex_some hli
    simp only [List.take_left, drop_sep] at h
    obtain ⟨hpos, h⟩ := ok_of_ite_error h
    obtain ⟨_, h⟩ := ok_of_ite_error h
    cases hm : mapOpt charsetIdx (toLower b) with
    | none => rw [hm] at h; cases h
    | some data =>
      rw [hm] at h
      obtain ⟨hv, h⟩ := ok_of_ite_error h
      rw [Bool.not_eq_true', Bool.not_eq_false] at hv
      cases hcb : convertBits (data.take (data.length - 6)) 5 8 false with
      | error e => rw [hcb] at h; cases h
      | ok b' =>
        rw [hcb] at h
        cases h
        have hlen := mapOpt_length _ _ _ hm
        simp only [List.length_append, List.length_cons, toLower_length] at hpos hlen
        have hsplit : data = data.take (data.length - 6) ++ data.drop (data.length - 6) :=
          (List.take_append_drop _ _).symm
        have hsyms := (syms_of_chars _ _ hm).1
        have hc : data.drop (data.length - 6) = createChecksum hrp (data.take (data.length - 6)) := by
          apply verify_unique
          · simp only [List.length_drop]; omega
          · intro x hx; exact hsyms x (List.mem_of_mem_drop hx)
          · rw [← hsplit]; exact hv
        refine ⟨b, data.take (data.length - 6), rfl, by simpa using hbad, ?_, ?_, hcb, l3,
          fun he => hpos (Or.inl (by rw [he]; decide)), fun x hx => hsyms x (List.mem_of_mem_take hx)⟩
        · by_cases hl : toLower (hrp ++ 0x31 :: b) = hrp ++ 0x31 :: b
          · exact Or.inl hl
          · exact Or.inr (Classical.not_not.mp fun hu => hmix ⟨hl, hu⟩)
        · rw [← hc, ← hsplit]; exact hm

/-- what `Encode` asks of an HRP: not empty, printable, not of mixed case -/
def ValidHrp (hrp : Bytes) : Prop :=
  hrp ≠ [] ∧ hasBadByte hrp = false ∧ (toUpper hrp = hrp ∨ toLower hrp = hrp)

/-- the conversion to symbols and their characters always exist (so the index panic is
    unreachable); `encode` succeeds exactly on the valid HRPs -/
theorem encode_spec (hrp data : Bytes) :
    ∃ d5 cs,
      (ValidHrp hrp → encode hrp data =
        .ok (if toLower hrp = hrp then toLower hrp ++ 0x31 :: cs else toUpper (toLower hrp ++ 0x31 :: cs))) ∧
      (¬ ValidHrp hrp → ∃ e, e ≠ .indexPanic ∧ encode hrp data = .error e) ∧
      convertBits data 8 5 true = .ok d5 ∧ (∀ x ∈ d5, x.toNat < 32) ∧
      mapOpt charsetAt (d5 ++ createChecksum hrp d5) = some cs ∧ toLower cs = cs ∧ hasBadByte cs = false ∧
      (0x31 : UInt8) ∉ cs ∧ mapOpt charsetIdx cs = some (d5 ++ createChecksum hrp d5) := by
  obtain ⟨d5, k, h1, _, h3, _⟩ := convertBits_8_5 data
  obtain ⟨cs, c1, c2, c3, c4, c5⟩ := chars_of_syms _ (syms_checksum_lt h3 hrp)
  have e : encode hrp data =
      if hrp.length < 1 then .error .badHrpEmpty
      else if hasBadByte hrp then .error .badHrpChar
      else if toUpper hrp ≠ hrp ∧ toLower hrp ≠ hrp then .error .mixedCase
      else .ok (if toLower hrp = hrp then toLower hrp ++ 0x31 :: cs else toUpper (toLower hrp ++ 0x31 :: cs)) := by
    simp only [encode, h1, createChecksum_toLower, c1, beq_iff_eq, List.append_assoc, List.singleton_append]
    by_cases hlo : toLower hrp = hrp
    · simp only [hlo, if_true]
    · simp only [hlo, if_false]
  refine ⟨d5, cs, fun h => ?_, fun h => ?_, h1, h3, c1, c2, c3, c4, c5⟩
  · rw [e, if_neg (Nat.not_lt.mpr (List.length_pos_iff.mpr h.1)), h.2.1, if_neg Bool.false_ne_true,
      if_neg fun hm => h.2.2.elim hm.1 hm.2]
  · rw [e]
    by_cases hl : hrp.length < 1
    · exact ⟨.badHrpEmpty, nofun, if_pos hl⟩
    by_cases hb : hasBadByte hrp = true
    · exact ⟨.badHrpChar, nofun, by rw [if_neg hl, if_pos hb]⟩
    by_cases hm : toUpper hrp ≠ hrp ∧ toLower hrp ≠ hrp
    · exact ⟨.mixedCase, nofun, by rw [if_neg hl, if_neg hb, if_pos hm]⟩
    refine absurd ⟨fun he => hl (by rw [he]; decide), Bool.not_eq_true _ ▸ hb, ?_⟩ h
    by_cases hu : toUpper hrp = hrp
    · exact Or.inl hu
    · exact Or.inr (Classical.not_not.mp fun hlo => hm ⟨hu, hlo⟩)

theorem valid_of_encode {hrp data s : Bytes} (h : encode hrp data = .ok s) : ValidHrp hrp :=
  Classical.not_not.mp fun hn => by
    obtain ⟨_, _, _, hinvalid, _⟩ := encode_spec hrp data
    obtain ⟨e, _, he⟩ := hinvalid hn
    rw [h] at he
    cases he

theorem encode_no_panic (hrp data : Bytes) : encode hrp data ≠ .error .indexPanic := by
  obtain ⟨_, _, hv, hn, _⟩ := encode_spec hrp data
  by_cases h : ValidHrp hrp
  · rw [hv h]
    nofun
  · obtain ⟨e, hne, he⟩ := hn h
    rw [he]
    exact fun heq => hne (Except.error.inj heq)

/-- `Decode(Encode(hrp, data)) = (hrp, data)` -/
theorem encode_roundtrip {hrp : Bytes} (h : ValidHrp hrp) (data : Bytes) :
    ∃ s, encode hrp data = .ok s ∧ decode s = .ok (hrp, data) := by
  obtain ⟨d5, cs, v8, _, v1, _, _, v4, v5, v6, v7⟩ := encode_spec hrp data
  refine ⟨_, v8 h, ?_⟩
  have hback := convertBits_8_5_8 data d5 v1
  by_cases hlo : toLower hrp = hrp
  · rw [if_pos hlo, hlo,
      decode_assembled hrp cs d5 h.1 h.2.1 v5 v6 (Or.inl (by rw [toLower_append, toLower_cons, hlo, v4]; rfl))
        (by rw [v4]; exact v7), hback]
  · have hup : toUpper hrp = hrp := h.2.2.resolve_right hlo
    rw [if_neg hlo, toUpper_append, toUpper_cons, toUpper_toLower, hup, show upperByte 0x31 = 0x31 from rfl,
      decode_assembled hrp (toUpper cs) d5 h.1 h.2.1 (by rw [hasBadByte_toUpper]; exact v5)
        (by rw [sep_mem_toUpper]; exact v6) (Or.inr (by rw [toUpper_append, toUpper_cons, hup, toUpper_idem]; rfl))
        (by rw [toLower_toUpper, v4]; exact v7), hback]

theorem decode_encode {hrp data s : Bytes} (h : encode hrp data = .ok s) : decode s = .ok (hrp, data) := by
  obtain ⟨s', h', hd⟩ := encode_roundtrip (valid_of_encode h) data
  rw [h] at h'
  cases h'
  exact hd

/-- `Encode(Decode(s)) = s`, provided the case of `s` can be recovered from the
    HRP: an upper-case string whose HRP has no letters re-encodes in lower case -/
theorem encode_decode {s hrp data : Bytes} (h : decode s = .ok (hrp, data)) (hcase : toLower hrp = hrp → toLower s = s) :
    encode hrp data = .ok s := by
  obtain ⟨D, d5, d1, d3, d4, d7, d8, _, d2, _⟩ := decode_ok h
  have hb : hasBadByte hrp = false := by
    rw [d1, hasBadByte_append] at d3
    simp only [Bool.or_eq_false_iff] at d3
    exact d3.1
  have hun : toUpper hrp = hrp ∨ toLower hrp = hrp := (unmixed_left (d1 ▸ d4)).symm
  obtain ⟨e5, cs, v8, _, v1, _, v3, _⟩ := encode_spec hrp data
  have hfwd := convertBits_5_8_5 d5 data d8
  rw [hfwd] at v1; cases v1
  -- the characters are determined by the symbols
  have hcs : toLower D = cs := by
    have := (syms_of_chars _ _ d7).2
    rw [v3] at this; cases this; rfl
  -- so what `encode` assembles is `toLower s`, and in the upper-case branch `toUpper (toLower s)`
  have hcand : toLower hrp ++ 0x31 :: cs = toLower s := by
    rw [d1, toLower_append, toLower_cons, hcs]
    rfl
  rw [v8 ⟨d2, hb, hun⟩, hcand]
  by_cases hlo : toLower hrp = hrp
  · rw [if_pos hlo, hcase hlo]
  · rw [if_neg hlo, toUpper_toLower, d4.resolve_left fun h => hlo (lower_left (d1 ▸ h))]

end Bech32
end AgeModel
