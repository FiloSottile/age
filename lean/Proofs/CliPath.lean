/-
  Lemmas about the lexical path model of AgeModel.Cli: splitting, the
  normalising fold, spellings of one path, idempotence of `clean`, and the
  relation between kernel path resolution (`resolve`) and `absPath`.
-/
import AgeModel.Cli
namespace AgeModel
namespace Cli

theorem splitSlash_ne_nil (p : Bytes) : splitSlash p ≠ [] := by
  cases p with
  | nil => simp [splitSlash]
  | cons c rest =>
    simp only [splitSlash]
    split
    · simp
    · split <;> simp

theorem splitSlash_append (a b : Bytes) : splitSlash (a ++ slash :: b) = splitSlash a ++ splitSlash b := by
  induction a with
  | nil => simp [splitSlash]
  | cons c a ih =>
    simp only [List.cons_append, splitSlash]
    by_cases hc : c = slash
    · simp [hc, ih]
    · simp only [hc, if_false, ih]
      cases hs : splitSlash a with
      | nil => exact absurd hs (splitSlash_ne_nil a)
      | cons x xs => simp

theorem splitSlash_noslash (c : Bytes) (h : slash ∉ c) : splitSlash c = [c] := by
  induction c with
  | nil => rfl
  | cons x xs ih =>
    have hx : x ≠ slash := fun e => h (by simp [e])
    have hxs : slash ∉ xs := fun e => h (by simp [e])
    simp [splitSlash, hx, ih hxs]

theorem splitSlash_mem_noslash (p : Bytes) : ∀ c ∈ splitSlash p, slash ∉ c := by
  induction p with
  | nil => intro c hc; simp [splitSlash] at hc; simp [hc]
  | cons x xs ih =>
    intro c hc
    simp only [splitSlash] at hc
    by_cases hx : x = slash
    · simp only [hx, if_true, List.mem_cons] at hc
      cases hc with
      | inl h => simp [h]
      | inr h => exact ih c h
    · simp only [hx, if_false] at hc
      cases hs : splitSlash xs with
      | nil => exact absurd hs (splitSlash_ne_nil xs)
      | cons y ys =>
        rw [hs] at hc ih
        simp only [List.mem_cons] at hc
        cases hc with
        | inl h =>
          subst h
          intro hm
          simp only [List.mem_cons] at hm
          cases hm with
          | inl h => exact hx h.symm
          | inr h => exact ih y (by simp) h
        | inr h => exact ih c (by simp [h])

/-! ### the normalising fold -/

theorem stepRooted_empty (st : List Bytes) : stepRooted st [] = st := by simp [stepRooted]
theorem stepRooted_dot (st : List Bytes) : stepRooted st dotB = st := by simp [stepRooted]
theorem stepRooted_dotdot (st : List Bytes) : stepRooted st dotdot = st.tail := by
  simp [stepRooted, dotdot, dotB]
theorem stepRooted_normal (st : List Bytes) (c : Bytes) (h : NormalComp c) : stepRooted st c = c :: st := by
  simp [stepRooted, h.1, h.2.1, h.2.2.1]

theorem rooted_append (a b : Bytes) (h : a ≠ []) : rooted (a ++ b) = rooted a := by
  cases a with
  | nil => exact absurd rfl h
  | cons c a => rfl

theorem stepRooted_valid (st : List Bytes) (c : Bytes) (hst : ValidPath st) (hc : slash ∉ c) :
    ValidPath (stepRooted st c) := by
  unfold stepRooted
  split
  · exact hst
  · split
    · intro x hx; exact hst x (List.mem_of_mem_tail hx)
    · rename_i h1 h2
      intro x hx
      simp only [List.mem_cons] at hx
      cases hx with
      | inl h =>
        subst h
        exact ⟨fun e => h1 (Or.inl e), fun e => h1 (Or.inr e), h2, hc⟩
      | inr h => exact hst x h

theorem foldl_invariant {α β : Type} (f : β → α → β) (P : β → Prop) (Q : α → Prop)
    (hstep : ∀ b a, P b → Q a → P (f b a)) (l : List α) (b : β) (hb : P b) (hl : ∀ a ∈ l, Q a) :
    P (l.foldl f b) := by
  induction l generalizing b with
  | nil => exact hb
  | cons a l ih =>
    exact ih _ (hstep b a hb (hl a List.mem_cons_self)) (fun x hx => hl x (List.mem_cons_of_mem _ hx))

theorem validPath_singleton (c : Bytes) (h : NormalComp c) : ValidPath [c] :=
  fun _ hx => List.mem_singleton.1 hx ▸ h

theorem validPath_reverse (t : List Bytes) : ValidPath t.reverse ↔ ValidPath t := by
  simp [ValidPath]

theorem absPath_valid (cwd : Path) (p : Bytes) (hcwd : ValidPath cwd) : ValidPath (absPath cwd p) := by
  unfold absPath
  rw [← validPath_reverse, List.reverse_reverse]
  refine foldl_invariant stepRooted ValidPath (slash ∉ ·) stepRooted_valid _ _ ?_ (splitSlash_mem_noslash p)
  split
  · intro c hc; simp at hc
  · exact (validPath_reverse cwd).2 hcwd

/-- normalising the string form of a valid path pushes its components -/
theorem foldl_join (t : Path) (hv : ValidPath t) (st : List Bytes) :
    (splitSlash (joinSlash t)).foldl stepRooted st = t.reverse ++ st := by
  induction t generalizing st with
  | nil => simp [joinSlash, splitSlash, stepRooted]
  | cons c cs ih =>
    have hc : NormalComp c := hv c (by simp)
    have hcs : ValidPath cs := fun x hx => hv x (by simp [hx])
    cases cs with
    | nil =>
      simp only [joinSlash, splitSlash_noslash c hc.2.2.2, List.foldl_cons, List.foldl_nil,
        stepRooted_normal st c hc]
      simp
    | cons c2 cs =>
      simp only [joinSlash, splitSlash_append, splitSlash_noslash c hc.2.2.2, List.cons_append,
        List.nil_append, List.foldl_cons, stepRooted_normal st c hc]
      rw [ih hcs]
      simp

theorem render_rooted (t : Path) : rooted (render t) = true := by simp [render, rooted]

theorem splitSlash_render (t : Path) : splitSlash (render t) = [] :: splitSlash (joinSlash t) := by
  simp [render, splitSlash]

theorem absPath_render (cwd t : Path) (hv : ValidPath t) : absPath cwd (render t) = t := by
  unfold absPath
  rw [render_rooted, splitSlash_render]
  simp only [if_true, List.foldl_cons, stepRooted_empty]
  rw [foldl_join t hv]
  simp

/-- the string form determines the path: Go compares the strings, the model the component lists -/
theorem render_injective (t u : Path) (ht : ValidPath t) (hu : ValidPath u) (h : render t = render u) : t = u := by
  have h1 := absPath_render [] t ht
  have h2 := absPath_render [] u hu
  rw [h] at h1
  exact h1.symm.trans h2

theorem abs_string_eq_iff (cwd : Path) (p q : Bytes) (hcwd : ValidPath cwd) :
    render (absPath cwd p) = render (absPath cwd q) ↔ absPath cwd p = absPath cwd q :=
  ⟨render_injective _ _ (absPath_valid cwd p hcwd) (absPath_valid cwd q hcwd), fun h => by rw [h]⟩

theorem absPath_idempotent (cwd : Path) (p : Bytes) (hcwd : ValidPath cwd) :
    absPath cwd (render (absPath cwd p)) = absPath cwd p :=
  absPath_render cwd _ (absPath_valid cwd p hcwd)

/-- `Clean(Clean(p)) = Clean(p)` for rooted paths (the only ones age compares) -/
theorem clean_idempotent_rooted (p : Bytes) (h : rooted p = true) : clean (clean p) = clean p := by
  have hc : clean p = render (absPath [] p) := by simp [clean, absPath, h]
  rw [hc]
  have hv : ValidPath (absPath [] p) := absPath_valid [] p (by intro c hc; simp at hc)
  have : clean (render (absPath [] p)) = render (absPath [] (render (absPath [] p))) := by
    simp [clean, absPath, render_rooted]
  rw [this, absPath_render [] _ hv]

/-! ### `Clean` of relative paths -/

theorem stepRel_push (st : List Bytes) (c : Bytes) (h1 : c ≠ []) (h2 : c ≠ dotB) (h3 : c ≠ dotdot) :
    stepRel st c = c :: st := by
  simp [stepRel, h1, h2, h3]

theorem stepRel_dotdot (t : Bytes) (rest : List Bytes) :
    stepRel (t :: rest) dotdot = if t = dotdot then dotdot :: t :: rest else rest := by
  unfold stepRel
  rw [if_neg (by decide), if_pos rfl]

/-- a stack of cleaned components of a relative path: replaying them from the
    bottom rebuilds the stack -/
def Replays (st : List Bytes) : Prop :=
  (∀ c ∈ st, c ≠ [] ∧ c ≠ dotB ∧ slash ∉ c) ∧ st.reverse.foldl stepRel [] = st

theorem Replays.step (st : List Bytes) (c : Bytes) (hst : Replays st) (hc : slash ∉ c) :
    Replays (stepRel st c) := by
  obtain ⟨hall, hre⟩ := hst
  have hreplay : ∀ x, (x :: st).reverse.foldl stepRel [] = stepRel st x := fun x => by
    rw [List.reverse_cons, List.foldl_append, hre]; rfl
  by_cases h0 : c = [] ∨ c = dotB
  · unfold stepRel
    rw [if_pos h0]
    exact ⟨hall, hre⟩
  have hmem : c ≠ [] ∧ c ≠ dotB ∧ slash ∉ c := ⟨fun e => h0 (Or.inl e), fun e => h0 (Or.inr e), hc⟩
  -- whatever `c` does, if it ends up on top the result replays
  have hkeep : stepRel st c = c :: st → Replays (stepRel st c) := fun e => by
    rw [e]
    exact ⟨List.forall_mem_cons.2 ⟨hmem, hall⟩, (hreplay c).trans e⟩
  by_cases hdd : c = dotdot
  · subst hdd
    cases st with
    | nil => exact hkeep rfl
    | cons t rest =>
      by_cases ht : t = dotdot
      · exact hkeep (by rw [stepRel_dotdot, if_pos ht])
      · -- `..` cancels `t`, which was pushed when the stack was replayed
        have e : stepRel (t :: rest) dotdot = rest := by rw [stepRel_dotdot, if_neg ht]
        have ht' := hall t List.mem_cons_self
        rw [e]
        refine ⟨fun y hy => hall y (List.mem_cons_of_mem _ hy), ?_⟩
        rw [List.reverse_cons, List.foldl_append, List.foldl_cons, List.foldl_nil,
          stepRel_push _ t ht'.1 ht'.2.1 ht] at hre
        exact (List.cons.inj hre).2
  · exact hkeep (stepRel_push st c hmem.1 hmem.2.1 hdd)

theorem split_join (t : List Bytes) (h : ∀ c ∈ t, slash ∉ c) (hne : t ≠ []) : splitSlash (joinSlash t) = t := by
  induction t with
  | nil => exact absurd rfl hne
  | cons c cs ih =>
    have hc := h c (by simp)
    cases cs with
    | nil => simp [joinSlash, splitSlash_noslash c hc]
    | cons c2 cs =>
      simp only [joinSlash, splitSlash_append, splitSlash_noslash c hc]
      rw [ih (fun x hx => h x (by simp [hx])) (by simp)]
      simp

theorem joinSlash_head (t : List Bytes) (c : Bytes) (x : UInt8) (xs : Bytes) (h : c = x :: xs) :
    ∃ ys, joinSlash (c :: t) = x :: ys := by
  subst h
  cases t with
  | nil => exact ⟨xs, rfl⟩
  | cons c2 cs => exact ⟨_, rfl⟩

theorem clean_idempotent (p : Bytes) : clean (clean p) = clean p := by
  by_cases hr : rooted p = true
  · exact clean_idempotent_rooted p hr
  · have hr' : rooted p = false := by simpa using hr
    have hcp : clean p = (if joinSlash ((splitSlash p).foldl stepRel []).reverse = [] then dotB
        else joinSlash ((splitSlash p).foldl stepRel []).reverse) := by simp [clean, hr']
    obtain ⟨hall, hre⟩ : Replays ((splitSlash p).foldl stepRel []) :=
      foldl_invariant stepRel Replays (slash ∉ ·) Replays.step _ [] ⟨by simp, rfl⟩ (splitSlash_mem_noslash p)
    generalize (splitSlash p).foldl stepRel [] = st at hcp hall hre
    rw [hcp]
    -- the cleaned components, outermost first
    cases hst : st.reverse with
    | nil => decide
    | cons c0 t0 =>
      have hmem : ∀ c ∈ c0 :: t0, c ∈ st := fun c hc => by rw [← List.mem_reverse, hst]; exact hc
      -- the string form is non-empty and not rooted
      have hc0 := hall c0 (hmem c0 List.mem_cons_self)
      obtain ⟨x, xs, hx⟩ := List.exists_cons_of_ne_nil hc0.1
      obtain ⟨ys, hys⟩ := joinSlash_head t0 c0 x xs hx
      have hxs : x ≠ slash := fun e => hc0.2.2 (by rw [hx, e]; simp)
      have hne : joinSlash (c0 :: t0) ≠ [] := by rw [hys]; simp
      have hroot : rooted (joinSlash (c0 :: t0)) = false := by rw [hys]; simp [rooted, hxs]
      have hsj := split_join (c0 :: t0) (fun c hc => (hall c (hmem c hc)).2.2) (by simp)
      rw [if_neg hne]
      simp only [clean, hroot, Bool.false_eq_true, if_false, hsj]
      rw [← hst, hre, hst, if_neg hne]

/-! ### spellings of one path -/

theorem absPath_rel (cwd : Path) (p : Bytes) (h : rooted p = false) :
    absPath cwd p = ((splitSlash p).foldl stepRooted cwd.reverse).reverse := by
  simp only [absPath, h, Bool.false_eq_true, if_false]

/-- `filepath.Abs` of `a/b` goes on from that of `a` -/
theorem absPath_append (cwd : Path) (a b : Bytes) (h : a ≠ []) :
    absPath cwd (a ++ slash :: b) = ((splitSlash b).foldl stepRooted (absPath cwd a).reverse).reverse := by
  unfold absPath
  rw [rooted_append a _ h, splitSlash_append, List.foldl_append, List.reverse_reverse]

theorem splitSlash_dotB : splitSlash dotB = [dotB] := by decide
theorem splitSlash_dotdot : splitSlash dotdot = [dotdot] := by decide

/-- `./p` -/
theorem abs_dot_slash (cwd : Path) (p : Bytes) (h : rooted p = false) :
    absPath cwd (dotB ++ slash :: p) = absPath cwd p := by
  rw [absPath_append cwd dotB p (by decide), absPath_rel cwd p h, absPath_rel cwd dotB rfl, splitSlash_dotB,
    List.foldl_cons, List.foldl_nil, stepRooted_dot, List.reverse_reverse]

/-- `p/.` -/
theorem abs_slash_dot (cwd : Path) (p : Bytes) (h : p ≠ []) :
    absPath cwd (p ++ slash :: dotB) = absPath cwd p := by
  rw [absPath_append cwd p dotB h, splitSlash_dotB, List.foldl_cons, List.foldl_nil, stepRooted_dot,
    List.reverse_reverse]

/-- `p/` -/
theorem abs_trailing_slash (cwd : Path) (p : Bytes) (h : p ≠ []) :
    absPath cwd (p ++ [slash]) = absPath cwd p := by
  rw [absPath_append cwd p [] h, splitSlash, List.foldl_cons, List.foldl_nil, stepRooted_empty,
    List.reverse_reverse]

/-- `a//b` -/
theorem abs_double_slash (cwd : Path) (a b : Bytes) :
    absPath cwd (a ++ slash :: slash :: b) = absPath cwd (a ++ slash :: b) := by
  unfold absPath
  have hr : rooted (a ++ slash :: slash :: b) = rooted (a ++ slash :: b) := by
    cases a <;> rfl
  rw [hr, splitSlash_append, splitSlash_append, List.foldl_append, List.foldl_append]
  simp [splitSlash, stepRooted_empty]

/-- `d/../p` for a directory name `d` -/
theorem abs_down_up (cwd : Path) (d p : Bytes) (hd : NormalComp d) (h : rooted p = false) :
    absPath cwd (d ++ slash :: (dotdot ++ slash :: p)) = absPath cwd p := by
  have hr : rooted d = false := by
    cases d with
    | nil => exact absurd rfl hd.1
    | cons x xs => exact decide_eq_false fun e => hd.2.2.2 (by simp [e])
  rw [absPath_append cwd d _ hd.1, splitSlash_append, splitSlash_dotdot, absPath_rel cwd d hr,
    splitSlash_noslash d hd.2.2.2, absPath_rel cwd p h]
  simp only [List.foldl_cons, List.foldl_nil, List.cons_append, List.nil_append, List.reverse_reverse,
    stepRooted_normal _ d hd, stepRooted_dotdot, List.tail_cons]

/-- the absolute spelling `cwd/p` -/
theorem abs_absolute (cwd : Path) (p : Bytes) (hcwd : ValidPath cwd) (h : rooted p = false) :
    absPath cwd (render cwd ++ slash :: p) = absPath cwd p := by
  rw [absPath_append cwd (render cwd) p (List.cons_ne_nil _ _), absPath_render cwd cwd hcwd, absPath_rel cwd p h]

/-! ### kernel resolution agrees with the lexical form whenever it succeeds -/

theorem walk_eq_foldl (w : World) (cs st r : List Bytes) (h : walk w st cs = some r) :
    r = cs.foldl stepRooted st := by
  induction cs generalizing st with
  | nil => simp [walk] at h; simp [h]
  | cons c cs ih =>
    simp only [walk] at h
    split at h
    · simpa using ih _ h
    · simp at h

theorem resolve_eq_abs (w : World) (p : Bytes) (t : Path) (h : resolve w p = some t) :
    t = absPath w.cwd p := by
  unfold resolve at h
  split at h
  · simp at h
  · simp only [Option.map_eq_some_iff] at h
    obtain ⟨r, hr, hrt⟩ := h
    have := walk_eq_foldl w _ _ _ hr
    rw [← hrt, this]
    rfl

end Cli
end AgeModel
