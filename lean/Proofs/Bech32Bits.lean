/-
  Proofs.Bech32Bits — `convertBits` against a bit-list specification.

  `bitsBE w n` is the big-endian list of the low `w` bits of `n`; `flatBits w l`
  concatenates the `w`-bit expansions of the elements of `l`.  The loop of
  `convertBits` maintains
      flatBits tobits ret ++ bitsBE bits acc = flatBits frombits (consumed input)
  for any group sizes `tobits ≤ 8`, `tobits + frombits ≤ 33`; `convertBits_pad` and
  `convertBits_nopad` read the result off it, and the 8→5 / 5→8 statements (both directions of
  `Props.C09.convertBits_inverse` among them) are their instances.
-/
import AgeModel.Bech32
import Proofs.Ite
namespace AgeModel
namespace Bech32

def bitsBE : Nat → Nat → List Bool
  | 0, _ => []
  | w + 1, n => bitsBE w (n / 2) ++ [decide (n % 2 = 1)]

theorem bitsBE_length : ∀ (w n : Nat), (bitsBE w n).length = w
  | 0, _ => rfl
  | w + 1, n => by simp [bitsBE, bitsBE_length w]

theorem bitsBE_split (a : Nat) : ∀ (b n : Nat), bitsBE (a + b) n = bitsBE a (n / 2 ^ b) ++ bitsBE b n
  | 0, n => by simp [bitsBE]
  | b + 1, n => by
    have ih := bitsBE_split a b (n / 2)
    have : n / 2 / 2 ^ b = n / 2 ^ (b + 1) := by
      rw [Nat.div_div_eq_div_mul, Nat.pow_succ, Nat.mul_comm]
    rw [← Nat.add_assoc]
    simp only [bitsBE, ih, this, List.append_assoc]

theorem bitsBE_mod : ∀ (w n : Nat), bitsBE w (n % 2 ^ w) = bitsBE w n
  | 0, _ => rfl
  | w + 1, n => by
    rw [bitsBE, bitsBE, Nat.pow_succ', Nat.mod_mul_right_div_self, Nat.mod_mod_of_dvd _ (Nat.dvd_mul_right 2 _),
      bitsBE_mod w]

theorem bitsBE_congr {w n m : Nat} (h : n % 2 ^ w = m % 2 ^ w) : bitsBE w n = bitsBE w m := by
  rw [← bitsBE_mod w n, ← bitsBE_mod w m, h]

theorem bitsBE_inj : ∀ (w n m : Nat), bitsBE w n = bitsBE w m → n % 2 ^ w = m % 2 ^ w
  | 0, _, _, _ => by simp [Nat.mod_one]
  | w + 1, n, m, h => by
    simp only [bitsBE] at h
    have hl : (bitsBE w (n / 2)).length = (bitsBE w (m / 2)).length := by simp [bitsBE_length]
    obtain ⟨h1, h2⟩ := List.append_inj h hl
    have h2 : (n % 2 = 1 ↔ m % 2 = 1) := decide_eq_decide.mp (List.cons.inj h2).1
    have : n % 2 = m % 2 := by omega
    rw [Nat.pow_succ', Nat.mod_mul, Nat.mod_mul, bitsBE_inj w _ _ h1, this]

theorem bitsBE_zero : ∀ (w : Nat), bitsBE w 0 = List.replicate w false
  | 0 => rfl
  | w + 1 => by
    simp only [bitsBE, Nat.zero_div, bitsBE_zero w]
    rw [List.replicate_succ']
    simp

theorem bitsBE_shift (a k x : Nat) : bitsBE (a + k) (x * 2 ^ k) = bitsBE a x ++ List.replicate k false := by
  rw [bitsBE_split, Nat.mul_div_cancel _ (Nat.two_pow_pos k),
    bitsBE_congr (w := k) (n := x * 2 ^ k) (m := 0) (by rw [Nat.mul_mod_left, Nat.zero_mod]), bitsBE_zero]

def flatBits (w : Nat) (l : Bytes) : List Bool := l.flatMap fun v => bitsBE w v.toNat

@[simp] theorem flatBits_nil (w : Nat) : flatBits w [] = [] := rfl
@[simp] theorem flatBits_cons (w : Nat) (v : UInt8) (l : Bytes) :
    flatBits w (v :: l) = bitsBE w v.toNat ++ flatBits w l := by simp [flatBits]
theorem flatBits_append (w : Nat) (a b : Bytes) : flatBits w (a ++ b) = flatBits w a ++ flatBits w b := by
  simp [flatBits]

theorem flatBits_length (w : Nat) : ∀ l : Bytes, (flatBits w l).length = w * l.length
  | [] => by simp
  | v :: l => by
    simp only [flatBits_cons, List.length_append, bitsBE_length, flatBits_length w l, List.length_cons]
    rw [Nat.mul_succ]; omega

theorem flatBits_inj (w : Nat) : ∀ (a b : Bytes), (∀ x ∈ a, x.toNat < 2 ^ w) → (∀ x ∈ b, x.toNat < 2 ^ w) →
    a.length = b.length → flatBits w a = flatBits w b → a = b
  | [], [], _, _, _, _ => rfl
  | [], _ :: _, _, _, hl, _ => by simp at hl
  | _ :: _, [], _, _, hl, _ => by simp at hl
  | x :: a, y :: b, ha, hb, hl, h => by
    simp only [flatBits_cons] at h
    obtain ⟨h1, h2⟩ := List.append_inj h (by simp [bitsBE_length])
    have hxy := bitsBE_inj w _ _ h1
    rw [Nat.mod_eq_of_lt (ha x (by simp)), Nat.mod_eq_of_lt (hb y (by simp))] at hxy
    have := flatBits_inj w a b (fun z hz => ha z (by simp [hz])) (fun z hz => hb z (by simp [hz]))
      (by simpa using hl) h2
    rw [UInt8.toNat_inj.mp hxy, this]

/-- `byte(x) & maxv` is `x mod 2^t` for `t ≤ 8` -/
theorem mask_eq_mod {t : Nat} (ht : t ≤ 8) (x : Nat) : x % 256 &&& (1 <<< t - 1) % 256 = x % 2 ^ t := by
  have h256 : (256 : Nat) = 2 ^ 8 := by decide
  have hle : 2 ^ t ≤ 2 ^ 8 := Nat.pow_le_pow_right (by decide) ht
  have hpos : 0 < 2 ^ t := Nat.two_pow_pos t
  have e : (2 ^ t - 1) % 256 = 2 ^ t - 1 := Nat.mod_eq_of_lt (by omega)
  rw [Nat.one_shiftLeft, e, Nat.and_two_pow_sub_one_eq_mod, h256,
    Nat.mod_mod_of_dvd _ (Nat.pow_dvd_pow 2 ht)]

theorem emit_toNat {t maxv : Nat} (ht : t ≤ 8) (hm : ∀ x, x % 256 &&& maxv = x % 2 ^ t) (x : Nat) :
    ((x % 256 &&& maxv).toUInt8).toNat = x % 2 ^ t := by
  rw [hm]
  have hle : 2 ^ t ≤ 2 ^ 8 := Nat.pow_le_pow_right (by decide) ht
  have : x % 2 ^ t < 2 ^ t := Nat.mod_lt _ (Nat.two_pow_pos t)
  simp only [Nat.toUInt8, UInt8.toNat_ofNat']
  exact Nat.mod_eq_of_lt (by omega)

theorem drain_spec {t maxv : Nat} (ht1 : 1 ≤ t) (ht : t ≤ 8) (hm : ∀ x, x % 256 &&& maxv = x % 2 ^ t) (acc : Nat) :
    ∀ (fuel bits : Nat) (ret : Bytes), bits ≤ fuel →
      ∃ bits' new, drain acc t maxv fuel bits ret = (bits', ret ++ new) ∧ bits' < t ∧
        (∀ x ∈ new, x.toNat < 2 ^ t) ∧ flatBits t new ++ bitsBE bits' acc = bitsBE bits acc
  | 0, bits, ret, h => ⟨bits, [], by simp [drain], by omega, by simp, by simp⟩
  | fuel + 1, bits, ret, h => by
    by_cases hb : bits ≥ t
    · obtain ⟨bits', new, h1, h2, h3, h4⟩ := drain_spec ht1 ht hm acc fuel (bits - t)
        (ret ++ [((acc >>> (bits - t)) % 256 &&& maxv).toUInt8]) (by omega)
      refine ⟨bits', ((acc >>> (bits - t)) % 256 &&& maxv).toUInt8 :: new, ?_, h2, ?_, ?_⟩
      · simp only [drain, hb, if_true, h1, List.append_assoc, List.singleton_append]
      · intro x hx
        rcases List.mem_cons.mp hx with rfl | hx
        · rw [emit_toNat ht hm]; exact Nat.mod_lt _ (Nat.two_pow_pos t)
        · exact h3 x hx
      · rw [flatBits_cons, List.append_assoc, h4, emit_toNat ht hm, bitsBE_mod, Nat.shiftRight_eq_div_pow,
          ← bitsBE_split, Nat.add_sub_cancel' hb]
    · exact ⟨bits, [], by simp [drain, hb], by omega, by simp, by simp⟩

theorem badRange_iff (f : Nat) (v : UInt8) : v.toNat >>> f ≠ 0 ↔ ¬ v.toNat < 2 ^ f := by
  rw [Nat.shiftRight_eq_div_pow, Ne, Nat.div_eq_zero_iff]
  have : 0 < 2 ^ f := Nat.two_pow_pos f
  omega

theorem step_bits {f bits acc : Nat} {v : UInt8} (hv : v.toNat < 2 ^ f) (hb : bits + f ≤ 32) :
    bitsBE (bits + f) ((acc <<< f ||| v.toNat) % 2 ^ 32) = bitsBE bits acc ++ bitsBE f v.toNat := by
  have h2 : (acc * 2 ^ f + v.toNat) / 2 ^ f = acc := by
    rw [Nat.mul_comm, Nat.mul_add_div (Nat.two_pow_pos f), Nat.div_eq_of_lt hv, Nat.add_zero]
  rw [← Nat.shiftLeft_add_eq_or_of_lt hv, Nat.shiftLeft_eq,
    bitsBE_congr (Nat.mod_mod_of_dvd _ (Nat.pow_dvd_pow 2 hb)), bitsBE_split, h2,
    bitsBE_congr (w := f) (m := v.toNat) (by rw [Nat.mul_comm, Nat.mul_add_mod])]

theorem cbLoop_spec {f t maxv : Nat} (ht1 : 1 ≤ t) (ht : t ≤ 8) (hft : t + f ≤ 33)
    (hm : ∀ x, x % 256 &&& maxv = x % 2 ^ t) :
    ∀ (data : Bytes) (acc bits : Nat) (ret : Bytes), bits < t → (∀ v ∈ data, v.toNat < 2 ^ f) →
      ∃ acc' bits' new, cbLoop f t maxv data acc bits ret = .ok (acc', bits', ret ++ new) ∧ bits' < t ∧
        (∀ x ∈ new, x.toNat < 2 ^ t) ∧
        flatBits t new ++ bitsBE bits' acc' = bitsBE bits acc ++ flatBits f data
  | [], acc, bits, ret, hb, _ => ⟨acc, bits, [], by simp [cbLoop], hb, by simp, by simp⟩
  | v :: rest, acc, bits, ret, hb, hall => by
    have hv : v.toNat < 2 ^ f := hall v (by simp)
    have hr : ¬ (v.toNat >>> f ≠ 0) := by rw [badRange_iff]; omega
    obtain ⟨bits1, new1, d1, d2, d3, d4⟩ := drain_spec ht1 ht hm ((acc <<< f ||| v.toNat) % 2 ^ 32) (bits + f)
      (bits + f) ret (Nat.le_refl _)
    obtain ⟨acc', bits', new2, c1, c2, c3, c4⟩ := cbLoop_spec ht1 ht hft hm rest ((acc <<< f ||| v.toNat) % 2 ^ 32)
      bits1 (ret ++ new1) d2 (fun x hx => hall x (List.mem_cons_of_mem _ hx))
    refine ⟨acc', bits', new1 ++ new2, ?_, c2, ?_, ?_⟩
    · simp only [cbLoop]
      rw [if_neg hr, d1, c1, List.append_assoc]
    · intro x hx
      exact (List.mem_append.mp hx).elim (d3 x) (c3 x)
    · rw [flatBits_append, List.append_assoc, c4, ← List.append_assoc, d4, step_bits hv (by omega), flatBits_cons,
        List.append_assoc]

theorem cbLoop_range {f t maxv : Nat} : ∀ (data : Bytes) (acc bits : Nat) (ret : Bytes),
    (∀ v ∈ data, v.toNat < 2 ^ f) ∨ cbLoop f t maxv data acc bits ret = .error .badRange
  | [], _, _, _ => Or.inl (by simp)
  | v :: rest, acc, bits, ret => by
    simp only [cbLoop]
    by_cases hr : v.toNat >>> f ≠ 0
    · rw [if_pos hr]
      exact Or.inr rfl
    · rw [if_neg hr]
      refine (cbLoop_range rest _ _ _).imp_left fun h x hx => ?_
      rcases List.mem_cons.mp hx with rfl | hx
      · exact Classical.not_not.mp fun hx => hr ((badRange_iff f x).mpr hx)
      · exact h x hx

theorem cbLoop_init {f t : Nat} (ht1 : 1 ≤ t) (ht : t ≤ 8) (hft : t + f ≤ 33) (data : Bytes)
    (hall : ∀ v ∈ data, v.toNat < 2 ^ f) :
    ∃ acc ret, cbLoop f t ((1 <<< t - 1) % 256) data 0 0 [] = .ok (acc, f * data.length % t, ret) ∧
      (∀ x ∈ ret, x.toNat < 2 ^ t) ∧ flatBits t ret ++ bitsBE (f * data.length % t) acc = flatBits f data := by
  obtain ⟨acc, bits, ret, c1, c2, c3, c4⟩ := cbLoop_spec ht1 ht hft (mask_eq_mod ht) data 0 0 [] (by omega) hall
  have hlen := congrArg List.length c4
  simp only [List.length_append, flatBits_length, bitsBE_length, bitsBE, List.nil_append] at hlen
  have hbits : f * data.length % t = bits := by rw [← hlen, Nat.mul_add_mod, Nat.mod_eq_of_lt c2]
  rw [hbits]
  exact ⟨acc, ret, c1, c3, c4⟩

/-- the final, left-aligned partial group: `byte(acc<<(tobits-bits)) & maxv` -/
theorem padGroup_eq {t bits : Nat} (ht : t ≤ 8) (acc : Nat) :
    (acc <<< (t - bits)) % 2 ^ 32 % 256 &&& (1 <<< t - 1) % 256 = (acc * 2 ^ (t - bits)) % 2 ^ t := by
  rw [mask_eq_mod ht, Nat.shiftLeft_eq, Nat.mod_mod_of_dvd _ (Nat.pow_dvd_pow 2 (by omega : t ≤ 32))]

theorem padGroup_bits {t bits : Nat} (hb : bits ≤ t) (acc : Nat) :
    bitsBE t ((acc * 2 ^ (t - bits)) % 2 ^ t) = bitsBE bits acc ++ List.replicate (t - bits) false := by
  rw [bitsBE_mod]
  have := bitsBE_shift bits (t - bits) acc
  rwa [show bits + (t - bits) = t from by omega] at this

theorem padGroup_zero_iff {t bits : Nat} (hb : bits ≤ t) (acc : Nat) :
    (acc * 2 ^ (t - bits)) % 2 ^ t = 0 ↔ bitsBE bits acc = List.replicate bits false := by
  have hp := padGroup_bits hb acc
  have hsplit : bitsBE t 0 = List.replicate bits false ++ List.replicate (t - bits) false := by
    rw [bitsBE_zero, List.replicate_append_replicate, show bits + (t - bits) = t from by omega]
  constructor
  · intro hz
    rw [hz, hsplit] at hp
    exact (List.append_inj hp (by rw [bitsBE_length, List.length_replicate])).1.symm
  · intro hz
    rw [hz, ← hsplit] at hp
    simpa using bitsBE_inj t _ _ hp

theorem convertBits_pad {f t : Nat} (ht1 : 1 ≤ t) (ht : t ≤ 8) (hft : t + f ≤ 33) (data : Bytes)
    (hall : ∀ v ∈ data, v.toNat < 2 ^ f) :
    ∃ out k, convertBits data f t true = .ok out ∧ k < t ∧ (∀ x ∈ out, x.toNat < 2 ^ t) ∧
      flatBits t out = flatBits f data ++ List.replicate k false := by
  obtain ⟨acc, ret, c1, c3, c4⟩ := cbLoop_init ht1 ht hft data hall
  have c2 : f * data.length % t < t := Nat.mod_lt _ ht1
  generalize f * data.length % t = bits at c1 c2 c4
  simp only [convertBits, c1, if_true]
  by_cases hb : bits > 0
  · have hsym : (((acc <<< (t - bits)) % 2 ^ 32 % 256 &&& (1 <<< t - 1) % 256).toUInt8).toNat =
        (acc * 2 ^ (t - bits)) % 2 ^ t := by
      rw [emit_toNat ht (mask_eq_mod ht), ← mask_eq_mod ht, padGroup_eq ht]
    refine ⟨_, t - bits, if_pos hb, by omega, ?_, ?_⟩
    · intro x hx
      rcases List.mem_append.mp hx with hx | hx
      · exact c3 x hx
      · rw [List.mem_singleton.mp hx, hsym]
        exact Nat.mod_lt _ (Nat.two_pow_pos t)
    · rw [flatBits_append, flatBits_cons, flatBits_nil, List.append_nil, hsym, padGroup_bits (Nat.le_of_lt c2),
        ← List.append_assoc, c4]
  · have : bits = 0 := by omega
    subst this
    exact ⟨ret, 0, if_neg hb, ht1, c3, by simpa [bitsBE] using c4⟩

/-- 8→5 with padding never fails; its output is the input bit string followed
    by fewer than 5 zero bits -/
theorem convertBits_8_5 (data : Bytes) :
    ∃ out k, convertBits data 8 5 true = .ok out ∧ k < 5 ∧ (∀ x ∈ out, x.toNat < 2 ^ 5) ∧
      flatBits 5 out = flatBits 8 data ++ List.replicate k false :=
  convertBits_pad (by decide) (by decide) (by decide) data (fun v _ => v.toNat_lt)

theorem convertBits_nopad {f t : Nat} (ht1 : 1 ≤ t) (ht : t ≤ 8) (hft : t + f ≤ 33) (data : Bytes)
    (hall : ∀ v ∈ data, v.toNat < 2 ^ f) :
    ∃ acc ret, (∀ x ∈ ret, x.toNat < 2 ^ t) ∧
      flatBits t ret ++ bitsBE (f * data.length % t) acc = flatBits f data ∧
      convertBits data f t false =
        if f * data.length % t ≥ f then .error .badPaddingIllegal
        else if ¬ bitsBE (f * data.length % t) acc = List.replicate (f * data.length % t) false then
          .error .badPaddingNonZero
        else .ok ret := by
  obtain ⟨acc, ret, c1, c3, c4⟩ := cbLoop_init ht1 ht hft data hall
  refine ⟨acc, ret, c3, c4, ?_⟩
  simp only [convertBits, c1, Bool.false_eq_true, if_false, padGroup_eq ht, ne_eq,
    padGroup_zero_iff (Nat.le_of_lt (Nat.mod_lt _ ht1))]

theorem convertBits_range (data : Bytes) (f t : Nat) (pad : Bool) :
    (∀ v ∈ data, v.toNat < 2 ^ f) ∨ convertBits data f t pad = .error .badRange :=
  (cbLoop_range (t := t) (maxv := (1 <<< t - 1) % 256) data 0 0 []).imp_right fun h => by simp only [convertBits, h]

theorem drop_of_append_eq {α : Type} {l a b : List α} (h : a ++ b = l) : l.drop (l.length - b.length) = b := by
  rw [← h, List.length_append, Nat.add_sub_cancel, List.drop_left]

/-- 5→8 without padding succeeds exactly on symbol strings (all < 32) whose
    bits are a whole number of bytes followed by fewer than 5 zero bits -/
theorem convertBits_5_8_iff (d5 bytes : Bytes) :
    convertBits d5 5 8 false = .ok bytes ↔
      (∀ v ∈ d5, v.toNat < 2 ^ 5) ∧ ∃ k, k < 5 ∧ flatBits 5 d5 = flatBits 8 bytes ++ List.replicate k false := by
  constructor
  · intro h
    have hall := (convertBits_range d5 5 8 false).resolve_right (by rw [h]; nofun)
    obtain ⟨acc, ret, _, hbits, hc⟩ := convertBits_nopad (f := 5) (t := 8) (by decide) (by decide) (by decide) d5 hall
    rw [hc] at h
    obtain ⟨hlt, h⟩ := ok_of_ite_error h
    obtain ⟨hz, h⟩ := ok_of_ite_error h
    cases h
    exact ⟨hall, 5 * d5.length % 8, by omega, by rw [← hbits, Classical.not_not.mp hz]⟩
  · rintro ⟨hall, k, hk, hb⟩
    obtain ⟨acc, ret, c3, hbits, hc⟩ := convertBits_nopad (f := 5) (t := 8) (by decide) (by decide) (by decide) d5 hall
    rw [hb] at hbits
    have hlen := congrArg List.length hbits
    simp only [List.length_append, flatBits_length, bitsBE_length, List.length_replicate] at hlen
    obtain ⟨hk', hl⟩ : 5 * d5.length % 8 = k ∧ ret.length = bytes.length := by omega
    rw [hk'] at hbits hc
    obtain ⟨h1, h2⟩ := List.append_inj hbits (by rw [flatBits_length, flatBits_length, hl])
    rw [hc, if_neg (Nat.not_le_of_lt hk), if_neg (by rw [h2]; exact fun hn => hn rfl),
      flatBits_inj 8 ret bytes c3 (fun x _ => x.toNat_lt) hl h1]

theorem convertBits_5_8_err (d5 : Bytes) (e : Err) (h : convertBits d5 5 8 false = .error e) :
    e = .badRange ∨ e = .badPaddingIllegal ∨ e = .badPaddingNonZero := by
  rcases convertBits_range d5 5 8 false with hall | hr
  · obtain ⟨acc, ret, _, _, hc⟩ := convertBits_nopad (f := 5) (t := 8) (by decide) (by decide) (by decide) d5 hall
    rw [hc] at h
    split at h
    · cases h; exact Or.inr (Or.inl rfl)
    · split at h
      · cases h; exact Or.inr (Or.inr rfl)
      · cases h
  · rw [hr] at h
    cases h
    exact Or.inl rfl

/-- the three outcomes of 5→8 on symbols < 32, by the number of left-over bits
    `5·n mod 8` and their value (the last `5·n mod 8` bits of the bit string) -/
theorem convertBits_5_8_cases (d5 : Bytes) (hall : ∀ v ∈ d5, v.toNat < 2 ^ 5) :
    (5 * d5.length % 8 ≥ 5 → convertBits d5 5 8 false = .error .badPaddingIllegal) ∧
    (5 * d5.length % 8 < 5 → (flatBits 5 d5).drop (5 * d5.length - 5 * d5.length % 8) ≠
        List.replicate (5 * d5.length % 8) false → convertBits d5 5 8 false = .error .badPaddingNonZero) := by
  obtain ⟨acc, ret, _, hbits, hc⟩ := convertBits_nopad (f := 5) (t := 8) (by decide) (by decide) (by decide) d5 hall
  have hdrop := drop_of_append_eq hbits
  rw [flatBits_length, bitsBE_length] at hdrop
  rw [hc, hdrop]
  exact ⟨fun h => if_pos h, fun h hne => by rw [if_neg (by omega), if_pos hne]⟩

/-- `Props.C09.convertBits_inverse`, direction encode-then-decode -/
theorem convertBits_8_5_8 (data out : Bytes) (h : convertBits data 8 5 true = .ok out) :
    convertBits out 5 8 false = .ok data := by
  obtain ⟨out', k, h1, hk, hlt, hbits⟩ := convertBits_8_5 data
  rw [h] at h1
  cases h1
  exact (convertBits_5_8_iff out data).mpr ⟨hlt, k, hk, hbits⟩

/-- `Props.C09.convertBits_inverse`, direction decode-then-encode -/
theorem convertBits_5_8_5 (d5 bytes : Bytes) (h : convertBits d5 5 8 false = .ok bytes) :
    convertBits bytes 8 5 true = .ok d5 := by
  obtain ⟨hall, k, hk, hbits⟩ := (convertBits_5_8_iff d5 bytes).mp h
  obtain ⟨out, k', h1, hk', hlt, hbits'⟩ := convertBits_8_5 bytes
  have hl1 := congrArg List.length hbits
  have hl2 := congrArg List.length hbits'
  simp only [List.length_append, flatBits_length, List.length_replicate] at hl1 hl2
  obtain ⟨rfl, hlen⟩ : k = k' ∧ out.length = d5.length := by omega
  rw [h1, flatBits_inj 5 out d5 hlt hall hlen (by rw [hbits, hbits'])]

theorem convertBits_8_5_length (data out : Bytes) (h : convertBits data 8 5 true = .ok out) :
    out.length = (8 * data.length + 4) / 5 := by
  obtain ⟨out', k, h1, hk, _, hbits⟩ := convertBits_8_5 data
  rw [h] at h1
  cases h1
  have hl := congrArg List.length hbits
  simp only [List.length_append, flatBits_length, List.length_replicate] at hl
  omega

theorem convertBits_5_8_length (d5 bytes : Bytes) (h : convertBits d5 5 8 false = .ok bytes) :
    bytes.length = 5 * d5.length / 8 ∧ 5 * d5.length % 8 < 5 := by
  obtain ⟨_, k, hk, hbits⟩ := (convertBits_5_8_iff d5 bytes).mp h
  have hl := congrArg List.length hbits
  simp only [List.length_append, flatBits_length, List.length_replicate] at hl
  rw [show 5 * d5.length = 8 * bytes.length + k from hl, Nat.mul_add_mod, Nat.mul_add_div (by decide),
    Nat.mod_eq_of_lt (by omega), Nat.div_eq_of_lt (by omega)]
  exact ⟨rfl, hk⟩

end Bech32
end AgeModel
