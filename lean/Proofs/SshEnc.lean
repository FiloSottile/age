/-
  Proofs.SshEnc — lemmas about the EncryptedSSHIdentity model (AgeModel/SshEnc.lean): where the scan stops
  (`scan_split`), one call by the state it finds and the way the scan ends, where a cached key comes from
  (`run_cached_source`).
-/
import AgeModel.SshEnc
namespace AgeModel
namespace SshEnc

variable {R : Type}

theorem scan_cons_passedOver {cfg : Config R} {s : Stanza} (h : passedOver cfg s) (ss : List Stanza) :
    scanStanzas cfg (s :: ss) = scanStanzas cfg ss := by
  obtain ⟨ty, args, body⟩ := s
  rw [scanStanzas]
  rcases h with h | ⟨a, ha, hne⟩
  · exact if_pos h
  · split
    · rfl
    · cases args with
      | nil => cases ha
      | cons b bs => cases ha; exact if_pos hne

theorem scan_cons_isMatch {cfg : Config R} {s : Stanza} (h : isMatch cfg s) (ss : List Stanza) :
    scanStanzas cfg (s :: ss) = .matched := by
  obtain ⟨ty, args, body⟩ := s
  obtain ⟨ht, ha⟩ := h
  rw [scanStanzas, if_neg (not_not_intro ht)]
  cases args with
  | nil => cases ha
  | cons b bs => cases ha; exact if_neg (not_not_intro rfl)

theorem scan_cons_noArgs {cfg : Config R} {s : Stanza} (ht : s.type = cfg.keyType) (ha : s.args = [])
    (ss : List Stanza) : scanStanzas cfg (s :: ss) = .malformed := by
  rw [scanStanzas, if_neg (not_not_intro ht), ha]

theorem stanza_cases (cfg : Config R) (s : Stanza) :
    passedOver cfg s ∨ isMatch cfg s ∨ (s.type = cfg.keyType ∧ s.args = []) := by
  by_cases ht : s.type = cfg.keyType
  · cases ha : s.args with
    | nil => exact .inr (.inr ⟨ht, rfl⟩)
    | cons a as =>
      by_cases hat : a = cfg.tag
      · exact .inr (.inl ⟨ht, by rw [ha, hat]; rfl⟩)
      · exact .inl (.inr ⟨a, by rw [ha]; rfl, hat⟩)
  · exact .inl (.inl ht)

theorem not_passedOver_of_isMatch {cfg : Config R} {s : Stanza} (h : isMatch cfg s) : ¬ passedOver cfg s := by
  rintro (ht | ⟨a, ha, hne⟩)
  · exact ht h.1
  · exact hne (Option.some.inj (ha.symm.trans h.2))

theorem scan_append {cfg : Config R} {pre : List Stanza} (hpre : ∀ s ∈ pre, passedOver cfg s)
    (rest : List Stanza) : scanStanzas cfg (pre ++ rest) = scanStanzas cfg rest := by
  induction pre with
  | nil => rfl
  | cons x xs ih =>
    rw [List.cons_append, scan_cons_passedOver (hpre x List.mem_cons_self),
      ih fun s hs => hpre s (List.mem_cons_of_mem _ hs)]

theorem scan_split (cfg : Config R) (ss : List Stanza) :
    ((∀ s ∈ ss, passedOver cfg s) ∧ scanStanzas cfg ss = .noMatch) ∨
    ∃ pre s post, ss = pre ++ s :: post ∧ (∀ s' ∈ pre, passedOver cfg s') ∧
      (isMatch cfg s ∨ (s.type = cfg.keyType ∧ s.args = [])) := by
  induction ss with
  | nil => exact .inl ⟨nofun, rfl⟩
  | cons x xs ih =>
    rcases stanza_cases cfg x with hx | hx
    · rcases ih with ⟨hall, hn⟩ | ⟨pre, s, post, rfl, hpre, hs⟩
      · exact .inl ⟨List.forall_mem_cons.mpr ⟨hx, hall⟩, by rw [scan_cons_passedOver hx, hn]⟩
      · exact .inr ⟨x :: pre, s, post, rfl, List.forall_mem_cons.mpr ⟨hx, hpre⟩, hs⟩
    · exact .inr ⟨[], x, xs, rfl, nofun, hx⟩

/-- the scan ends in a match iff the first stanza that is not passed over has the tag -/
theorem scan_matched_iff (cfg : Config R) (ss : List Stanza) :
    scanStanzas cfg ss = .matched ↔
      ∃ pre s post, ss = pre ++ s :: post ∧ (∀ s' ∈ pre, passedOver cfg s') ∧ isMatch cfg s := by
  constructor
  · intro h
    rcases scan_split cfg ss with ⟨_, hn⟩ | ⟨pre, s, post, rfl, hpre, hm | ⟨ht, ha⟩⟩
    · rw [hn] at h; cases h
    · exact ⟨pre, s, post, rfl, hpre, hm⟩
    · rw [scan_append hpre, scan_cons_noArgs ht ha] at h; cases h
  · rintro ⟨pre, s, post, rfl, hpre, hm⟩
    rw [scan_append hpre, scan_cons_isMatch hm]

/-- the scan ends in "malformed" iff the first stanza that is not passed over
    has the declared type and no argument -/
theorem scan_malformed_iff (cfg : Config R) (ss : List Stanza) :
    scanStanzas cfg ss = .malformed ↔
      ∃ pre s post, ss = pre ++ s :: post ∧ (∀ s' ∈ pre, passedOver cfg s') ∧
        s.type = cfg.keyType ∧ s.args = [] := by
  constructor
  · intro h
    rcases scan_split cfg ss with ⟨_, hn⟩ | ⟨pre, s, post, rfl, hpre, hm | hna⟩
    · rw [hn] at h; cases h
    · rw [scan_append hpre, scan_cons_isMatch hm] at h; cases h
    · exact ⟨pre, s, post, rfl, hpre, hna⟩
  · rintro ⟨pre, s, post, rfl, hpre, ht, ha⟩
    rw [scan_append hpre, scan_cons_noArgs ht ha]

theorem step_cached {cfg : Config R} {st : State} {k : KeyId} (h : st.cached = some k) (ss : List Stanza)
    (a : Option Passphrase) : step cfg st ss a = (st, ⟨false, .delegated (cfg.innerUnwrap k ss)⟩) := by
  rw [step.eq_def, h]

theorem step_locked_malformed {cfg : Config R} {st : State} {ss : List Stanza} (h : st.cached = none)
    (hs : scanStanzas cfg ss = .malformed) (a : Option Passphrase) :
    step cfg st ss a = (st, ⟨false, .errMalformed⟩) := by
  rw [step.eq_def, h, hs]

theorem step_locked_noMatch {cfg : Config R} {st : State} {ss : List Stanza} (h : st.cached = none)
    (hs : scanStanzas cfg ss = .noMatch) (a : Option Passphrase) :
    step cfg st ss a = (st, ⟨false, .incorrectIdentity⟩) := by
  rw [step.eq_def, h, hs]

theorem step_locked_matched {cfg : Config R} {st : State} {ss : List Stanza} (h : st.cached = none)
    (hs : scanStanzas cfg ss = .matched) (a : Option Passphrase) :
    (step cfg st ss a).2.prompted = true ∧
    ((step cfg st ss a).1 = st ∨
     ((∃ p, a = some p ∧ cfg.openFile p = some (.key cfg.declared)) ∧
      (step cfg st ss a).1 = ⟨some cfg.declared⟩ ∧
      (step cfg st ss a).2.result = .delegated (cfg.innerUnwrap cfg.declared ss))) := by
  rw [step.eq_def, h, hs]
  cases a with
  | none => exact ⟨rfl, .inl rfl⟩
  | some p =>
    simp only
    cases ho : cfg.openFile p with
    | none => exact ⟨rfl, .inl rfl⟩
    | some o =>
      cases o with
      | otherType => exact ⟨rfl, .inl rfl⟩
      | invalidKey => exact ⟨rfl, .inl rfl⟩
      | key k =>
        simp only
        by_cases hk : k = cfg.declared
        · subst hk
          rw [if_neg (not_not_intro rfl)]
          exact ⟨rfl, .inr ⟨⟨p, rfl, ho⟩, rfl, rfl⟩⟩
        · rw [if_pos hk]
          exact ⟨rfl, .inl rfl⟩

/-- every step leaves the state alone or unlocks it with the declared key after a
    validated prompt -/
theorem step_state (cfg : Config R) (st : State) (ss : List Stanza) (a : Option Passphrase) :
    (step cfg st ss a).1 = st ∨
    (st.cached = none ∧ scanStanzas cfg ss = .matched ∧
      (∃ p, a = some p ∧ cfg.openFile p = some (.key cfg.declared)) ∧
      (step cfg st ss a).1 = ⟨some cfg.declared⟩ ∧
      (step cfg st ss a).2.prompted = true ∧
      (step cfg st ss a).2.result = .delegated (cfg.innerUnwrap cfg.declared ss)) := by
  cases hc : st.cached with
  | some k => exact .inl (by rw [step_cached hc])
  | none =>
    cases hs : scanStanzas cfg ss with
    | malformed => exact .inl (by rw [step_locked_malformed hc hs])
    | noMatch => exact .inl (by rw [step_locked_noMatch hc hs])
    | matched =>
      obtain ⟨hp, h | ⟨ha, h1, hr⟩⟩ := step_locked_matched hc hs a
      · exact .inl h
      · exact .inr ⟨rfl, rfl, ha, h1, hp, hr⟩

theorem run_cons (cfg : Config R) (st : State) (c : Call) (cs : List Call) :
    run cfg st (c :: cs) =
      ((run cfg (step cfg st c.1 c.2).1 cs).1, (step cfg st c.1 c.2).2 :: (run cfg (step cfg st c.1 c.2).1 cs).2) := rfl

/-- `Props.C19.only_validated_cached` for any start state (the induction needs it) -/
theorem run_cached_source (cfg : Config R) (k : KeyId) : ∀ (h : List Call) (st : State),
    (run cfg st h).1.cached = some k →
    st.cached = some k ∨
    (k = cfg.declared ∧ st.cached = none ∧
      ∃ h1 c h2, h = h1 ++ c :: h2 ∧ (run cfg st h1).1 = st ∧
        scanStanzas cfg c.1 = .matched ∧
        (∃ p, c.2 = some p ∧ cfg.openFile p = some (.key cfg.declared)) ∧
        (∃ o, (run cfg st h).2[h1.length]? = some o ∧ o.prompted = true ∧
          o.result = .delegated (cfg.innerUnwrap cfg.declared c.1)) ∧
        (run cfg st (h1 ++ [c])).1 = ⟨some cfg.declared⟩) := by
  intro h
  induction h with
  | nil => intro st hst; exact Or.inl hst
  | cons c cs ih =>
    intro st hst
    rw [run_cons] at hst
    rcases step_state cfg st c.1 c.2 with h2 | ⟨hlocked, hm, hp, h4, h5, h6⟩
    · rw [h2] at hst
      rcases ih st hst with h1 | ⟨hkd, hl, h1, c', h2', hsplit, hrun, hm', hp', ⟨o, ho, hop, hor⟩, hafter⟩
      · exact Or.inl h1
      · refine Or.inr ⟨hkd, hl, c :: h1, c', h2', by rw [hsplit]; rfl, ?_, hm', hp', ⟨o, ?_, hop, hor⟩, ?_⟩
        · rw [run_cons, h2]; exact hrun
        · rw [run_cons, h2]
          simpa using ho
        · rw [List.cons_append, run_cons, h2]; exact hafter
    · rw [h4] at hst
      have hk : k = cfg.declared := by
        rcases ih _ hst with h1 | ⟨_, hl, _⟩
        · simp only [Option.some.injEq] at h1; exact h1.symm
        · cases hl
      refine Or.inr ⟨hk, hlocked, [], c, cs, rfl, rfl, hm, hp, ⟨(step cfg st c.1 c.2).2, ?_, h5, h6⟩, ?_⟩
      · rw [run_cons]; rfl
      · rw [List.nil_append, run_cons, h4]; rfl

end SshEnc
end AgeModel
