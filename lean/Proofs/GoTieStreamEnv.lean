/-
  `AeadEnv`, which the ties of stream.Reader and stream.Writer share.
-/
import AgeModel.GoSem
import AgeModel.Stream
namespace AgeModel
namespace GoTie

/-- what is assumed of the abstract AEAD: it is the model's `A` under key `k`, with a 16-byte tag -/
structure AeadEnv (α : Type) (A : AEAD) (k : Bytes) where
  over : α → Go.M Int
  open_ : α → Bytes → Bytes → Bytes → Go.M (Bytes × Option Go.Err)
  seal_ : α → Bytes → Bytes → Bytes → Go.M Bytes
  eAuth : Go.Err
  hT : A.T = 16
  hOver : ∀ a, over a = .ok 16
  hOpen : ∀ a n c, open_ a n c [] = .ok (match A.openF k n c with
                                          | some p => (p, none)
                                          | none => ([], some eAuth))
  hSeal : ∀ a n p, seal_ a n p [] = .ok (A.sealF k n p)
  /-- length law of the AEAD (a consequence of `AEAD.Correct`) -/
  hOpenLen : ∀ n c p, A.openF k n c = some p → p.length + 16 = c.length
  hSealLen : ∀ n p, (A.sealF k n p).length = p.length + 16

end GoTie
end AgeModel
