/-
  The parts of `main` that run before anything is written, `prepare` and
  `operation`, and `run` as the two followed by `execute`.
-/
import Proofs.CliRun
import Proofs.Ite
namespace AgeModel
namespace Cli

/-- `prepare` answers with a destination only after every check of `main`, in
    the order of the source, has passed; the last of them decides what `out` is -/
theorem prepare_ok (a : Args) (w : World) (dest : Dest) (h : prepare a w = .ok dest) :
    a.positional.length ≤ 1 ∧ flagCheck a = none ∧
    (isFileName (inputName a) = true → openRead w (inputName a) ≠ .fail) ∧
    ((isFileName a.output = true ∧ dest = .lazy a.output ∧ absPath w.cwd a.output ∉ inUseFiles a w.cwd) ∨
     (isFileName a.output = false ∧ (dest = .stdout ∨ dest = .buffered ∧ w.stdout = .terminal))) := by
  unfold prepare at h
  obtain ⟨h1, h⟩ := ok_of_ite_error h
  cases hfc : flagCheck a with
  | some e => rw [hfc] at h; cases h
  | none =>
    rw [hfc] at h
    obtain ⟨h2, h⟩ := ok_of_ite_error h
    refine ⟨Nat.le_of_not_gt h1, rfl, fun hin hfail => h2 (by simp [hin, hfail]), ?_⟩
    by_cases h3 : isFileName a.output = true
    · rw [if_pos h3] at h
      obtain ⟨h4, h⟩ := ok_of_ite_error h
      cases h
      exact Or.inl ⟨h3, rfl, h4⟩
    · rw [if_neg h3] at h
      refine Or.inr ⟨Bool.eq_false_iff.2 h3, ?_⟩
      by_cases h5 : w.stdout = .terminal
      · rw [if_pos h5] at h
        obtain ⟨_, h⟩ := ok_of_ite_error h
        split at h <;> cases h
        · exact Or.inr ⟨rfl, h5⟩
        · exact Or.inl rfl
      · rw [if_neg h5] at h; cases h
        exact Or.inl rfl

theorem prepare_buffered (a : Args) (w : World) (h : prepare a w = .ok .buffered) : w.stdout = .terminal := by
  rcases (prepare_ok a w _ h).2.2.2 with ⟨_, hd, _⟩ | ⟨_, hd | ⟨_, ht⟩⟩
  · cases hd
  · cases hd
  · exact ht

theorem prepare_lazy (a : Args) (w : World) (name : Bytes) (h : prepare a w = .ok (.lazy name)) :
    name = a.output ∧ isFileName a.output = true ∧ absPath w.cwd a.output ∉ inUseFiles a w.cwd := by
  rcases (prepare_ok a w _ h).2.2.2 with ⟨hout, hd, hnot⟩ | ⟨_, hd | ⟨hd, _⟩⟩
  · cases hd; exact ⟨rfl, hout, hnot⟩
  · cases hd
  · cases hd

theorem prepare_not_lazy (a : Args) (w : World) (dest : Dest) (hout : isFileName a.output = false)
    (h : prepare a w = .ok dest) : ∀ name, dest ≠ .lazy name := by
  intro name e
  subst e
  have := (prepare_lazy a w name h).2.1
  rw [hout] at this
  exact Bool.noConfusion this

/-- the output names (under any spelling) a file the run reads: refused before anything is opened for writing -/
theorem prepare_same_file (a : Args) (w : World) (q : Bytes) (hout : isFileName a.output = true)
    (hq : q ∈ inUseNames a) (heq : absPath w.cwd a.output = absPath w.cwd q) : ∃ e, prepare a w = .error e := by
  cases hp : prepare a w with
  | error e => exact ⟨e, rfl⟩
  | ok dest =>
    rcases (prepare_ok a w dest hp).2.2.2 with ⟨_, _, hnot⟩ | ⟨hout', _⟩
    · exact absurd (heq ▸ List.mem_map_of_mem hq) hnot
    · rw [hout] at hout'; cases hout'

theorem encPlan_enc (o : Oracle) (b : Bool) (ct : Bytes) (h : encPlan o b = .enc ct) : ct = o.ct := by
  unfold encPlan at h
  split at h
  · simp at h
  · split at h
    · simp at h
    · simpa using h.symm

theorem encPlan_not_dec (o : Oracle) (b : Bool) (oc : DecOutcome) : encPlan o b ≠ .dec oc := by
  unfold encPlan
  split
  · simp
  · split <;> simp

theorem operation_plan (a : Args) (w : World) (o : Oracle) (plan : Plan) (h : operation a w o = .ok plan) :
    (a.decrypt = true ∧ ∃ oc, plan = .dec oc) ∨ (a.decrypt = false ∧ ∃ b, plan = encPlan o b) := by
  unfold operation at h
  dsimp only at h
  cases hd : a.decrypt with
  | true =>
    rw [hd, if_pos rfl] at h
    split at h <;> cases h
    exact Or.inl ⟨rfl, _, rfl⟩
  | false =>
    rw [hd, if_neg Bool.false_ne_true] at h
    refine Or.inr ⟨rfl, ?_⟩
    split at h
    · split at h <;> cases h
      exact ⟨_, rfl⟩
    · split at h
      · cases h
      · split at h
        · cases h
        · split at h <;> cases h
          exact ⟨_, rfl⟩

theorem operation_enc_ne (a : Args) (w : World) (o : Oracle) (ho : o.WF) (plan : Plan)
    (h : operation a w o = .ok plan) : ∀ ct, plan = .enc ct → ct ≠ [] := by
  intro ct hct
  rcases operation_plan a w o plan h with ⟨_, oc, hp⟩ | ⟨_, b, hp⟩
  · rw [hp] at hct; simp at hct
  · rw [hp] at hct
    rw [encPlan_enc o b ct hct]
    exact ho.ct_ne

theorem run_noArgs (a : Args) (w : World) (o : Oracle) (hn : a.noArgs = true) : run a w o = ⟨1, w, []⟩ := by
  simp only [run, hn, if_true]

theorem run_version (a : Args) (w : World) (o : Oracle) (hn : a.noArgs = false) (hv : a.version = true) :
    run a w o = printVersion w o.versionLine := by
  simp only [run, hn, hv, Bool.false_eq_true, if_false, if_true]

/-- without `-version`, `main` either ends before anything is opened for writing
    (no arguments at all, a check of `prepare` fails, or reading the recipients and
    identities does) or dispatches to `decrypt`/`encrypt` -/
theorem run_cases (a : Args) (w : World) (o : Oracle) (hv : a.version = false) :
    (run a w o = ⟨1, w, []⟩ ∧
      (a.noArgs = true ∨ (∃ e, prepare a w = .error e) ∨ ∃ e, operation a w o = .error e)) ∨
    ∃ dest plan, a.noArgs = false ∧ prepare a w = .ok dest ∧ operation a w o = .ok plan ∧
      (dest = .buffered → w.stdout = .terminal) ∧ run a w o = execute dest plan w := by
  unfold run
  cases hn : a.noArgs with
  | true => exact Or.inl ⟨rfl, Or.inl rfl⟩
  | false =>
    simp only [hv, Bool.false_eq_true, if_false]
    cases hp : prepare a w with
    | error e => exact Or.inl ⟨rfl, Or.inr (Or.inl ⟨e, rfl⟩)⟩
    | ok dest =>
      cases hop : operation a w o with
      | error e => exact Or.inl ⟨rfl, Or.inr (Or.inr ⟨e, rfl⟩)⟩
      | ok plan => exact Or.inr ⟨dest, plan, trivial, rfl, rfl, fun h => prepare_buffered a w (h ▸ hp), rfl⟩

end Cli
end AgeModel
