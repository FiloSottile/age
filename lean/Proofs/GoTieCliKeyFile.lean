/-
  Proofs.GoTieCliKeyFile — the key-file parsers of cmd/age (cmd/age/parse.go), as they stand in the
  source.

  `parseIdentities` (an identity file, plugin identities included) and the line loop of
  `parseRecipientsFile` (`-R`) are TRANSLATED on every run. `parseRecipientsFile` is translated from
  the statement after the file has been opened (`funcSpec.startAt`: the `-`/stdin bookkeeping,
  `os.Open` and the deferred `Close` are outside the fragment; the open file is the bytes it
  delivers); `parseRecipient`, `sshKeyType` and `ssh.ParseAuthorizedKey` are parameters, and
  `warningf` appends to an explicit log (the state `τ`). For EVERY file content they compute the
  file-level model of AgeModel/KeyFile.lean: the keys in file order; or the error naming the
  1-based number of the FIRST offending line; a line that fails to parse is skipped — with exactly
  one warning naming its number — only under `KeyFile.skipCond` (an SSH key of a type age does not
  support, or a well-formed `ssh-rsa` key age refuses), never silently and never when it is a
  corrupted `ssh-rsa` / `ssh-ed25519` line.
-/
import Proofs.GoTieKeyFile
import Proofs.GoBuf
namespace AgeModel
namespace GoTie
open Extracted

/-- cmd/age `parseIdentities`: the library's loop with `parseIdentity` as the single-line parser -/
theorem cli_parseIdentities_tie {ι : Type} (P : Bytes → Go.M (ι × Option Go.Err))
    (hP : ∀ l, ∃ r, P l = .ok r) (f : Bytes) :
    main_parseIdentities P f =
      .ok (modelOut "main.parseIdentities" (KeyFile.parseIdentities (lineKey P) 65536 16777216 f)) :=
  lib_tie "main.parseIdentities" P hP _ (fun _ _ => rfl) (fun _ _ _ _ => rfl) f _ rfl

/-- what `parseRecipientsFile` calls, and what is assumed of it -/
structure RecFileEnv (ρ π τ : Type) where
  /-- `parseRecipient`: returns -/
  P : Bytes → Go.M (ρ × Option Go.Err)
  hP : ∀ l, ∃ r, P l = .ok r
  /-- `sshKeyType`: the key type the line names, if it is shaped like an SSH public key -/
  K : Bytes → Go.M (Bytes × Bool)
  sniff : Bytes → Option Bytes
  hK : ∀ l, K l = .ok (match sniff l with
                        | some t => (t, true)
                        | none => ([], false))
  /-- `ssh.ParseAuthorizedKey`: only whether it fails is looked at -/
  A : Bytes → Go.M (π × Bytes × List Bytes × Bytes × Option Go.Err)
  valid : Bytes → Bool
  hA : ∀ l, ∃ r, A l = .ok r ∧ (r.2.2.2.2 == none) = valid l
  /-- `warningf`: one more line in the log -/
  W : τ → Nat → List Int → Go.M τ
  absT : τ → List Nat
  hW : ∀ t (n : Nat), ∃ t', W t 0 [Int.ofNat n] = .ok t' ∧ absT t' = absT t ++ [n]

def recFileErr : KeyFile.KeyFileErr → Option Go.Err
  | .lineTooLong n => some ⟨"main.parseRecipientsFile", 0, [Int.ofNat n]⟩
  | .atLine n => some ⟨"main.parseRecipientsFile", 1, [Int.ofNat n]⟩
  | .scanErr => some ⟨"main.parseRecipientsFile", 2, []⟩
  | .noKeys => some ⟨"main.parseRecipientsFile", 3, []⟩

def recFilePost {ρ τ : Type} (se : Bool) :
    Go.Loop (τ × List ρ × Int) (List ρ × Option Go.Err × τ) → (List ρ × Option Go.Err) × τ
  | .ret (ks, e, t) => ((ks, e), t)
  | .next (t, recs, _) =>
    (if se then ([], some ⟨"main.parseRecipientsFile", 2, []⟩)
     else if recs.isEmpty then ([], some ⟨"main.parseRecipientsFile", 3, []⟩)
     else (recs, none), t)

def modelOutR {ρ : Type} : Except KeyFile.KeyFileErr (List ρ) → List ρ × Option Go.Err
  | .ok ks => (ks, none)
  | .error e => ([], recFileErr e)

theorem modelOutR_eq_ok_iff {ρ : Type} (x : Except KeyFile.KeyFileErr (List ρ)) (ks : List ρ) :
    modelOutR x = (ks, none) ↔ x = .ok ks := by
  cases x with
  | ok ks' => simp [modelOutR]
  | error e => cases e <;> simp [modelOutR, recFileErr]

theorem len_gt_eq (l : Bytes) : decide (Go.len l > (8192 : Int)) = decide (8192 < l.length) :=
  Go.decide_len_gt l 8192

/-- the test under which a line that failed to parse is skipped is the model's `skipCond` -/
theorem skip_test {ρ π τ α : Type} (E : RecFileEnv ρ π τ) (l : Bytes) (a b : Go.M α) :
    (do let t3 ← E.K l
        if t3.2 then
          let t4 ← E.A l
          if (((t3.1 != ([115, 115, 104, 45, 114, 115, 97] : List UInt8)) &&
                (t3.1 != ([115, 115, 104, 45, 101, 100, 50, 53, 53, 49, 57] : List UInt8))) ||
              ((t3.1 == ([115, 115, 104, 45, 114, 115, 97] : List UInt8)) && (t4.2.2.2.2 == none))) then a
          else b
        else b) =
      if KeyFile.skipCond E.sniff E.valid l then a else b := by
  obtain ⟨ra, hra, hv⟩ := E.hA l
  rw [E.hK, Go.bind_ok, hra, Go.bind_ok, hv, KeyFile.skipCond]
  cases E.sniff l <;> rfl

/-- the loop body computes the model's verdict on the line and acts on it -/
theorem cli_step {ρ π τ : Type} (E : RecFileEnv ρ π τ) (name sc l : Bytes) (ts : List Bytes) (t : τ)
    (recs : List ρ) (n : Int) :
    main_parseRecipientsFile_loop1 E.P E.K E.A E.W name sc (l :: ts) t recs n =
      match KeyFile.cliRecipientLine (lineKey E.P) E.sniff E.valid 8192 l with
      | .blank => main_parseRecipientsFile_loop1 E.P E.K E.A E.W name sc ts t recs (n + 1)
      | .key k => main_parseRecipientsFile_loop1 E.P E.K E.A E.W name sc ts t (recs ++ [k]) (n + 1)
      | .ignored => do
        let t' ← E.W t 0 [n + 1]
        main_parseRecipientsFile_loop1 E.P E.K E.A E.W name sc ts t' recs (n + 1)
      | .bad => pure (.ret ([], some ⟨"main.parseRecipientsFile", 1, [n + 1]⟩, t))
      | .tooLong => pure (.ret ([], some ⟨"main.parseRecipientsFile", 0, [n + 1]⟩, t)) := by
  rw [main_parseRecipientsFile_loop1, ignorable_eq, len_gt_eq, KeyFile.cliRecipientLine]
  cases KeyFile.ignorable l with
  | true => rfl
  | false =>
    by_cases hlen : 8192 < l.length
    · rw [decide_eq_true hlen, if_pos hlen]
      rfl
    · rw [decide_eq_false hlen, if_neg hlen]
      obtain ⟨⟨k, e⟩, hk⟩ := E.hP l
      cases e with
      | none =>
        have hlk : lineKey E.P l = some k := by rw [lineKey, hk]
        rw [hk, hlk]
        rfl
      | some e =>
        have hlk : lineKey E.P l = none := by rw [lineKey, hk]
        rw [hk, hlk]
        rw [Go.bind_ok, skip_test E l]
        cases KeyFile.skipCond E.sniff E.valid l <;> rfl

/-- the loop, followed by the code after it, is the model's loop; the warnings it writes are the
    model's (`base`: what the log held before the call) -/
theorem cli_recs_loop {ρ π τ : Type} (E : RecFileEnv ρ π τ) (name sc : Bytes) (se : Bool)
    (ts : List Bytes) :
    ∀ (t : τ) (recs : List ρ) (n : Nat) (log base : List Nat), E.absT t = base ++ log →
    ∃ r, main_parseRecipientsFile_loop1 E.P E.K E.A E.W name sc ts t recs (Int.ofNat n) = .ok r ∧
      (recFilePost se r).1 = modelOutR
        (KeyFile.loop (KeyFile.cliRecipientLine (lineKey E.P) E.sniff E.valid 8192) se n ts recs log).res ∧
      E.absT (recFilePost se r).2 = base ++
        (KeyFile.loop (KeyFile.cliRecipientLine (lineKey E.P) E.sniff E.valid 8192) se n ts recs log).skipped := by
  induction ts with
  | nil =>
    intro t recs n log base hbase
    refine ⟨_, rfl, ?_, hbase⟩
    cases se
    · cases recs <;> rfl
    · rfl
  | cons l ts ih =>
    intro t recs n log base hbase
    rw [cli_step, KeyFile.loop]
    cases KeyFile.cliRecipientLine (lineKey E.P) E.sniff E.valid 8192 l with
    | blank => exact ih t recs (n + 1) log base hbase
    | key k => exact ih t (recs ++ [k]) (n + 1) log base hbase
    | bad => exact ⟨_, rfl, rfl, hbase⟩
    | tooLong => exact ⟨_, rfl, rfl, hbase⟩
    | ignored =>
      obtain ⟨t', ht', habs⟩ := E.hW t (n + 1)
      obtain ⟨r, hr, h⟩ := ih t' recs (n + 1) (log ++ [n + 1]) base
        (by rw [habs, hbase, List.append_assoc])
      have ht' : E.W t 0 [Int.ofNat n + 1] = .ok t' := ht'
      exact ⟨r, by rw [ht', Go.bind_ok]; exact hr, h⟩

/-- cmd/age `parseRecipientsFile`, from the opened file on: the model's result AND the model's warnings -/
theorem cli_parseRecipientsFile_tie {ρ π τ : Type} (E : RecFileEnv ρ π τ) (name f : Bytes) (t0 : τ) :
    ∃ (res : List ρ × Option Go.Err) (t' : τ),
      main_parseRecipientsFile E.P E.K E.A E.W name f t0 = .ok (res.1, res.2, t') ∧
      let o := KeyFile.cliParseRecipientsFile (lineKey E.P) E.sniff E.valid 8192 65536 16777216 f
      E.absT t' = E.absT t0 ++ o.skipped ∧
      res = match o.res with
            | .ok ks => (ks, none)
            | .error e => ([], recFileErr e) := by
  obtain ⟨r, hr, hres, hlog⟩ := cli_recs_loop E name (Go.io_LimitReader f (16777216 : Int))
    (Go.scanner_Err (Go.io_LimitReader f (16777216 : Int)) != none)
    (Go.scanner_Tokens (Go.io_LimitReader f (16777216 : Int))) t0 [] 0 [] (E.absT t0) (List.append_nil _).symm
  have hr' : main_parseRecipientsFile_loop1 E.P E.K E.A E.W name (Go.io_LimitReader f 16777216)
      (Go.scanner_Tokens (Go.io_LimitReader f 16777216)) t0 [] 0 = .ok r := hr
  rw [(scanner_eq f).1] at hres hlog
  refine ⟨_, _, ?_, hlog.trans ?_, hres.trans ?_⟩
  · rw [main_parseRecipientsFile, hr']
    cases r with
    | ret v => rfl
    | next s =>
      show (if _ then _ else if _ then _ else _) = _
      rw [Go.len_beq_zero, recFilePost]
      cases (Go.scanner_Err (Go.io_LimitReader f 16777216) != none) <;> cases s.2.1.isEmpty <;> rfl
  · rw [(scanner_eq f).2]
    rfl
  · rw [(scanner_eq f).2]
    rfl

end GoTie
end AgeModel
