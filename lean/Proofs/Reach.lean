/-
  Proofs.Reach — a run in which every call reported success performed only
  successful destination writes. `Reach d d'`: `d'` is reached from `d` by
  successful writes alone; any property of destinations that successful writes
  preserve therefore transfers from the start to the end of such a run.  This is
  what lets one writer (the armor writer) be the destination of another (the
  STREAM writer under Encrypt).
-/
import AgeModel.File
import Proofs.StreamWriter
namespace AgeModel
open Format Stream

variable {S : DstSpec}

inductive Reach : Dst S → Dst S → Prop
  | refl (d : Dst S) : Reach d d
  | step {d d1 d' : Dst S} (b : Bytes) : d.write b = (d1, true) → Reach d1 d' → Reach d d'

theorem Reach.trans {a b c : Dst S} (h1 : Reach a b) (h2 : Reach b c) : Reach a c := by
  induction h1 with
  | refl _ => exact h2
  | step bb hw _ ih => exact .step bb hw (ih h2)

theorem Reach.one {d d1 : Dst S} {b : Bytes} (h : d.write b = (d1, true)) : Reach d d1 := .step b h (.refl _)

/-- invariants preserved by successful writes transfer along `Reach` -/
theorem Reach.transfer {I : Dst S → Prop} (hI : ∀ d b d', I d → d.write b = (d', true) → I d')
    {d d' : Dst S} (h : Reach d d') (h0 : I d) : I d' := by
  induction h with
  | refl _ => exact h0
  | step b hw _ ih => exact ih (hI _ b _ h0 hw)

theorem writeAll_reach : ∀ (ps : List Bytes) (d d' : Dst S), writeAll d ps = (d', true) → Reach d d' := by
  intro ps
  induction ps with
  | nil => intro d d' h; simp only [writeAll, Prod.mk.injEq, and_true] at h; subst h; exact .refl _
  | cons p ps ih =>
    intro d d' h
    unfold writeAll at h
    split at h
    · rename_i d1 hw
      exact .step p hw (ih d1 d' h)
    · simp at h

theorem encryptInit_reach (P : Prims) (tape : Bytes) (rs : List Recipient) (segs : List Nat) (d d2 : Dst S)
    (w : Stream.Writer S) (k t' : Bytes) (h : encryptInit P tape rs segs d = (.ok (w, k, t'), d2)) : Reach d d2 := by
  unfold encryptInit at h
  split at h
  · simp at h
  · simp only at h
    split at h
    · simp at h
    · rename_i d1 hwa
      split at h
      · simp at h
      · split at h
        · simp at h
        · rename_i d3 hwn
          simp only [Prod.mk.injEq, Except.ok.injEq] at h
          obtain ⟨_, rfl⟩ := h
          exact (writeAll_reach _ _ _ hwa).trans (Reach.one hwn)

theorem flush_reach (A : AEAD) (C L : Nat) (k : Bytes) (w w' : Writer S) (last : Bool)
    (h : w.flush A C L k last = (w', none)) : Reach w.dst w'.dst := by
  have hf := flush_spec A C L k w last
  rw [h] at hf
  exact Reach.one hf.2.2.2.2

theorem fill_reach (A : AEAD) (C L : Nat) (k : Bytes) : ∀ (fuel : Nat) (w w' : Writer S) (p : Bytes),
    w.fill A C L k p fuel = (w', none) → Reach w.dst w'.dst := by
  intro fuel
  induction fuel with
  | zero => intro w w' p h; simp [Writer.fill] at h
  | succ fuel ih =>
    intro w w' p h
    unfold Writer.fill at h
    split at h
    · simp only [Prod.mk.injEq, and_true] at h; subst h; exact .refl _
    · simp only at h
      split at h
      · split at h
        · simp at h
        · rename_i w2 hf
          have h1 := flush_reach A C L k _ w2 false hf
          exact Reach.trans h1 (ih w2 w' _ h)
      · exact (ih _ w' _ h :)

theorem write_reach (A : AEAD) (C L : Nat) (k : Bytes) (w w' : Writer S) (p : Bytes) (n : Nat)
    (h : w.write A C L k p = (w', n, none)) : Reach w.dst w'.dst := by
  unfold Writer.write at h
  split at h
  · simp at h
  · split at h
    · simp only [Prod.mk.injEq, and_true] at h; obtain ⟨rfl, _⟩ := h; exact .refl _
    · split at h
      · simp at h
      · rename_i w2 hf
        simp only [Prod.mk.injEq, and_true] at h
        obtain ⟨rfl, _⟩ := h
        exact fill_reach A C L k _ w w2 p hf

theorem close_reach (A : AEAD) (C L : Nat) (k : Bytes) (w w' : Writer S)
    (h : w.close A C L k = (w', none)) : Reach w.dst w'.dst := by
  unfold Writer.close at h
  split at h
  · simp at h
  · split at h
    · simp at h
    · rename_i w2 hf
      simp only [Prod.mk.injEq, and_true] at h
      subst h
      exact flush_reach A C L k w w2 true hf

theorem step_reach (A : AEAD) (C L : Nat) (k : Bytes) (w : Writer S) (op : WOp)
    (h : (w.step A C L k op).2.2 = none) : Reach w.dst (w.step A C L k op).1.dst := by
  cases op with
  | write p => exact write_reach A C L k w _ p _ (Prod.ext rfl (Prod.ext rfl h))
  | close => exact close_reach A C L k w _ (Prod.ext rfl h)

theorem run_reach (A : AEAD) (C L : Nat) (k : Bytes) : ∀ (ops : List WOp) (w : Writer S),
    (∀ r ∈ (w.run A C L k ops).2, r.2 = none) → Reach w.dst (w.run A C L k ops).1.dst
  | [], _, _ => .refl _
  | op :: ops, w, hall =>
    (step_reach A C L k w op (hall _ (List.mem_cons_self ..))).trans
      (run_reach A C L k ops _ fun r hr => hall r (List.mem_cons_of_mem _ hr))

end AgeModel
