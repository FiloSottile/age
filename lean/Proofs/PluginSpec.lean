/-
  What a successful run returned (the positive half of C16): the stanzas /
  labels / file key are exactly those the plugin sent before `done`.
-/
import Proofs.PluginStep
namespace AgeModel
namespace Plugin

variable {σ : Type}

theorem beforeDone_cons_done (m : Stanza) (rest : List Stanza) (h : m.type = "done") :
    beforeDone (m :: rest) = [] := by
  simp [beforeDone, h]

theorem beforeDone_cons_other (m : Stanza) (rest : List Stanza) (h : m.type ≠ "done") :
    beforeDone (m :: rest) = m :: beforeDone rest := by
  simp [beforeDone, h]

theorem asWrapped_other (m : Stanza) (h : m.type ≠ "recipient-stanza") : asWrapped m = none := by
  simp [asWrapped, h]

theorem asWrapped_rs (m : Stanza) (h : m.type = "recipient-stanza") (idx ty : String) (as : List String)
    (ha : m.args = idx :: ty :: as) : asWrapped m = some ⟨ty, as, m.body⟩ := by
  simp [asWrapped, h, ha]

/-- a successful wrap returns exactly the stanzas and labels the plugin sent -/
theorem recipient_ok_spec (ui : UI σ) (dec : String → Option Bytes) (s : RState σ) (msgs : List Stanza)
    (e : End) (sts : List Stanza) (l : Option (List String))
    (h : (run (recipientStep ui dec) s msgs e).result = .ok (sts, l)) :
    sts ≠ [] ∧ sts = s.stanzas ++ wrappedOf msgs ∧ l = s.labels.or (labelsOf msgs) := by
  induction msgs generalizing s with
  | nil => simp [run] at h
  | cons m rest ih =>
    by_cases hd : m.type = "done"
    · rw [run_cons_halt (recipientStep_done s m hd)] at h
      simp only at h
      split at h
      · cases h
      · rename_i hne
        cases h
        simp [wrappedOf, labelsOf, beforeDone_cons_done m rest hd, hne]
    · cases hs : recipientStep ui dec s m with
      | halt rs res =>
        rw [run_cons_halt hs] at h
        exact absurd h (((recipientStep_client).hardHalt s m rs res hd hs).not_ok _)
      | next s' r =>
        rw [run_cons_next hs] at h
        obtain ⟨h1, h2, h3⟩ := ih s' h
        refine ⟨h1, ?_, ?_⟩
        · by_cases hr : m.type = "recipient-stanza"
          · obtain ⟨idx, ty, as, ha, _, hs', _⟩ := recipientStep_rs_next hr hs
            rw [h2, hs']
            simp [wrappedOf, beforeDone_cons_other m rest hd, asWrapped_rs m hr idx ty as ha]
          · rw [h2, (recipientStep_frame hs).1 hr]
            simp [wrappedOf, beforeDone_cons_other m rest hd, asWrapped_other m hr]
        · by_cases hl : m.type = "labels"
          · obtain ⟨hnone, hs', _⟩ := recipientStep_labels_next hl hs
            rw [h3, hs', hnone]
            simp [labelsOf, beforeDone_cons_other m rest hd, hl]
          · rw [h3, (recipientStep_frame hs).2 hl]
            simp [labelsOf, beforeDone_cons_other m rest hd, hl]

/-- A successful unwrap returns exactly the (non-empty) file key the plugin sent.
    For any start state, so that the induction goes through: `hinv` is the loop
    invariant (nothing stored before a `file-key` was accepted); once `got` holds
    the result is the stored key. -/
theorem identity_ok_spec (ui : UI σ) (dec : String → Option Bytes) (s : IState σ) (msgs : List Stanza)
    (e : End) (k : Bytes) (hinv : s.got = false → s.fileKey = [])
    (h : (run (identityStep ui dec) s msgs e).result = .ok k) :
    k ≠ [] ∧ (if s.got then k = s.fileKey else fileKeyOf msgs = some k) := by
  induction msgs generalizing s with
  | nil => simp [run] at h
  | cons m rest ih =>
    by_cases hd : m.type = "done"
    · rw [run_cons_halt (identityStep_done s m hd)] at h
      simp only at h
      split at h
      · cases h
      · rename_i hne
        cases h
        refine ⟨hne, ?_⟩
        cases hg : s.got with
        | true => simp
        | false => exact absurd (hinv hg) hne
    · cases hs : identityStep ui dec s m with
      | halt rs res =>
        rw [run_cons_halt hs] at h
        exact absurd h (((identityStep_client).hardHalt s m rs res hd hs).not_ok _)
      | next s' r =>
        rw [run_cons_next hs] at h
        by_cases hf : m.type = "file-key"
        · obtain ⟨hg, hg', hk', _, _⟩ := identityStep_filekey_next hf hs
          obtain ⟨h1, h2⟩ := ih s' (by rw [hg']; intro hc; cases hc) h
          refine ⟨h1, ?_⟩
          rw [hg'] at h2
          simp only [if_true] at h2
          rw [hg]
          simp [fileKeyOf, beforeDone_cons_other m rest hd, hf, h2, hk']
        · obtain ⟨hg', hk'⟩ := identityStep_frame hf hs
          obtain ⟨h1, h2⟩ := ih s' (by rw [hg', hk']; exact hinv) h
          refine ⟨h1, ?_⟩
          rw [hg', hk'] at h2
          cases hg : s.got with
          | true => simpa [hg] using h2
          | false =>
            rw [hg] at h2
            simp only [Bool.false_eq_true, if_false] at h2 ⊢
            simpa [fileKeyOf, beforeDone_cons_other m rest hd, hf] using h2

end Plugin
end AgeModel
