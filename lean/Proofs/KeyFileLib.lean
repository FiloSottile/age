/-
  Helper lemmas for the key-file model: the two concrete loop bodies
  (`libLine`, `cliRecipientLine`) in terms of the line parser: the condition
  under which each gives each verdict (`libWhen`, `cliWhen`).
-/
import Proofs.KeyFileLoop
namespace AgeModel
namespace KeyFile

variable {Key : Type}

theorem map_eq_map_some_iff {α β : Type} (f : α → Option β) (xs : List α) (ks : List β) :
    xs.map f = ks.map some ↔ (∀ x ∈ xs, (f x).isSome = true) ∧ ks = xs.filterMap f := by
  constructor
  · intro h
    refine ⟨fun x hx => ?_, ?_⟩
    · obtain ⟨k, _, hk⟩ := List.mem_map.mp (h ▸ List.mem_map_of_mem hx)
      rw [← hk]
      rfl
    · have := congrArg (List.filterMap id) h
      rw [List.filterMap_map, List.filterMap_map] at this
      exact (List.filterMap_some.symm.trans this.symm)
  · rintro ⟨hall, rfl⟩
    rw [List.map_filterMap_some_eq_filter_map_isSome, List.filter_eq_self.mpr]
    intro o ho
    obtain ⟨x, hx, rfl⟩ := List.mem_map.mp ho
    exact hall x hx

theorem keys_eq (cls : Bytes → LineRes Key) (p : Bytes → Option Key) (ls : List Bytes)
    (h : ∀ l ∈ ls, keyOf (cls l) = if content l then p l else none) :
    ls.filterMap (fun l => keyOf (cls l)) = (ls.filter content).filterMap p := by
  induction ls with
  | nil => rfl
  | cons l ls ih =>
    rw [List.filterMap_cons, h l List.mem_cons_self, ih fun x hx => h x (List.mem_cons_of_mem _ hx),
      List.filter_cons]
    cases content l <;> rfl

def libWhen (p : Bytes → Option Key) (l : Bytes) : LineRes Key → Prop
  | .blank => content l = false
  | .key k => content l = true ∧ p l = some k
  | .bad => content l = true ∧ p l = none
  | _ => False

theorem libLine_eq_iff (p : Bytes → Option Key) (l : Bytes) (r : LineRes Key) :
    libLine p l = r ↔ libWhen p l r := by
  unfold libLine
  cases hi : ignorable l
  · cases hp : p l <;> cases r <;> simp [libWhen, content, hi, hp]
  · cases r <;> simp [libWhen, content, hi]

theorem libLine_bad_iff (p : Bytes → Option Key) (l : Bytes) :
    libLine p l = .bad ↔ content l = true ∧ p l = none :=
  libLine_eq_iff p l .bad

theorem libLine_key_iff (p : Bytes → Option Key) (l : Bytes) (k : Key) :
    libLine p l = .key k ↔ content l = true ∧ p l = some k :=
  libLine_eq_iff p l (.key k)

theorem libLine_blank_iff (p : Bytes → Option Key) (l : Bytes) :
    libLine p l = .blank ↔ content l = false :=
  libLine_eq_iff p l .blank

theorem libLine_ne_tooLong (p : Bytes → Option Key) (l : Bytes) : libLine p l ≠ .tooLong :=
  (libLine_eq_iff p l .tooLong).mp

theorem libLine_ne_ignored (p : Bytes → Option Key) (l : Bytes) : libLine p l ≠ .ignored :=
  (libLine_eq_iff p l .ignored).mp

theorem libLine_keyOf (p : Bytes → Option Key) (l : Bytes) :
    keyOf (libLine p l) = if content l then p l else none := by
  unfold libLine content
  cases ignorable l <;> cases p l <;> rfl

theorem lib_fine_iff (p : Bytes → Option Key) (l : Bytes) :
    fatal (libLine p l) = false ↔ (content l = true → (p l).isSome = true) := by
  unfold libLine content
  cases ignorable l <;> cases p l <;> simp [fatal]

theorem lib_allfine_iff (p : Bytes → Option Key) (ls : List Bytes) :
    (∀ l ∈ ls, fatal (libLine p l) = false) ↔ (∀ l ∈ ls, content l = true → (p l).isSome = true) :=
  forall_congr' fun l => imp_congr_right fun _ => lib_fine_iff p l

theorem lib_keys (p : Bytes → Option Key) (ls : List Bytes) :
    ls.filterMap (fun l => keyOf (libLine p l)) = (ls.filter content).filterMap p :=
  keys_eq _ p ls fun l _ => libLine_keyOf p l

theorem lib_nokeys_iff (p : Bytes → Option Key) (ls : List Bytes)
    (hfine : ∀ l ∈ ls, content l = true → (p l).isSome = true) :
    (ls.filter content).filterMap p = [] ↔ ∀ l ∈ ls, content l = false := by
  rw [List.filterMap_eq_nil_iff, List.forall_mem_filter]
  refine forall_congr' fun l => imp_congr_right fun hl => ?_
  cases hc : content l with
  | false => simp
  | true =>
    have := hfine l hl hc
    cases hp : p l <;> simp [hp] at this ⊢

theorem skipCond_iff (sn : Bytes → Option Bytes) (sv : Bytes → Bool) (l : Bytes) :
    skipCond sn sv l = true ↔
      ∃ t, sn l = some t ∧ ((t ≠ sshRsa ∧ t ≠ sshEd25519) ∨ (t = sshRsa ∧ sv l = true)) := by
  unfold skipCond
  cases sn l <;> simp

section cli
variable (p : Bytes → Option Key) (sn : Bytes → Option Bytes) (sv : Bytes → Bool) (lim : Nat)

def cliWhen (l : Bytes) : LineRes Key → Prop
  | .blank => content l = false
  | .tooLong => content l = true ∧ lim < l.length
  | .key k => content l = true ∧ l.length ≤ lim ∧ p l = some k
  | .ignored => content l = true ∧ l.length ≤ lim ∧ p l = none ∧ skipCond sn sv l = true
  | .bad => content l = true ∧ l.length ≤ lim ∧ p l = none ∧ skipCond sn sv l = false

theorem cli_when (l : Bytes) : cliWhen p sn sv lim l (cliRecipientLine p sn sv lim l) := by
  unfold cliRecipientLine
  cases hi : ignorable l with
  | true => simp [cliWhen, content, hi]
  | false =>
    have hc : content l = true := by simp [content, hi]
    rcases Nat.lt_or_ge lim l.length with hl | hl
    · simp [cliWhen, hc, hl]
    · rw [if_neg (by simp), if_neg (Nat.not_lt.mpr hl)]
      cases hp : p l with
      | some k => exact ⟨hc, hl, hp⟩
      | none =>
        cases hs : skipCond sn sv l with
        | true => exact ⟨hc, hl, hp, hs⟩
        | false => exact ⟨hc, hl, hp, hs⟩

theorem cli_eq_iff (l : Bytes) (r : LineRes Key) :
    cliRecipientLine p sn sv lim l = r ↔ cliWhen p sn sv lim l r := by
  constructor
  · rintro rfl
    exact cli_when p sn sv lim l
  · intro h
    unfold cliRecipientLine
    cases r with
    | blank => simp [cliWhen, content] at h; simp [h]
    | tooLong => simp [cliWhen, content] at h; simp [h]
    | key k => simp [cliWhen, content] at h; simp [h, Nat.not_lt.mpr h.2.1]
    | ignored => simp [cliWhen, content] at h; simp [h, Nat.not_lt.mpr h.2.1]
    | bad => simp [cliWhen, content] at h; simp [h, Nat.not_lt.mpr h.2.1]

theorem cli_blank_iff (l : Bytes) : cliRecipientLine p sn sv lim l = .blank ↔ content l = false :=
  cli_eq_iff p sn sv lim l .blank

theorem cli_key_iff (l : Bytes) (k : Key) :
    cliRecipientLine p sn sv lim l = .key k ↔ content l = true ∧ l.length ≤ lim ∧ p l = some k :=
  cli_eq_iff p sn sv lim l (.key k)

theorem cli_tooLong_iff (l : Bytes) :
    cliRecipientLine p sn sv lim l = .tooLong ↔ content l = true ∧ lim < l.length :=
  cli_eq_iff p sn sv lim l .tooLong

theorem cli_ignored_iff (l : Bytes) :
    cliRecipientLine p sn sv lim l = .ignored ↔
      content l = true ∧ l.length ≤ lim ∧ p l = none ∧ skipCond sn sv l = true :=
  cli_eq_iff p sn sv lim l .ignored

theorem cli_bad_iff (l : Bytes) :
    cliRecipientLine p sn sv lim l = .bad ↔
      content l = true ∧ l.length ≤ lim ∧ p l = none ∧ skipCond sn sv l = false :=
  cli_eq_iff p sn sv lim l .bad

theorem cli_fine_iff (l : Bytes) :
    fatal (cliRecipientLine p sn sv lim l) = false ↔
      (content l = true → l.length ≤ lim ∧ (p l = none → skipCond sn sv l = true)) := by
  have h := cli_when p sn sv lim l
  generalize cliRecipientLine p sn sv lim l = r at h
  cases r <;> simp only [cliWhen] at h
  case blank => simp [fatal, h]
  case key => simp [fatal, h]
  case ignored => simp [fatal, h]
  case bad => simp [fatal, h]
  case tooLong => simp [fatal, h.1, Nat.not_le.mpr h.2]

theorem cli_allfine_iff (ls : List Bytes) :
    (∀ l ∈ ls, fatal (cliRecipientLine p sn sv lim l) = false) ↔
      (∀ l ∈ ls, content l = true → l.length ≤ lim ∧ (p l = none → skipCond sn sv l = true)) :=
  forall_congr' fun l => imp_congr_right fun _ => cli_fine_iff p sn sv lim l

theorem cli_keyOf (l : Bytes) (h : fatal (cliRecipientLine p sn sv lim l) = false) :
    keyOf (cliRecipientLine p sn sv lim l) = if content l then p l else none := by
  have hw := cli_when p sn sv lim l
  generalize cliRecipientLine p sn sv lim l = r at h hw
  cases r <;> simp only [cliWhen] at hw
  case blank => simp [keyOf, hw]
  case key => simp [keyOf, hw]
  case ignored => simp [keyOf, hw]
  case bad => cases h
  case tooLong => cases h

theorem cli_keys (ls : List Bytes) (h : ∀ l ∈ ls, fatal (cliRecipientLine p sn sv lim l) = false) :
    ls.filterMap (fun l => keyOf (cliRecipientLine p sn sv lim l)) = (ls.filter content).filterMap p :=
  keys_eq _ p ls fun l hl => cli_keyOf p sn sv lim l (h l hl)

end cli

end KeyFile
end AgeModel
