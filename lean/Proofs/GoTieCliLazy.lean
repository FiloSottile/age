/-
  Proofs.GoTieCliLazy — cmd/age's own passphrase identity, as it stands in the source.

  `(*LazyScryptIdentity).Unwrap` (cmd/age/encrypted_keys.go) is TRANSLATED on every run, down
  through `age.NewScryptIdentity` and `(*ScryptIdentity).Unwrap` (translated too; the primitives are
  the parameters of `ScryptEnv`). It is proved to be the model's `lazyUnwrap` with the default
  maximum work factor 22: a header in which a passphrase stanza is not alone is refused at once;
  the passphrase is asked for EXACTLY when the header is one passphrase stanza — handed a callback
  that FAULTS when called the translated code returns normally in every other case — and a wrong
  passphrase is a fatal error, not "incorrect identity".
-/
import AgeModel.Extracted.Funcs
import Proofs.GoTieScrypt
import Proofs.GoTieScryptCtor
import Proofs.GoBuf
import Proofs.CliLazy
namespace AgeModel
namespace GoTie
open Extracted CliIdent

/-- the callback, scripted: a passphrase, or a failure -/
def cbOf (eCb : Go.Err) : Option Bytes → Go.M (Bytes × Option Go.Err)
  | some pw => .ok (pw, none)
  | none => .ok ([], some eCb)

def lazyErr (k : Nat) : Bytes × Option Go.Err := ([], some ⟨"main.(*LazyScryptIdentity).Unwrap", k, []⟩)

theorem resClass_lazyErr (k : Nat) : resClass (lazyErr k) = .fatal := resClass_site k

theorem lazyScrypt_loop (stanzas : List age_Stanza) (ss : List Format.Stanza) :
    main_LazyScryptIdentity_Unwrap_loop1 stanzas (ss.map toGoStanza) =
      if (ss.any (fun s => s.type = tScrypt) && (Go.len stanzas != 1)) = true then .ok (.ret (lazyErr 0))
      else .ok (.next ()) :=
  scryptAlone_loop _ _ _ rfl (fun _ _ => rfl) ss

/-- the part after the callback -/
def lazyAfter (P : Prims) (E : ScryptEnv P) (s : Format.Stanza) (t3 : Bytes × Option Go.Err) :
    Go.M (Bytes × Option Go.Err) :=
  if (t3.2 != none) = true then pure (lazyErr 1)
  else do
    let t4 ← age_NewScryptIdentity t3.1
    if (t4.2 != none) = true then pure ([], t4.2)
    else do
      let t5 ← age_ScryptIdentity_Unwrap errorsIsEq E.D E.K E.A t4.1 [toGoStanza s]
      if (← errorsIsEq t5.2 age_ErrIncorrectIdentity) then pure (lazyErr 2)
      else pure (t5.1, t5.2)

/-- the translated function on a header of the model, case by case as `lazyUnwrap` goes: the callback is reached only
    on a header that is exactly one passphrase stanza -/
theorem lazyScrypt_run (P : Prims) (E : ScryptEnv P) (cb : Go.M (Bytes × Option Go.Err)) (ss : List Format.Stanza) :
    main_LazyScryptIdentity_Unwrap errorsIsEq E.D E.K E.A ⟨cb⟩ (ss.map toGoStanza) =
      if ss.any (fun s => s.type = tScrypt) = true ∧ ss.length ≠ 1 then .ok (lazyErr 0)
      else match ss with
        | [s] => if s.type ≠ tScrypt then .ok ([], age_ErrIncorrectIdentity) else cb >>= lazyAfter P E s
        | _ => .ok ([], age_ErrIncorrectIdentity) := by
  have hcond : ((ss.any (fun s => s.type = tScrypt) && decide (ss.length ≠ 1)) = true) =
      (ss.any (fun s => s.type = tScrypt) = true ∧ ss.length ≠ 1) := by
    rw [Bool.and_eq_true, decide_eq_true_eq]
  simp only [main_LazyScryptIdentity_Unwrap, lazyScrypt_loop, len_map_ne_one, hcond]
  by_cases hc : ss.any (fun s => s.type = tScrypt) = true ∧ ss.length ≠ 1
  · rw [if_pos hc, if_pos hc]
    rfl
  rw [if_neg hc, if_neg hc, Go.bind_ok]
  match ss with
  | [] => rfl
  | [s] =>
    have hi : Go.idx ([s].map toGoStanza) 0 = .ok (toGoStanza s) := rfl
    by_cases hs : s.type = tScrypt
    · have ht : ((toGoStanza s).Type_ != [115, 99, 114, 121, 112, 116]) = false := bne_eq_false_iff_eq.2 hs
      simp only [List.length_singleton, ne_eq, not_true_eq_false, decide_false, Bool.false_eq_true, if_false, hi,
        Go.bind_ok, pure, Except.pure, ht, hs]
      rfl
    · have ht : ((toGoStanza s).Type_ != [115, 99, 114, 121, 112, 116]) = true := bne_iff_ne.2 hs
      simp only [List.length_singleton, ne_eq, not_true_eq_false, decide_false, Bool.false_eq_true, if_false, hi,
        Go.bind_ok, pure, Except.pure, ht, hs, not_false_eq_true, if_true]
  | _ :: _ :: _ => rfl

theorem lazyScrypt_other (P : Prims) (E : ScryptEnv P) (cb : Go.M (Bytes × Option Go.Err)) (ask : Option Bytes)
    (ss : List Format.Stanza) (h : ∀ s, ss = [s] → s.type ≠ tScrypt) :
    ∃ r, main_LazyScryptIdentity_Unwrap errorsIsEq E.D E.K E.A ⟨cb⟩ (ss.map toGoStanza) = .ok r ∧
      lazyUnwrap P ask 22 ss = (resClass r, false) := by
  rw [lazyScrypt_run]
  unfold lazyUnwrap
  by_cases hc : ss.any (fun s => s.type = tScrypt) = true ∧ ss.length ≠ 1
  · rw [if_pos hc, if_pos hc]
    exact ⟨_, rfl, by rw [resClass_lazyErr]⟩
  rw [if_neg hc, if_neg hc]
  rcases ss with _ | ⟨s, _ | ⟨t, r⟩⟩
  · exact ⟨_, rfl, by rw [resClass_incorrect]⟩
  · dsimp only
    rw [if_pos (h s rfl), if_pos (h s rfl)]
    exact ⟨_, rfl, by rw [resClass_incorrect]⟩
  · exact ⟨_, rfl, by rw [resClass_incorrect]⟩

theorem lazy_unwrap_tie (P : Prims) (E : ScryptEnv P) (eCb : Go.Err) (ask : Option Bytes) (ss : List Format.Stanza) :
    ∃ r, main_LazyScryptIdentity_Unwrap errorsIsEq E.D E.K E.A ⟨cbOf eCb ask⟩ (ss.map toGoStanza) = .ok r ∧
      resClass r = (lazyUnwrap P ask 22 ss).1 := by
  by_cases h : ∃ s, ss = [s] ∧ s.type = tScrypt
  · obtain ⟨s, rfl, hs⟩ := h
    have hrun := lazyScrypt_run P E (cbOf eCb ask) [s]
    rw [if_neg (fun h => h.2 rfl)] at hrun
    dsimp only at hrun
    rw [if_neg (fun h => h hs)] at hrun
    rw [hrun, lazyUnwrap_lone P ask 22 hs]
    cases ask with
    | none => exact ⟨lazyErr 1, rfl, resClass_lazyErr 1⟩
    | some pw =>
      cases pw with
      | nil => exact ⟨_, rfl, resClass_site 0⟩
      | cons a as =>
        obtain ⟨r, hr, hcl⟩ := scrypt_Unwrap_tie P E (a :: as) 22 [s]
        have hr' : age_ScryptIdentity_Unwrap errorsIsEq E.D E.K E.A ⟨a :: as, 22⟩ [toGoStanza s] = .ok r := hr
        simp only [cbOf, lazyAfter, Go.bind_ok, Go.none_bne_none, Bool.false_eq_true, if_false, newScryptIdentity_tie,
          reduceCtorEq, hr', errorsIsEq]
        show ∃ r', _ ∧ resClass r' = (match Identity.unwrap P (.scrypt (a :: as) 22) [s] with
          | .incorrect => (UnwrapResult.fatal, true)
          | x => (x, true)).1
        rw [Identity.unwrap, ← hcl]
        by_cases hi : r.2 = age_ErrIncorrectIdentity
        · rw [beq_iff_eq.2 hi, if_pos rfl, resClass_of_incorrect hi]
          exact ⟨_, rfl, resClass_lazyErr 2⟩
        · rw [beq_eq_false_iff_ne.2 hi, if_neg Bool.false_ne_true]
          refine ⟨_, rfl, ?_⟩
          by_cases hn : r.2 = none
          · rw [resClass_of_none hn]
          · rw [resClass_of_fatal hn hi]
  · obtain ⟨r, hr, hc⟩ := lazyScrypt_other P E (cbOf eCb ask) ask ss fun s hs ht => h ⟨s, hs, ht⟩
    exact ⟨r, hr, by rw [hc]⟩

/-- no prompt unless the header is exactly one passphrase stanza -/
theorem lazy_unwrap_no_prompt (P : Prims) (E : ScryptEnv P) (ss : List Format.Stanza)
    (h : (lazyUnwrap P none 22 ss).2 = false) :
    ∃ r, main_LazyScryptIdentity_Unwrap errorsIsEq E.D E.K E.A ⟨.error (.panic 99)⟩ (ss.map toGoStanza) = .ok r ∧
      resClass r = (lazyUnwrap P none 22 ss).1 := by
  have h' : ∀ s, ss = [s] → s.type ≠ tScrypt := by
    intro s hs ht
    subst hs
    rw [lazyUnwrap_lone P none 22 ht] at h
    cases h
  obtain ⟨r, hr, hc⟩ := lazyScrypt_other P E (.error (.panic 99)) none ss h'
  exact ⟨r, hr, by rw [hc]⟩
end GoTie
end AgeModel
