/-
  Proofs.GoTieCliPass — `randomWord` (cmd/age/wordlist.go) and `passphrasePromptForEncryption`
  (cmd/age/age.go), as they stand in the source.

  Translated on every run with crypto/rand as a tape and the terminal (`readSecret`,
  `printfToTerminal`) as abstract state; the word list is a parameter (a table of 2048 entries).
  What the theorems fix: a suggested passphrase is built from EXACTLY the next 20 bytes of the
  random source — ten words, each selected by two fresh bytes (big end first, modulo 2048) —
  joined by `-`, and it is shown on the terminal before it is used; a failing random source is a
  panic, never a weaker passphrase; a typed passphrase is used only when the confirmation equals
  it. `testOnlyFixedRandomWord` is a package-level variable never assigned in non-test code (the
  translator checks this) and so is its zero value.
-/
import AgeModel.Extracted.Funcs
import Proofs.GoTieTape
import Proofs.GoTieLit
import Proofs.GoBuf
namespace AgeModel
namespace GoTie
open Extracted

/-- the index two random bytes select: a 16-bit big-endian number modulo 2048 (its low 11 bits) -/
def wordIndex (b0 b1 : UInt8) : Nat := (b0.toNat * 256 + b1.toNat) % 2048

/-- the words selected by a string of random bytes, two bytes a word -/
def wordsOf (W : List Bytes) : Bytes → List Bytes
  | b0 :: b1 :: rest => W.getD (wordIndex b0 b1) [] :: wordsOf W rest
  | _ => []

/-- the suggested passphrase for 20 random bytes -/
def autogen (W : List Bytes) (rnd : Bytes) : Bytes := Go.strings_Join (wordsOf W rnd) [45]

theorem pass_u16_be (b0 b1 : UInt8) :
    ((b0.toUInt16 <<< 8) ||| b1.toUInt16).toNat = b0.toNat * 256 + b1.toNat := by
  rw [UInt16.toNat_or, UInt16.toNat_shiftLeft, UInt8.toNat_toUInt16, UInt8.toNat_toUInt16]
  have h0 := b0.toNat_lt
  have h1 := b1.toNat_lt
  have h8 : (8 : UInt16).toNat % 16 = 8 := by decide
  rw [h8, Nat.shiftLeft_eq, Nat.mod_eq_of_lt (by omega), ← Nat.shiftLeft_eq,
    ← Nat.shiftLeft_add_eq_or_of_lt (by omega), Nat.shiftLeft_eq]

theorem wordIndex_lt (b0 b1 : UInt8) : wordIndex b0 b1 < 2048 := Nat.mod_lt _ (by decide)

theorem wordIndex_getD (W : List Bytes) (hW : W.length = 2048) (b0 b1 : UInt8) :
    W.getD (wordIndex b0 b1) [] = W[wordIndex b0 b1]'(hW ▸ wordIndex_lt b0 b1) := by
  rw [List.getD_eq_getElem?_getD, List.getElem?_eq_getElem (hW ▸ wordIndex_lt b0 b1)]
  rfl

theorem pass_idx_word (W : List Bytes) (hW : W.length = 2048) (b0 b1 : UInt8) :
    Go.idx W (Int.tmod (Int.ofNat ((b0.toUInt16 <<< 8) ||| b1.toUInt16).toNat) (2048 : Int)) =
      .ok (W.getD (wordIndex b0 b1) []) := by
  have e : Int.tmod (Int.ofNat (b0.toNat * 256 + b1.toNat)) (2048 : Int) = Int.ofNat (wordIndex b0 b1) := rfl
  rw [pass_u16_be, e, Go.idx_ofNat W _ (hW ▸ wordIndex_lt b0 b1), wordIndex_getD W hW]

theorem randomWord_ok {τ : Type} (R : τ → Int → Go.M (Bytes × Option Go.Err × τ)) (W : List Bytes)
    (hW : W.length = 2048) (st st' : τ) (b0 b1 : UInt8) (h : R st 2 = .ok ([b0, b1], none, st')) :
    main_randomWord R W st = .ok (W.getD (wordIndex b0 b1) [], st') := by
  have hi := pass_idx_word W hW b0 b1
  have h' : R st (Go.len ([0, 0] : List UInt8)) = .ok ([b0, b1], none, st') := h
  have hw : Go.writeAt [0, 0] 0 [b0, b1] = [b0, b1] := rfl
  have hb : Go.binary_BigEndian_Uint16 [b0, b1] = .ok ((b0.toUInt16 <<< 8) ||| b1.toUInt16) := rfl
  have hm : Go.makeList (0 : UInt8) 2 = .ok [0, 0] := rfl
  simp only [main_randomWord, main_testOnlyFixedRandomWord, hm, Go.bind_ok, h', hw, hb, hi, pure, Except.pure,
    bne_self_eq_false, Bool.false_eq_true, if_false]

theorem randomWord_err {τ : Type} (R : τ → Int → Go.M (Bytes × Option Go.Err × τ)) (W : List Bytes)
    (st st' : τ) (b : Bytes) (e : Go.Err) (h : R st 2 = .ok (b, some e, st')) :
    main_randomWord R W st = .error (Go.Fault.panic 0) := by
  have h' : R st (Go.len ([0, 0] : List UInt8)) = .ok (b, some e, st') := h
  have hm : Go.makeList (0 : UInt8) 2 = .ok [0, 0] := rfl
  simp only [main_randomWord, main_testOnlyFixedRandomWord, hm, Go.bind_ok, h', pure, Except.pure,
    bne_self_eq_false, Bool.false_eq_true, if_false]
  rfl

/-- `randomWord` over any reader that hands out the next two bytes of a tape it carries (`next`: the state with the tape
    advanced) and reports an exhausted tape as an error -/
theorem randomWord_draw {τ : Type} (R : τ → Int → Go.M (Bytes × Option Go.Err × τ)) (W : List Bytes) (hW : W.length = 2048)
    (st : τ) (tape : Bytes) (next : Bytes → τ) (eRand : Go.Err)
    (hnone : draw 2 tape = none → R st 2 = .ok ([], some eRand, st))
    (hsome : ∀ b t, draw 2 tape = some (b, t) → R st 2 = .ok (b, none, next t)) :
    main_randomWord R W st =
      match draw 2 tape with
      | none => .error (Go.Fault.panic 0)
      | some (b, t) => .ok ((wordsOf W b).headD [], next t) := by
  cases hd : draw 2 tape with
  | none => exact randomWord_err R W _ _ _ eRand (hnone hd)
  | some bt =>
    obtain ⟨b, t⟩ := bt
    obtain ⟨b0, b1, rfl⟩ := draw_two hd
    exact randomWord_ok R W hW _ _ b0 b1 (hsome _ _ hd)

/-- `randomWord`: the word selected by the next two bytes of the tape; an exhausted tape is a panic -/
theorem randomWord_tie (eRand : Go.Err) (W : List Bytes) (hW : W.length = 2048) (tape : Bytes) :
    main_randomWord (tapeRead eRand) W tape =
      match draw 2 tape with
      | none => .error (Go.Fault.panic 0)
      | some (b, t) => .ok ((wordsOf W b).headD [], t) :=
  randomWord_draw _ W hW tape tape id eRand (tapeRead_none eRand (n := 2)) fun _ _ => tapeRead_some eRand (n := 2)

/-- the state the prompt works on: the random tape and the terminal -/
abbrev PromptSt (σ : Type) := Bytes × σ

def liftRead {σ : Type} (eRand : Go.Err) : PromptSt σ → Int → Go.M (Bytes × Option Go.Err × PromptSt σ) :=
  fun st n => match tapeRead eRand st.1 n with
    | .ok (b, e, t) => .ok (b, e, (t, st.2))
    | .error f => .error f

def liftSecret {σ : Type} (S : Bytes → σ → Go.M (Bytes × Option Go.Err × σ)) :
    Bytes → PromptSt σ → Go.M (Bytes × Option Go.Err × PromptSt σ) :=
  fun p st => match S p st.2 with
    | .ok (b, e, s) => .ok (b, e, (st.1, s))
    | .error f => .error f

def liftPrint {σ : Type} (Pr : Bytes → Bytes → σ → Go.M (Option Go.Err × σ)) :
    Bytes → Bytes → PromptSt σ → Go.M (Option Go.Err × PromptSt σ) :=
  fun f a st => match Pr f a st.2 with
    | .ok (e, s) => .ok (e, (st.1, s))
    | .error f => .error f

def promptEnter : Bytes := "Enter passphrase (leave empty to autogenerate a secure one):".toUTF8.toList
def promptConfirm : Bytes := "Confirm passphrase:".toUTF8.toList
def promptUsing : Bytes := "using autogenerated passphrase %q".toUTF8.toList

def promptErr (k : Nat) : Option Go.Err := some ⟨"main.passphrasePromptForEncryption", k, []⟩

/-- the whole prompt, as a function of what the terminal answers -/
def promptModel {σ : Type} (S : Bytes → σ → Go.M (Bytes × Option Go.Err × σ))
    (Pr : Bytes → Bytes → σ → Go.M (Option Go.Err × σ)) (W : List Bytes) (tape : Bytes) (s0 : σ) :
    Go.M (Bytes × Option Go.Err × PromptSt σ) :=
  match S promptEnter s0 with
  | .error f => .error f
  | .ok (_, some _, s1) => .ok ([], promptErr 0, (tape, s1))
  | .ok (pass, none, s1) =>
    if pass = [] then
      match draw 20 tape with
      | none => .error (Go.Fault.panic 0)
      | some (rnd, t) =>
        match Pr promptUsing (autogen W rnd) s1 with
        | .error f => .error f
        | .ok (some _, s2) => .ok ([], promptErr 1, (t, s2))
        | .ok (none, s2) => .ok (autogen W rnd, none, (t, s2))
    else
      match S promptConfirm s1 with
      | .error f => .error f
      | .ok (_, some _, s2) => .ok ([], promptErr 2, (tape, s2))
      | .ok (confirm, none, s2) =>
        if confirm = pass then .ok (pass, none, (tape, s2)) else .ok ([], promptErr 3, (tape, s2))

theorem liftRead_none {σ : Type} (eRand : Go.Err) {tape : Bytes} {n : Nat} (s : σ) (h : draw n tape = none) :
    liftRead eRand (tape, s) (Int.ofNat n) = .ok ([], some eRand, (tape, s)) := by
  rw [liftRead, tapeRead_none eRand h]

theorem liftRead_some {σ : Type} (eRand : Go.Err) {tape b t : Bytes} {n : Nat} (s : σ) (h : draw n tape = some (b, t)) :
    liftRead eRand (tape, s) (Int.ofNat n) = .ok (b, none, (t, s)) := by
  rw [liftRead, tapeRead_some eRand h]

theorem pass_loop1_eq {σ : Type} (eRand : Go.Err) (W : List Bytes) (hW : W.length = 2048) (s : σ) :
    ∀ (is : List Int) (tape : Bytes) (words : List Bytes),
    main_passphrasePromptForEncryption_loop1 (liftRead eRand) W is (tape, s) words =
      match draw (2 * is.length) tape with
      | none => .error (Go.Fault.panic 0)
      | some (rnd, t) => .ok (.next ((t, s), words ++ wordsOf W rnd)) := by
  intro is
  induction is with
  | nil =>
    intro tape words
    rw [List.length_nil, Nat.mul_zero, draw, if_pos (Nat.zero_le _), List.take_zero, List.drop_zero]
    exact congrArg (fun l => Except.ok (Go.Loop.next ((tape, s), l))) (List.append_nil words).symm
  | cons i rest ih =>
    intro tape words
    rw [main_passphrasePromptForEncryption_loop1, List.length_cons, Nat.mul_succ, Nat.add_comm, draw_add,
      randomWord_draw (liftRead eRand) W hW (tape, s) tape (·, s) eRand (liftRead_none eRand (n := 2) s)
        fun _ _ => liftRead_some eRand (n := 2) s]
    cases hd : draw 2 tape with
    | none => rfl
    | some bt =>
      obtain ⟨b, t⟩ := bt
      obtain ⟨b0, b1, rfl⟩ := draw_two hd
      rw [Go.bind_ok]
      dsimp only
      rw [ih]
      cases draw (2 * rest.length) t with
      | none => rfl
      | some p =>
        dsimp only
        rw [List.append_assoc]
        rfl

theorem pass_lit_enter : ([69, 110, 116, 101, 114, 32, 112, 97, 115, 115, 112, 104, 114, 97, 115, 101, 32, 40, 108, 101, 97, 118, 101, 32, 101, 109, 112, 116, 121, 32, 116, 111, 32, 97, 117, 116, 111, 103, 101, 110, 101, 114, 97, 116, 101, 32, 97, 32, 115, 101, 99, 117, 114, 101, 32, 111, 110, 101, 41, 58] : List UInt8) = promptEnter := by
  rw [promptEnter, byteArray_toList]
  decide +kernel

theorem pass_lit_confirm : ([67, 111, 110, 102, 105, 114, 109, 32, 112, 97, 115, 115, 112, 104, 114, 97, 115, 101, 58] : List UInt8) = promptConfirm := by
  rw [promptConfirm, byteArray_toList]
  decide +kernel

theorem pass_lit_using : ([117, 115, 105, 110, 103, 32, 97, 117, 116, 111, 103, 101, 110, 101, 114, 97, 116, 101, 100, 32, 112, 97, 115, 115, 112, 104, 114, 97, 115, 101, 32, 37, 113] : List UInt8) = promptUsing := by
  rw [promptUsing, byteArray_toList]
  decide +kernel

theorem pass_range10 : Go.rangeUp 0 10 = [0, 1, 2, 3, 4, 5, 6, 7, 8, 9] := by decide

theorem prompt_tie {σ : Type} (eRand : Go.Err) (S : Bytes → σ → Go.M (Bytes × Option Go.Err × σ))
    (Pr : Bytes → Bytes → σ → Go.M (Option Go.Err × σ)) (W : List Bytes) (hW : W.length = 2048)
    (tape : Bytes) (s0 : σ) :
    main_passphrasePromptForEncryption (liftSecret S) (liftRead eRand) W (liftPrint Pr) (tape, s0) =
      promptModel S Pr W tape s0 := by
  unfold promptModel
  simp only [main_passphrasePromptForEncryption, pass_lit_enter, pass_lit_confirm, pass_lit_using, pass_range10, bind,
    Except.bind, pure, Except.pure, liftSecret]
  rcases S promptEnter s0 with f | ⟨pass, e | e, s1⟩
  · rfl
  · cases pass with
    | nil =>
      simp only [pass_loop1_eq eRand W hW, List.length_cons, List.length_nil, Nat.reduceAdd, Nat.reduceMul, List.nil_append]
      rcases draw 20 tape with _ | ⟨rnd, t⟩
      · rfl
      · simp only [liftPrint, autogen]
        rcases Pr promptUsing (Go.strings_Join (wordsOf W rnd) [45]) s1 with f | ⟨e | e, s2⟩ <;> rfl
    | cons c p =>
      simp only []
      rcases S promptConfirm s1 with f | ⟨c', e | e, s2⟩
      · rfl
      · by_cases h : c' = c :: p
        · subst h
          simp only [bne_self_eq_false]
          rfl
        · simp only [bne_iff_ne.2 h, h]
          rfl
      · rfl
  · rfl

theorem pass_split_dash : ∀ (a a' x y : Bytes), (45 : UInt8) ∉ a → (45 : UInt8) ∉ a' →
    a ++ 45 :: x = a' ++ 45 :: y → a = a' ∧ x = y
  | [], [], x, y, _, _, h => by
    simp only [List.nil_append, List.cons.injEq, true_and] at h
    exact ⟨rfl, h⟩
  | [], c :: a', x, y, _, h2, h => by
    simp only [List.nil_append, List.cons_append, List.cons.injEq] at h
    exact absurd (h.1 ▸ List.mem_cons_self) h2
  | c :: a, [], x, y, h1, _, h => by
    simp only [List.nil_append, List.cons_append, List.cons.injEq] at h
    exact absurd (h.1 ▸ List.mem_cons_self) h1
  | c :: a, c' :: a', x, y, h1, h2, h => by
    simp only [List.cons_append, List.cons.injEq] at h
    have := pass_split_dash a a' x y (fun m => h1 (List.mem_cons_of_mem _ m))
      (fun m => h2 (List.mem_cons_of_mem _ m)) h.2
    exact ⟨by rw [h.1, this.1], this.2⟩

theorem pass_join_cons2 (a b : Bytes) (r : List Bytes) :
    Go.strings_Join (a :: b :: r) [45] = a ++ 45 :: Go.strings_Join (b :: r) [45] := by
  simp [Go.strings_Join]

theorem pass_join_inj : ∀ (ws ws' : List Bytes), ws.length = ws'.length →
    (∀ w ∈ ws, (45 : UInt8) ∉ w) → (∀ w ∈ ws', (45 : UInt8) ∉ w) →
    Go.strings_Join ws [45] = Go.strings_Join ws' [45] → ws = ws'
  | [], [], _, _, _, _ => rfl
  | [], _ :: _, hl, _, _, _ => by simp at hl
  | _ :: _, [], hl, _, _, _ => by simp at hl
  | [a], [a'], _, _, _, h => by
    simp only [Go.strings_Join] at h
    rw [h]
  | [a], _ :: _ :: _, hl, _, _, _ => by simp at hl
  | _ :: _ :: _, [a'], hl, _, _, _ => by simp at hl
  | a :: b :: r, a' :: b' :: r', hl, h1, h2, h => by
    rw [pass_join_cons2, pass_join_cons2] at h
    have hs := pass_split_dash a a' _ _ (h1 a List.mem_cons_self) (h2 a' List.mem_cons_self) h
    have := pass_join_inj (b :: r) (b' :: r') (by simpa using hl)
      (fun w m => h1 w (List.mem_cons_of_mem _ m)) (fun w m => h2 w (List.mem_cons_of_mem _ m)) hs.2
    rw [hs.1, this]

theorem wordsOf_mem (W : List Bytes) (hW : W.length = 2048) :
    ∀ (r : Bytes) (w : Bytes), w ∈ wordsOf W r → w ∈ W
  | [], _, h => by simp [wordsOf] at h
  | [_], _, h => by simp [wordsOf] at h
  | b0 :: b1 :: rest, w, h => by
    simp only [wordsOf, List.mem_cons] at h
    rcases h with h | h
    · rw [h, wordIndex_getD W hW]
      exact List.getElem_mem _
    · exact wordsOf_mem W hW rest w h

theorem wordsOf_length (W : List Bytes) : ∀ (r : Bytes), (wordsOf W r).length = r.length / 2
  | [] => rfl
  | [_] => by simp [wordsOf]
  | b0 :: b1 :: rest => by
    simp only [wordsOf, List.length_cons, wordsOf_length W rest]
    omega

/-- nothing of the passphrase is lost between the random bytes and the text: when no word of the table contains `-`,
    the suggested passphrase determines the ten selected words. (`hnd`, no repeated word, is not needed for the words; it
    is what would carry them on to the ten indices, 110 bits, and is stated for that reading.) -/
theorem autogen_injective (W : List Bytes) (hW : W.length = 2048) (hnd : W.Nodup) (hdash : ∀ w ∈ W, (45 : UInt8) ∉ w)
    (r1 r2 : Bytes) (h1 : r1.length = 20) (h2 : r2.length = 20) (h : autogen W r1 = autogen W r2) :
    (wordsOf W r1) = (wordsOf W r2) := by
  have _ := hnd
  apply pass_join_inj
  · rw [wordsOf_length, wordsOf_length, h1, h2]
  · exact fun w m => hdash w (wordsOf_mem W hW r1 w m)
  · exact fun w m => hdash w (wordsOf_mem W hW r2 w m)
  · exact h

end GoTie
end AgeModel
