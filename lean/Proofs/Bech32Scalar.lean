/-
  Proofs.Bech32Scalar — the checksum is linear over GF(32), not only over GF(2).

  `A` multiplies each of the six 5-bit lanes of a 30-bit state by the primitive
  element α of GF(32) = GF(2)[α]/(α⁵+α³+1).  `A` is XOR-linear and commutes with
  the state transition `L`; every symbol 1..31 is sent to 1 by some power of `A`.
  Hence in a relation  Lpow p x ^^^ Lpow q y ^^^ Lpow r z = w  one may assume
  x = 1, so that only x = 1 is swept in Proofs/Bech32Sweep.lean.

  Nothing here is assumed about fields: commutation with `L` is checked on the 30
  basis vectors by the kernel and extended by linearity.
-/
import Proofs.Bech32Syndrome
namespace AgeModel
namespace Bech32

/-- bits 0..3 of every lane -/
def mLow4 : Nat := 0x1EF7BDEF
/-- bit 0 of every lane -/
def mBit0 : Nat := 0x2108421

/-- lane-wise multiplication by α: shift each lane left by one; a lane whose top
    bit was set gets α⁵ = α³ + 1 (binary 01001) added -/
def A (s : Nat) : Nat :=
  ((s &&& mLow4) <<< 1) ^^^ ((((s >>> 4) &&& mBit0) <<< 3) ^^^ ((s >>> 4) &&& mBit0))

theorem A_xor (a b : Nat) : A (a ^^^ b) = A a ^^^ A b := by
  unfold A
  rw [Nat.and_xor_distrib_right, Nat.shiftLeft_xor_distrib, Nat.shiftRight_xor_distrib,
    Nat.and_xor_distrib_right, Nat.shiftLeft_xor_distrib]
  ac_rfl

theorem A_zero : A 0 = 0 := by decide

theorem A_lt (s : Nat) : A s < 2 ^ 30 := by
  have h1 : s &&& mLow4 < 2 ^ 29 := Nat.and_lt_two_pow s (by decide)
  have h2 : (s >>> 4) &&& mBit0 < 2 ^ 26 := Nat.and_lt_two_pow _ (by decide)
  refine Nat.xor_lt_two_pow ?_ (Nat.xor_lt_two_pow ?_ ?_)
  · rw [Nat.shiftLeft_eq]; omega
  · rw [Nat.shiftLeft_eq]; omega
  · omega

theorem lin_ext (f g : Nat → Nat) (hf : ∀ a b, f (a ^^^ b) = f a ^^^ f b) (hg : ∀ a b, g (a ^^^ b) = g a ^^^ g b) :
    ∀ n, (∀ i, i < n → f (2 ^ i) = g (2 ^ i)) → ∀ s, s < 2 ^ n → f s = g s
  | 0, _, s, hs => by
    have hs0 : s = 0 := by simpa using hs
    have f0 := hf 0 0
    have g0 := hg 0 0
    rw [Nat.xor_self, Nat.xor_self] at f0 g0
    rw [hs0, f0, g0]
  | n + 1, hb, s, hs => by
    have ih := lin_ext f g hf hg n (fun i hi => hb i (Nat.lt_succ_of_lt hi))
    have hpos : 0 < 2 ^ n := Nat.two_pow_pos n
    have hlo : s % 2 ^ n < 2 ^ n := Nat.mod_lt _ hpos
    by_cases hs' : s < 2 ^ n
    · exact ih s hs'
    · have hhi : s / 2 ^ n = 1 := by
        have h1 : s / 2 ^ n < 2 := by
          apply Nat.div_lt_of_lt_mul
          rw [Nat.pow_succ] at hs; omega
        have h2 : 0 < s / 2 ^ n := Nat.div_pos (by omega) hpos
        omega
      have hsplit : s = 2 ^ n ^^^ s % 2 ^ n := by
        have := shl_xor 1 (s % 2 ^ n) n hlo
        rw [Nat.one_shiftLeft, Nat.one_mul] at this
        rw [this]
        have := Nat.div_add_mod s (2 ^ n)
        rw [hhi, Nat.mul_one] at this
        exact this.symm
      rw [hsplit, hf, hg, hb n (Nat.lt_succ_self n), ih _ hlo]

theorem AL_basis : ∀ i : Fin 30, A (L (2 ^ i.val)) = L (A (2 ^ i.val)) := by decide +kernel

theorem A_L {s : Nat} (hs : s < 2 ^ 30) : A (L s) = L (A s) :=
  lin_ext (fun s => A (L s)) (fun s => L (A s)) (fun a b => by simp only [L_xor, A_xor])
    (fun a b => by simp only [A_xor, L_xor]) 30 (fun i hi => AL_basis ⟨i, hi⟩) s hs

def Apow : Nat → Nat → Nat
  | 0, s => s
  | i + 1, s => A (Apow i s)

theorem Apow_lt : ∀ (i : Nat) {s : Nat}, s < 2 ^ 30 → Apow i s < 2 ^ 30
  | 0, _, h => h
  | _ + 1, _, _ => A_lt _

theorem Apow_xor : ∀ (i a b : Nat), Apow i (a ^^^ b) = Apow i a ^^^ Apow i b
  | 0, _, _ => rfl
  | i + 1, a, b => by simp only [Apow, Apow_xor i a b, A_xor]

theorem A_Lpow : ∀ (k : Nat) {s : Nat}, s < 2 ^ 30 → A (Lpow k s) = Lpow k (A s)
  | 0, _, _ => rfl
  | k + 1, s, hs => by
    rw [Lpow, A_L (Lpow_lt k hs), A_Lpow k hs, Lpow]

theorem Apow_Lpow : ∀ (i k : Nat) {s : Nat}, s < 2 ^ 30 → Apow i (Lpow k s) = Lpow k (Apow i s)
  | 0, _, _, _ => rfl
  | i + 1, k, s, hs => by
    rw [Apow, Apow_Lpow i k hs, A_Lpow k (Apow_lt i hs), Apow]

theorem A_sym : ∀ v : Fin 32, A v.val < 32 := by decide +kernel

theorem Apow_sym : ∀ (i : Nat) {v : Nat}, v < 32 → Apow i v < 32
  | 0, _, h => h
  | i + 1, _, h => A_sym ⟨_, Apow_sym i h⟩

/-- some power of A (below 31) sends a given non-zero symbol to 1 -/
def toOne (x : Nat) : Bool := (List.range 31).any fun i => Apow i x == 1

theorem toOne_all : ∀ x : Fin 32, x.val ≠ 0 → toOne x.val = true := by decide +kernel

theorem exists_Apow_one {x : Nat} (h1 : 1 ≤ x) (h : x < 32) : ∃ i, Apow i x = 1 := by
  have := toOne_all ⟨x, h⟩ (by simp; omega)
  simp only [toOne, List.any_eq_true, beq_iff_eq] at this
  obtain ⟨i, _, hi⟩ := this
  exact ⟨i, hi⟩

/-- a bound on three-term sums need only be shown with the first symbol 1 -/
theorem ge_of_normalised {p q r : Nat} (h : ∀ y z, y < 32 → z < 32 → 32 ≤ Lpow p 1 ^^^ Lpow q y ^^^ Lpow r z)
    {x y z : Nat} (hx1 : 1 ≤ x) (hx : x < 32) (hy : y < 32) (hz : z < 32) :
    32 ≤ Lpow p x ^^^ Lpow q y ^^^ Lpow r z := by
  apply Nat.le_of_not_lt
  intro hlt
  obtain ⟨i, hi⟩ := exists_Apow_one hx1 hx
  have hw := Apow_sym i hlt
  rw [Apow_xor, Apow_xor, Apow_Lpow i p (lt30_of_lt32 hx), Apow_Lpow i q (lt30_of_lt32 hy),
    Apow_Lpow i r (lt30_of_lt32 hz), hi] at hw
  have := h (Apow i y) (Apow i z) (Apow_sym i hy) (Apow_sym i hz)
  omega

end Bech32
end AgeModel
