/-
  Proofs.GoTieRunes — strings as Go sees them: ranging over the runes of a string (Go.runes / Go.decodeRune),
  searching one for a rune (Go.strings_IndexRune / Go.strings_ContainsRune), and the shapes of the translated
  loops that search a list or map it. No particular translated function is involved.
-/
import AgeModel.GoSem
import Proofs.DecodeRune
namespace AgeModel
namespace GoTie

theorem runesFrom_any (P : Int → Bool) (Q : UInt8 → Bool)
    (h1 : ∀ b : UInt8, b.toNat < 128 → P (Int.ofNat b.toNat) = Q b)
    (h2 : ∀ b : UInt8, 128 ≤ b.toNat → Q b = true)
    (h3 : ∀ r : Int, 128 ≤ r → P r = true) :
    ∀ (fuel off : Nat) (s : List UInt8), s.length ≤ fuel →
      (Go.runesFrom fuel off s).any (fun p => P p.2) = s.any Q := by
  intro fuel
  induction fuel with
  | zero =>
    intro off s hs
    have : s = [] := List.eq_nil_of_length_eq_zero (Nat.le_zero.mp hs)
    subst this; rfl
  | succ fuel ih =>
    intro off s hs
    cases s with
    | nil => rfl
    | cons b rest =>
      simp only [Go.runesFrom, List.any_cons]
      by_cases hb : b.toNat < 128
      · rw [decodeRune_ascii b rest hb]
        simp only [List.drop_succ_cons, List.drop_zero]
        rw [ih (off + 1) rest (by simpa using hs), h1 b hb]
      · have hb' : 128 ≤ b.toNat := Nat.le_of_not_lt hb
        rw [h3 _ (decodeRune_nonascii b rest hb'), h2 b hb']
        simp only [Bool.true_or]

theorem runes_any (P : Int → Bool) (Q : UInt8 → Bool)
    (h1 : ∀ b : UInt8, b.toNat < 128 → P (Int.ofNat b.toNat) = Q b)
    (h2 : ∀ b : UInt8, 128 ≤ b.toNat → Q b = true)
    (h3 : ∀ r : Int, 128 ≤ r → P r = true) (s : List UInt8) :
    (Go.runes s).any (fun p => P p.2) = s.any Q :=
  runesFrom_any P Q h1 h2 h3 s.length 0 s (Nat.le_refl _)

theorem runes_any_bad (s : Bytes) :
    (Go.runes s).any (fun p => decide (p.2 < 33) || decide (p.2 > 126)) = s.any (fun b => b < 33 || b > 126) := by
  refine runes_any (fun r => decide (r < 33) || decide (r > 126)) (fun b => b < 33 || b > 126) ?_ ?_ ?_ s
  · intro b hb
    simp only [UInt8.lt_iff_toNat_lt, gt_iff_lt, Int.ofNat_eq_natCast]
    congr 1
    · simp only [decide_eq_decide]; show _ ↔ b.toNat < 33; omega
    · simp only [decide_eq_decide]; show _ ↔ 126 < b.toNat; omega
  · intro b hb
    simp only [UInt8.lt_iff_toNat_lt, gt_iff_lt, Bool.or_eq_true, decide_eq_true_eq]
    right; show 126 < b.toNat; omega
  · intro r hr
    simp only [Bool.or_eq_true, decide_eq_true_eq]
    omega

theorem runesFrom_ascii : ∀ (fuel off : Nat) (s : List UInt8), s.length ≤ fuel → Go.isAscii s = true →
    Go.runesFrom fuel off s =
      (List.range' off s.length).zipWith (fun i b => (Int.ofNat i, Int.ofNat b.toNat)) s := by
  intro fuel
  induction fuel with
  | zero =>
    intro off s hs _
    have : s = [] := List.eq_nil_of_length_eq_zero (Nat.le_zero.mp hs)
    subst this; rfl
  | succ fuel ih =>
    intro off s hs ha
    cases s with
    | nil => rfl
    | cons b rest =>
      simp only [Go.isAscii, List.all_cons, Bool.and_eq_true, decide_eq_true_eq] at ha
      have hb : b.toNat < 128 := UInt8.lt_iff_toNat_lt.mp ha.1
      simp only [Go.runesFrom, List.length_cons, List.range'_succ, List.zipWith_cons_cons]
      rw [decodeRune_ascii b rest hb]
      simp only [List.drop_succ_cons, List.drop_zero]
      rw [ih (off + 1) rest (by simpa using hs) ha.2]

theorem runes_ascii (s : Bytes) (h : Go.isAscii s = true) :
    Go.runes s = (List.range s.length).zipWith (fun i b => (Int.ofNat i, Int.ofNat b.toNat)) s := by
  rw [List.range_eq_range']
  exact runesFrom_ascii s.length 0 s (Nat.le_refl _) h

theorem runes_all_ascii_iff (s : Bytes) :
    (Go.runes s).all (fun p => decide (0 ≤ p.2 ∧ p.2 < 128)) = Go.isAscii s := by
  have := runes_any (fun r => !decide (0 ≤ r ∧ r < 128)) (fun b => !decide (b < 0x80)) ?_ ?_ ?_ s
  · unfold Go.isAscii
    rw [List.all_eq_not_any_not, List.all_eq_not_any_not (l := s)]
    exact congrArg (!·) this
  · intro b hb
    show (!decide (0 ≤ Int.ofNat b.toNat ∧ Int.ofNat b.toNat < 128)) = !decide (b < 0x80)
    have e1 : decide (b < 0x80) = true := decide_eq_true (UInt8.lt_iff_toNat_lt.mpr hb)
    have e2 : decide (0 ≤ Int.ofNat b.toNat ∧ Int.ofNat b.toNat < 128) = true :=
      decide_eq_true ⟨Int.natCast_nonneg _, by simp only [Int.ofNat_eq_natCast]; omega⟩
    rw [e1, e2]
  · intro b hb
    rw [Bool.not_eq_true', decide_eq_false_iff_not, UInt8.lt_iff_toNat_lt]
    exact Nat.not_lt.mpr hb
  · intro r hr
    simp only [Bool.not_eq_true', decide_eq_false_iff_not]
    omega

/-- a translated `for _, p := range rs { if t p { return e } }` -/
theorem searchLoop_eq {α ρ : Type} (f : List α → Go.M (Go.Loop Unit ρ)) (t : α → Bool) (e : ρ)
    (hnil : f [] = .ok (.next ()))
    (hcons : ∀ p rs, f (p :: rs) = if t p = true then .ok (.ret e) else f rs) :
    ∀ rs, f rs = .ok (if rs.any t = true then .ret e else .next ())
  | [] => hnil
  | p :: rs => by
    rw [hcons, List.any_cons, searchLoop_eq f t e hnil hcons rs]
    cases t p <;> rfl

/-- a translated `for _, c := range xs { ret = append(ret, g c) }` -/
theorem mapLoop_eq {ρ : Type} (g : UInt8 → UInt8) (f : Bytes → Bytes → Go.M (Go.Loop Bytes ρ))
    (hnil : ∀ ret, f [] ret = .ok (.next ret)) (hcons : ∀ x xs ret, f (x :: xs) ret = f xs (ret ++ [g x])) :
    ∀ xs ret, f xs ret = .ok (.next (ret ++ xs.map g))
  | [], ret => by rw [hnil, List.map_nil, List.append_nil]
  | x :: xs, ret => by
    rw [hcons, mapLoop_eq g f hnil hcons xs, List.map_cons, List.append_assoc, List.singleton_append]

theorem lt_of_contains_ascii {a : Bytes} (ha : Go.isAscii a = true) {b : UInt8} (hb : a.contains b = true) :
    b < 0x80 :=
  of_decide_eq_true (List.all_eq_true.mp ha b (List.contains_iff_mem.mp hb))

theorem containsRune_nonascii (a : List UInt8) (ha : Go.isAscii a = true) (r : Int) (hr : 128 ≤ r) :
    Go.strings_ContainsRune a r = false := by
  have : ¬ (0 ≤ r ∧ r < 0x80) := by omega
  simp only [Go.strings_ContainsRune, Go.strings_IndexRune, this, if_false, ha, if_true]
  decide

theorem findIdxInt_eq {α : Type} (p : α → Bool) : ∀ l : List α,
    Go.findIdxInt p l = match l.findIdx? p with
      | some i => Int.ofNat i
      | none => -1
  | [] => rfl
  | x :: xs => by
    rw [Go.findIdxInt, List.findIdx?_cons, findIdxInt_eq p xs]
    by_cases hx : p x = true
    · rw [if_pos hx, if_pos hx]; rfl
    · rw [if_neg hx, if_neg hx]
      cases xs.findIdx? p with
      | none => rfl
      | some i => exact if_neg (Int.not_lt.mpr (Int.natCast_nonneg i))

theorem byte_beq (c b : UInt8) : (Int.ofNat c.toNat == Int.ofNat b.toNat) = (c == b) := by
  rw [Bool.eq_iff_iff, beq_iff_eq, beq_iff_eq, Int.ofNat.injEq, UInt8.toNat_inj]

theorem indexRune_ascii (s : Bytes) (b : UInt8) (hb : b.toNat < 0x80) :
    Go.strings_IndexRune s (Int.ofNat b.toNat) = match s.findIdx? (· == b) with
      | some i => Int.ofNat i
      | none => -1 := by
  rw [Go.strings_IndexRune, if_pos ⟨Int.natCast_nonneg _, Int.ofNat_lt.mpr hb⟩, findIdxInt_eq]
  simp only [byte_beq]

theorem indexRune_byte (s : Bytes) (hs : Go.isAscii s = true) (b : UInt8) :
    Go.strings_IndexRune s (Int.ofNat b.toNat) = match s.findIdx? (· == b) with
      | some i => Int.ofNat i
      | none => -1 := by
  by_cases hb : b.toNat < 0x80
  · exact indexRune_ascii s b hb
  · rw [Go.strings_IndexRune, if_neg (fun h => hb (Int.ofNat_lt.mp h.2)), if_pos hs]
    have : s.findIdx? (· == b) = none := by
      rw [List.findIdx?_eq_none_iff]
      intro c hc
      have := of_decide_eq_true (List.all_eq_true.mp hs c hc)
      rw [UInt8.lt_iff_toNat_lt] at this
      exact beq_eq_false_iff_ne.mpr fun e => hb (e ▸ this)
    rw [this]

theorem containsRune_ascii (a : List UInt8) (b : UInt8) (hb : b.toNat < 128) :
    Go.strings_ContainsRune a (Int.ofNat b.toNat) = a.contains b := by
  have hc : a.contains b = (a.findIdx? (· == b)).isSome := by
    rw [List.findIdx?_isSome, Bool.eq_iff_iff, List.contains_iff_mem, List.any_eq_true]
    exact ⟨fun h => ⟨b, h, beq_self_eq_true b⟩, fun ⟨c, hc, e⟩ => beq_iff_eq.mp e ▸ hc⟩
  rw [Go.strings_ContainsRune, indexRune_ascii a b hb, hc]
  cases a.findIdx? (· == b) with
  | none => rfl
  | some i => exact decide_eq_true (Int.natCast_nonneg i)

end GoTie
end AgeModel
