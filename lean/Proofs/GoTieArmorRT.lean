/-
  Proofs.GoTieArmorRT — the armor round trip stated about the two translated ends.

  `codeDrain` calls the TRANSLATED `(*armoredReader).Read` with buffers of the given sizes and
  collects what each call copied, until the first reported error — what `io.ReadAll` or any other
  consumer does. `codeDrain_tie`: from related states it yields what the model's `AReader.drain`
  yields (same bytes, corresponding error, related final states), for EVERY list of sizes.
  `code_armor_roundtrip` composes this with `armor_writer_tie` and the model's `dearmor ∘ armor = id`:
  whatever sequence of writes goes through the translated `(*armoredWriter).Write` and `.Close` into
  an empty destination, the translated reader over the destination's bytes returns exactly the
  concatenated input and then io.EOF — for every input, every split into writes, and every sequence
  of positive `Read` sizes long enough to reach the end.
-/
import Proofs.GoTieArmorR
import Proofs.GoTieArmorW
import Props.C08
namespace AgeModel
namespace GoTie
open Extracted Armor

/-- `Read` called with buffers of the given sizes; the bytes each call copied, up to the first error -/
def codeDrain (E : B64DecEnv) : armor_armoredReader → List Nat → Go.M (armor_armoredReader × Bytes × Option Go.Err)
  | g, [] => .ok (g, [], none)
  | g, n :: ns => do
    let res ← armor_armoredReader_Read E.Dec g (List.replicate n 0)
    match res.2.1 with
    | some e => pure (res.2.2.1, res.2.2.2.take res.1.toNat, some e)
    | none => do
      let t ← codeDrain E res.2.2.1 ns
      pure (t.1, res.2.2.2.take res.1.toNat ++ t.2.1, t.2.2)

/-- the translated reader, driven call by call, yields what the model's reader machine yields -/
theorem codeDrain_tie (E : B64DecEnv) : ∀ (sizes : List Nat) (g : armor_armoredReader) (m : AReader), ARel g m →
    ∃ g' ge, codeDrain E g sizes = .ok (g', (m.drain 1024 false sizes).2.1, ge) ∧
      aErrRel (m.drain 1024 false sizes).2.2 ge ∧ ARel g' (m.drain 1024 false sizes).1
  | [], g, m, h => ⟨g, none, rfl, rfl, h⟩
  | n :: ns, g, m, h => by
    obtain ⟨res, hres, h1, h2, h3, h4⟩ := armor_read_tie E g m h (List.replicate n 0)
    simp only [List.length_replicate] at h1 h2 h3 h4
    have htake : res.2.2.2.take res.1.toNat = (m.read1 1024 false n).2.1 := by
      rw [h1, h2]; simp
    generalize hm : m.read1 1024 false n = mr at h1 h2 h3 h4 htake
    obtain ⟨r1, out, e⟩ := mr
    cases e with
    | some e =>
      have hne := aErrRel_ne e _ h3
      cases hge : res.2.1 with
      | none => rw [hge, Go.none_bne_none] at hne; cases hne
      | some ge =>
        refine ⟨res.2.2.1, some ge, ?_, ?_, ?_⟩
        · simp only [codeDrain, hres, bind, Except.bind, hge, pure, Except.pure, AReader.drain, hm, htake]
        · simp only [AReader.drain, hm]; rw [← hge]; exact h3
        · simp only [AReader.drain, hm]; exact h4
    | none =>
      have hge : res.2.1 = none := by simpa [aErrRel] using h3
      obtain ⟨g', ge, hd, he, hr⟩ := codeDrain_tie E ns res.2.2.1 r1 h4
      refine ⟨g', ge, ?_, ?_, ?_⟩
      · simp only [codeDrain, hres, bind, Except.bind, hge, pure, Except.pure, AReader.drain, hm, htake, hd]
      · simp only [AReader.drain, hm]; exact he
      · simp only [AReader.drain, hm]; exact hr

/-- **armor round trip, about the code**: write anything, in any pieces, through the translated
    `armoredWriter` (then `Close`) into an empty destination; the translated `armoredReader` over what
    the destination holds returns the concatenated input and then io.EOF -/
theorem code_armor_roundtrip {δ ω : Type} (W : ArmorWEnv δ ω) (D : B64DecEnv) (ww0 : ω) (d0 : δ)
    (h0 : W.absI ww0 = [] ∧ W.absO ww0 = [] ∧ W.isOpen ww0) (hd0 : W.absD d0 = []) (ps : List Bytes)
    (sizes : List Nat) (hpos : ∀ s ∈ sizes, 0 < s)
    (hlong : ps.flatten.length + (armor ps.flatten).length + 2 < sizes.length) :
    ∃ a1 a2 g', armorWrites W ⟨false, false, ww0, d0⟩ ps = .ok (none, a1) ∧
      armor_armoredWriter_Close W.W W.Cl W.LE a1 = .ok (none, a2) ∧
      codeDrain D ⟨W.absD a2.dst, false, 0, 0, List.replicate 48 0, none⟩ sizes = .ok (g', ps.flatten, Go.io_EOF) := by
  obtain ⟨a1, a2, hw, hc, hd, _⟩ := armor_writer_tie W ww0 d0 h0 ps
  rw [hd0, List.nil_append] at hd
  have hrt := Props.C08.dearmor_armor 1024 (by decide) ps.flatten
  obtain ⟨r', hdr⟩ := Props.C08.armor_reader_refines_spec 1024 false (armor ps.flatten) sizes hpos (by rw [hrt]; exact hlong)
  rw [hrt] at hdr
  obtain ⟨g', ge, hcd, he, _⟩ := codeDrain_tie D sizes _ _ (armor_new_rel (armor ps.flatten))
  rw [hdr] at hcd he
  simp only [aErrRel] at he
  subst he
  exact ⟨a1, a2, g', hw, hc, by rw [hd]; exact hcd⟩

end GoTie
end AgeModel
