/-
  Proofs.GoTieAtoi — `strconv.Atoi` on the UTF-8 of a string against the model's `atoiChars`.

  The model reads characters, the translated code bytes. The first byte of a character's encoding is an ASCII
  byte exactly when the character is that ASCII character (`enc_head`), so signs and digits are recognised alike on
  both sides; after the sign both compute the same value under the same bounds.
-/
import AgeModel.GoSem
import AgeModel.Plugin
namespace AgeModel
namespace GoTie
open Plugin

theorem lead_ge (x m k : Nat) (hk : 192 ≤ k) (hm : 0 < m) (hmk : m + k ≤ 256) :
    192 ≤ (UInt8.ofNat (x % m + k)).toNat := by
  have := Nat.mod_lt x hm
  rw [UInt8.toNat_ofNat', Nat.mod_eq_of_lt (by omega)]
  omega

theorem enc_head (c : Char) : ∃ b rest, String.utf8EncodeChar c = b :: rest ∧
    (c.val.toNat ≤ 127 → rest = []) ∧ ∀ k, k ≤ 127 → (b.toNat = k ↔ c.val.toNat = k) := by
  unfold String.utf8EncodeChar
  simp only []
  split
  · next h =>
    have hb : (UInt8.ofNat c.val.toNat).toNat = c.val.toNat := by
      rw [UInt8.toNat_ofNat', Nat.mod_eq_of_lt (by omega)]
    exact ⟨_, _, rfl, fun _ => rfl, fun k _ => by rw [hb]⟩
  · next h =>
    have hi : ∀ b : UInt8, 192 ≤ b.toNat → ∀ k, k ≤ 127 → (b.toNat = k ↔ c.val.toNat = k) :=
      fun b hb k hk => by omega
    split
    · exact ⟨_, _, rfl, fun h' => absurd h' h, hi _ (lead_ge _ 32 192 (by decide) (by decide) (by decide))⟩
    · split
      · exact ⟨_, _, rfl, fun h' => absurd h' h, hi _ (lead_ge _ 16 224 (by decide) (by decide) (by decide))⟩
      · exact ⟨_, _, rfl, fun h' => absurd h' h, hi _ (lead_ge _ 8 240 (by decide) (by decide) (by decide))⟩

theorem isDigit_iff (c : Char) : c.isDigit = true ↔ 48 ≤ c.val.toNat ∧ c.val.toNat ≤ 57 := by
  simp [Char.isDigit, UInt32.le_iff_toNat_le]

theorem goDigit_iff (b : UInt8) : Go.isDigit b = true ↔ 48 ≤ b.toNat ∧ b.toNat ≤ 57 := by
  simp [Go.isDigit, UInt8.le_iff_toNat_le]

theorem char_eq_iff (c : Char) (d : Char) : c = d ↔ c.val.toNat = d.val.toNat := by
  rw [UInt32.toNat_inj, Char.val_inj]

theorem enc_digit (c : Char) : ∃ b rest, String.utf8EncodeChar c = b :: rest ∧ Go.isDigit b = c.isDigit ∧
    (c.isDigit = true → rest = [] ∧ b.toNat = c.toNat) := by
  obtain ⟨b, rest, he, h1, hk⟩ := enc_head c
  refine ⟨b, rest, he, ?_, fun hd => ?_⟩
  · rw [Bool.eq_iff_iff, goDigit_iff, isDigit_iff]
    constructor
    · intro hb
      rw [(hk b.toNat (by omega)).1 rfl]; exact hb
    · intro hc
      rw [(hk c.val.toNat (by omega)).2 rfl]; exact hc
  · rw [isDigit_iff] at hd
    exact ⟨h1 (by omega), (hk c.val.toNat (by omega)).2 rfl⟩

def utf8 (cs : List Char) : List UInt8 := cs.flatMap String.utf8EncodeChar

theorem utf8_cons (c : Char) (r : List Char) : utf8 (c :: r) = String.utf8EncodeChar c ++ utf8 r := by
  simp [utf8]

theorem digitsVal_utf8 (cs : List Char) (acc : Nat) :
    match Plugin.digitsVal cs acc with
    | some v => (utf8 cs).all Go.isDigit = true ∧ (utf8 cs).foldl (fun acc c => acc * 10 + (c.toNat - 48)) acc = v
    | none => (utf8 cs).all Go.isDigit = false := by
  induction cs generalizing acc with
  | nil => exact ⟨rfl, rfl⟩
  | cons c r ih =>
    obtain ⟨b, rest, he, hg, h1⟩ := enc_digit c
    rw [Plugin.digitsVal, utf8_cons, he]
    by_cases hd : c.isDigit = true
    · obtain ⟨rfl, hb⟩ := h1 hd
      rw [hd] at hg
      rw [if_pos hd]
      have := ih (acc * 10 + (c.toNat - 48))
      cases hv : Plugin.digitsVal r (acc * 10 + (c.toNat - 48)) with
      | some v =>
        rw [hv] at this
        simp only [List.cons_append, List.nil_append, List.all_cons, hg, this.1, Bool.and_self, List.foldl_cons, hb, true_and]
        exact this.2
      | none =>
        rw [hv] at this
        simp only [List.cons_append, List.nil_append, List.all_cons, hg, this, Bool.and_false]
    · rw [if_neg hd]
      rw [Bool.not_eq_true] at hd
      rw [hd] at hg
      simp only [List.cons_append, List.all_cons, hg, Bool.false_and]

theorem utf8_isEmpty (cs : List Char) : (utf8 cs).isEmpty = cs.isEmpty := by
  cases cs with
  | nil => rfl
  | cons c r =>
    obtain ⟨b, rest, he, -⟩ := enc_head c
    rw [utf8_cons, he]; rfl

/-- the model's `atoiChars` after the sign -/
def atoiTail (neg : Bool) (ds : List Char) : Option Int :=
  match ds with
  | [] => none
  | _ =>
    match Plugin.digitsVal ds 0 with
    | none => none
    | some v =>
      if neg then (if v ≤ 2 ^ 63 then some (- (v : Int)) else none)
      else (if v < 2 ^ 63 then some (v : Int) else none)

theorem atoiChars_plus (r : List Char) : atoiChars ('+' :: r) = atoiTail false r := rfl
theorem atoiChars_minus (r : List Char) : atoiChars ('-' :: r) = atoiTail true r := rfl
theorem atoiChars_nil : atoiChars [] = none := rfl
theorem atoiChars_other (c : Char) (r : List Char) (h1 : c ≠ '+') (h2 : c ≠ '-') :
    atoiChars (c :: r) = atoiTail false (c :: r) := by
  unfold atoiChars
  split
  · rename_i heq; cases heq; exact absurd rfl h2
  · split
    · rename_i heq; cases heq; exact absurd rfl h1
    · rename_i heq; cases heq; exact absurd rfl h2
    · rfl

/-- `strconv.Atoi` after the sign -/
def gTail (neg : Bool) (ds : List UInt8) : Int × Option Go.Err :=
  if ds.isEmpty || !ds.all Go.isDigit then (0, some ⟨"strconv.Atoi", 0, []⟩)
  else
    let v : Int := if neg then -(Int.ofNat (Go.digitsVal ds)) else Int.ofNat (Go.digitsVal ds)
    if v > 9223372036854775807 then (9223372036854775807, some ⟨"strconv.Atoi", 1, []⟩)
    else if v < -9223372036854775808 then (-9223372036854775808, some ⟨"strconv.Atoi", 1, []⟩)
    else (v, none)

theorem gAtoi_plus (r : List UInt8) : Go.strconv_Atoi (43 :: r) = gTail false r := rfl
theorem gAtoi_minus (r : List UInt8) : Go.strconv_Atoi (45 :: r) = gTail true r := rfl
theorem gAtoi_other (b : UInt8) (r : List UInt8) (h1 : b ≠ 43) (h2 : b ≠ 45) :
    Go.strconv_Atoi (b :: r) = gTail false (b :: r) := by
  have e1 : (some b == some (43:UInt8)) = false := by simp [h1]
  have e2 : (some b == some (45:UInt8)) = false := by simp [h2]
  unfold Go.strconv_Atoi gTail
  simp only [List.head?_cons, e1, e2, Bool.false_eq_true, if_false, Bool.or_self]

theorem gTail_utf8 (neg : Bool) (ds : List Char) :
    match atoiTail neg ds with
    | some v => gTail neg (utf8 ds) = (v, none)
    | none => (gTail neg (utf8 ds)).2 ≠ none := by
  cases ds with
  | nil => simp [atoiTail, gTail, utf8]
  | cons c r =>
    have hE : (utf8 (c :: r)).isEmpty = false := by rw [utf8_isEmpty]; rfl
    simp only [atoiTail]
    have hd := digitsVal_utf8 (c :: r) 0
    cases hdv : Plugin.digitsVal (c :: r) 0 with
    | none =>
      rw [hdv] at hd
      simp [gTail, hd]
    | some n =>
      rw [hdv] at hd
      obtain ⟨ha, hf⟩ := hd
      have hf' : Go.digitsVal (utf8 (c :: r)) = n := hf
      simp only [gTail, hE, ha, Bool.not_true, Bool.or_self, Bool.false_eq_true, if_false, hf', Int.ofNat_eq_natCast]
      cases neg with
      | true =>
        simp only [if_true]
        by_cases hv : n ≤ 2 ^ 63
        · rw [if_pos hv, if_neg (by omega), if_neg (by omega)]
        · rw [if_neg hv, if_neg (by omega), if_pos (by omega)]; simp
      | false =>
        simp only [Bool.false_eq_true, if_false]
        by_cases hv : n < 2 ^ 63
        · rw [if_pos hv, if_neg (by omega), if_neg (by omega)]
        · rw [if_neg hv, if_pos (by omega)]; simp

theorem atoiChars_utf8 (cs : List Char) :
    match atoiChars cs with
    | some v => Go.strconv_Atoi (utf8 cs) = (v, none)
    | none => (Go.strconv_Atoi (utf8 cs)).2 ≠ none := by
  cases cs with
  | nil => simp [atoiChars_nil, utf8, Go.strconv_Atoi]
  | cons c r =>
    obtain ⟨b, rest, he, hs, hk⟩ := enc_head c
    have hp : b = 43 ↔ c = '+' := by rw [char_eq_iff, ← UInt8.toNat_inj]; exact hk 43 (by decide)
    have hm : b = 45 ↔ c = '-' := by rw [char_eq_iff, ← UInt8.toNat_inj]; exact hk 45 (by decide)
    by_cases h1 : c = '+'
    · have hb := hp.2 h1
      subst h1 hb
      rw [utf8_cons, he, hs (by decide), atoiChars_plus]
      exact gTail_utf8 false r
    · by_cases h2 : c = '-'
      · have hb := hm.2 h2
        subst h2 hb
        rw [utf8_cons, he, hs (by decide), atoiChars_minus]
        exact gTail_utf8 true r
      · have : Go.strconv_Atoi (utf8 (c :: r)) = gTail false (utf8 (c :: r)) := by
          rw [utf8_cons, he]; exact gAtoi_other b _ (fun h => h1 (hp.1 h)) (fun h => h2 (hm.1 h))
        rw [atoiChars_other c r h1 h2, this]
        exact gTail_utf8 false (c :: r)

end GoTie
end AgeModel
