/-
  Proofs.StreamTamper — whatever byte string is presented as the payload: unless
  the AEAD opens something the encryptor never sealed (a forgery), what is
  released is a prefix of the original plaintext, and a clean end of stream is
  reached only with the whole of it.
-/
import Proofs.Nonce
import Proofs.StreamCanon
namespace AgeModel
namespace Stream

/-- the (nonce, plaintext) pairs the encryptor seals for plaintext `p` from chunk index `i` -/
def sealedFrom (C : Nat) (i : Nat) (p : Bytes) (fuel : Nat) : List (Bytes × Bytes) :=
  match fuel with
  | 0 => []
  | fuel+1 =>
    if p.length ≤ C then [(nonce i true, p)]
    else (nonce i false, p.take C) :: sealedFrom C (i+1) (p.drop C) fuel

/-- the (nonce, plaintext) pairs the reader successfully opens on input `c` from chunk index `i` -/
def openedFrom (A : AEAD) (C : Nat) (k : Bytes) (i : Nat) (c : Bytes) (fuel : Nat) : List (Bytes × Bytes) :=
  match fuel with
  | 0 => []
  | fuel+1 =>
    let E := C + A.T
    if c.length < E then
      if c.length = 0 then []
      else if i ≠ 0 ∧ c.length = A.T then []
      else match A.openF k (nonce i true) c with
        | some p => [(nonce i true, p)]
        | none => []
    else
      match A.openF k (nonce i false) (c.take E) with
      | some p => (nonce i false, p) :: openedFrom A C k (i+1) (c.drop E) fuel
      | none =>
        match A.openF k (nonce i true) (c.take E) with
        | some p => [(nonce i true, p)]
        | none => []

section steps
variable (A : AEAD) (C : Nat) (k : Bytes) (i : Nat) (c p : Bytes) (fuel : Nat)

theorem sealedFrom_short (h : p.length ≤ C) : sealedFrom C i p (fuel+1) = [(nonce i true, p)] := by
  rw [sealedFrom]; exact if_pos h

theorem sealedFrom_long (h : ¬ p.length ≤ C) :
    sealedFrom C i p (fuel+1) = (nonce i false, p.take C) :: sealedFrom C (i+1) (p.drop C) fuel := by
  rw [sealedFrom]; exact if_neg h

theorem decFrom_openedFrom_step :
    (∃ e, e ≠ .eof ∧ decFrom A C k false i c (fuel+1) = ([], e) ∧ openedFrom A C k i c (fuel+1) = []) ∨
    (∃ q o, decFrom A C k false i c (fuel+1) = (q, o) ∧ openedFrom A C k i c (fuel+1) = [(nonce i true, q)]) ∨
    (∃ q, decFrom A C k false i c (fuel+1) =
        (q ++ (decFrom A C k false (i+1) (c.drop (C + A.T)) fuel).1,
          (decFrom A C k false (i+1) (c.drop (C + A.T)) fuel).2) ∧
      openedFrom A C k i c (fuel+1) = (nonce i false, q) :: openedFrom A C k (i+1) (c.drop (C + A.T)) fuel) := by
  by_cases hs : c.length < C + A.T
  · rw [decFrom_short A C k false i c fuel hs, if_neg Bool.false_ne_true]
    simp only [openedFrom, if_pos hs]
    by_cases h0 : c.length = 0
    · rw [if_pos h0, if_pos h0]
      exact Or.inl ⟨.truncated, nofun, rfl, rfl⟩
    rw [if_neg h0, if_neg h0]
    by_cases he : i ≠ 0 ∧ c.length = A.T
    · rw [if_pos he, if_pos he]
      exact Or.inl ⟨.emptyLast, nofun, rfl, rfl⟩
    rw [if_neg he, if_neg he]
    cases A.openF k (nonce i true) c with
    | none => exact Or.inl ⟨.authFail, nofun, rfl, rfl⟩
    | some q => exact Or.inr (Or.inl ⟨q, _, rfl, rfl⟩)
  · simp only [openedFrom, if_neg hs]
    cases hop : A.openF k (nonce i false) (c.take (C + A.T)) with
    | some q =>
      rw [decFrom_full_some A C k false i c fuel hs hop]
      exact Or.inr (Or.inr ⟨q, rfl, rfl⟩)
    | none =>
      cases hop' : A.openF k (nonce i true) (c.take (C + A.T)) with
      | none =>
        rw [decFrom_full_fail A C k false i c fuel hs hop hop']
        exact Or.inl ⟨.authFail, nofun, rfl, rfl⟩
      | some q =>
        rw [decFrom_full_last A C k false i c fuel hs hop hop', ← apply_ite (Prod.mk q)]
        exact Or.inr (Or.inl ⟨q, _, rfl, rfl⟩)

end steps

def CountersIn (lo hi : Nat) (l : List (Bytes × Bytes)) : Prop :=
  ∀ x ∈ l, ∃ j f, lo ≤ j ∧ j < hi ∧ x.1 = nonce j f

theorem CountersIn.cons {lo hi j : Nat} {f : Bool} {q : Bytes} {l : List (Bytes × Bytes)} (h1 : lo ≤ j) (h2 : j < hi)
    (hl : CountersIn (lo + 1) hi l) : CountersIn lo hi ((nonce j f, q) :: l) := by
  intro x hx
  rcases List.mem_cons.mp hx with rfl | hx
  · exact ⟨j, f, h1, h2, rfl⟩
  · obtain ⟨m, g, a1, a2, a3⟩ := hl x hx
    exact ⟨m, g, by omega, a2, a3⟩

theorem sealedFrom_index (C : Nat) : ∀ (fuel i : Nat) (p : Bytes), CountersIn i (i + fuel) (sealedFrom C i p fuel) := by
  intro fuel
  induction fuel with
  | zero => intro i p; exact nofun
  | succ fuel ih =>
    intro i p
    by_cases h : p.length ≤ C
    · rw [sealedFrom_short C i p fuel h]
      exact CountersIn.cons (Nat.le_refl i) (by omega) nofun
    · rw [sealedFrom_long C i p fuel h]
      exact CountersIn.cons (Nat.le_refl i) (by omega) (by rw [show i + (fuel + 1) = i + 1 + fuel by omega]; exact ih (i+1) _)

theorem openedFrom_index (A : AEAD) (C : Nat) (k : Bytes) :
    ∀ (fuel i : Nat) (c : Bytes), CountersIn i (i + fuel) (openedFrom A C k i c fuel) := by
  intro fuel
  induction fuel with
  | zero => intro i c; exact nofun
  | succ fuel ih =>
    intro i c
    rcases decFrom_openedFrom_step A C k i c fuel with ⟨_, _, _, ho⟩ | ⟨q, _, _, ho⟩ | ⟨q, _, ho⟩
    · rw [ho]
      exact nofun
    · rw [ho]
      exact CountersIn.cons (Nat.le_refl i) (by omega) nofun
    · rw [ho]
      exact CountersIn.cons (Nat.le_refl i) (by omega)
        (by rw [show i + (fuel + 1) = i + 1 + fuel by omega]; exact ih (i+1) _)

theorem sealedFrom_head (C : Nat) (fuel i : Nat) (p : Bytes) (f : Bool) (q : Bytes)
    (hb : i + fuel + 1 < 2 ^ 88) (h : (nonce i f, q) ∈ sealedFrom C i p (fuel + 1)) :
    (f = true ∧ p.length ≤ C ∧ q = p) ∨ (f = false ∧ C < p.length ∧ q = p.take C) := by
  have hi : i < 2 ^ 88 := Nat.lt_of_le_of_lt (Nat.le_add_right i (fuel + 1)) hb
  by_cases hle : p.length ≤ C
  · rw [sealedFrom_short C i p fuel hle] at h
    have h := Prod.mk.inj (List.mem_singleton.mp h)
    exact Or.inl ⟨(nonce_inj i i f true hi hi h.1).2, hle, h.2⟩
  · rw [sealedFrom_long C i p fuel hle] at h
    rcases List.mem_cons.mp h with h | h
    · have h := Prod.mk.inj h
      exact Or.inr ⟨(nonce_inj i i f false hi hi h.1).2, Nat.lt_of_not_le hle, h.2⟩
    · -- the later pairs carry counters above `i`
      obtain ⟨j, g, h1, h2, h3⟩ := sealedFrom_index C fuel (i+1) _ _ h
      exact absurd h3 (nonce_ne_of_lt f g h1 (Nat.lt_trans h2 (by omega)))

theorem mem_sealedFrom_tail (C : Nat) (fuel i : Nat) (p : Bytes) (hgt : C < p.length)
    {l : List (Bytes × Bytes)} {hi : Nat} (hhi : hi < 2 ^ 88) (hl : CountersIn (i + 1) hi l)
    (h : ∀ x ∈ l, x ∈ sealedFrom C i p (fuel + 1)) : ∀ x ∈ l, x ∈ sealedFrom C (i+1) (p.drop C) fuel := by
  intro x hx
  have hm := h x hx
  rw [sealedFrom_long C i p fuel (Nat.not_le_of_lt hgt)] at hm
  rcases List.mem_cons.mp hm with hm | hm
  · obtain ⟨m, g, a1, a2, a3⟩ := hl x hx
    rw [hm] at a3
    exact absurd a3 (nonce_ne_of_lt false g a1 (Nat.lt_trans a2 hhi))
  · exact hm

theorem tamper_aux (A : AEAD) (C : Nat) (hC : 0 < C) (k : Bytes) :
    ∀ (fuel : Nat) (i : Nat) (c p : Bytes) (fuelS : Nat),
      i + fuel + 1 < 2 ^ 88 → i + fuelS + 1 < 2 ^ 88 → p.length < fuelS →
      (∀ x ∈ openedFrom A C k i c fuel, x ∈ sealedFrom C i p fuelS) →
      (decFrom A C k false i c fuel).1 <+: p ∧
      ((decFrom A C k false i c fuel).2 = .eof → (decFrom A C k false i c fuel).1 = p) := by
  intro fuel
  induction fuel with
  | zero => intro i c p fs _ _ _ _; exact ⟨List.nil_prefix, nofun⟩
  | succ fuel ih =>
    intro i c p fuelS hb hbs hp hno
    obtain ⟨fuelS, rfl⟩ := Nat.exists_eq_succ_of_ne_zero (Nat.ne_of_gt (Nat.lt_of_le_of_lt (Nat.zero_le _) hp))
    rcases decFrom_openedFrom_step A C k i c fuel with ⟨e, he, hd, _⟩ | ⟨q, o, hd, ho⟩ | ⟨q, hd, ho⟩
    · rw [hd]
      exact ⟨List.nil_prefix, fun h => absurd h he⟩
    · -- a chunk opened as the final one is sealed, so it is all of `p`
      rw [hd]
      rw [ho] at hno
      rcases sealedFrom_head C fuelS i p true q (Nat.lt_of_succ_lt hbs) (hno _ (List.mem_singleton.mpr rfl)) with
        ⟨-, -, rfl⟩ | ⟨hf, -, -⟩
      · exact ⟨List.prefix_refl _, fun _ => rfl⟩
      · cases hf
    · rw [hd]
      rw [ho] at hno
      rcases sealedFrom_head C fuelS i p false q (Nat.lt_of_succ_lt hbs) (hno _ (List.mem_cons_self ..)) with
        ⟨hf, -, -⟩ | ⟨-, hgt, rfl⟩
      · cases hf
      · have hrec := ih (i+1) (c.drop (C + A.T)) (p.drop C) fuelS (by omega) (by omega)
          (by rw [List.length_drop]; omega)
          (mem_sealedFrom_tail C fuelS i p hgt (hi := i + 1 + fuel) (by omega)
            (openedFrom_index A C k fuel (i+1) _) fun x hx => hno x (List.mem_cons_of_mem _ hx))
        constructor
        · have := (List.prefix_append_right_inj (p.take C)).mpr hrec.1
          rwa [List.take_append_drop] at this
        · intro he
          show p.take C ++ _ = p
          rw [hrec.2 he, List.take_append_drop]

end Stream
end AgeModel
