/-
  Proofs.GoTieWitnessRecFile — an instance of the assumption structure of the recipients-file tie of the
  command line tool.
-/
import Proofs.GoTieCliKeyFile
namespace AgeModel
namespace GoTie
open Extracted

/-- a recipients-file environment for ANY key-type sniffer and validity predicate -/
def RecFileEnv.witness (sniff : Bytes → Option Bytes) (valid : Bytes → Bool) : RecFileEnv Unit Unit (List Nat) where
  P l := .ok ((), if l.isEmpty then some ⟨"main.parseRecipient", 0, []⟩ else none)
  hP _ := ⟨_, rfl⟩
  K l := .ok (match sniff l with
              | some t => (t, true)
              | none => ([], false))
  sniff := sniff
  hK _ := rfl
  A l := .ok ((), [], [], [], if valid l then none else some ⟨"ssh.ParseAuthorizedKey", 0, []⟩)
  valid := valid
  hA l := ⟨_, rfl, by cases valid l <;> rfl⟩
  W t _ ints := .ok (t ++ ints.map Int.toNat)
  absT t := t
  hW t n := ⟨t ++ [n], rfl, rfl⟩

end GoTie
end AgeModel
