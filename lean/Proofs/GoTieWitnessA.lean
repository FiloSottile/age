/-
  Proofs.GoTieWitnessA — the assumption structures of the "translated code = model" theorems about the
  cryptographic glue are SATISFIABLE: each is inhabited (for a lawful toy primitive suite whose AEAD
  has the 16-byte tag the wrappers check for), so no theorem that assumes one of them is vacuous.
  The instances are in `GoTieWitnessStream` (stream), `GoTieWitnessRecip` (recipients and identities)
  and `GoTieWitnessFile` (header MAC, Decrypt, Encrypt), which this module collects.
-/
import Proofs.GoTieWitnessStream
import Proofs.GoTieWitnessRecip
import Proofs.GoTieWitnessFile
