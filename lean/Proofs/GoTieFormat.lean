/-
  Proofs.GoTieFormat — the header parser, as it stands in the source: the stanza reader and
  `format.Parse` around it (`parse_tie`; see the note at `toGoHeader`).

  `(*StanzaReader).ReadStanza` (internal/format/format.go) is TRANSLATED on every run
  (AgeModel/Extracted/Funcs.lean): the sticky error with its `defer`, the two
  `bufio.Reader.ReadBytes` calls, the opening-line checks through `splitArgs` and
  `isValidString` (themselves translated), the body-line loop. `format.DecodeString` is
  kept abstract and assumed to be the model's `decodeString` (hypothesis `hD`; the model's
  strict base64 is tied to Go's by the C07 correspondence). For EVERY input the translated
  function returns what the model's `Format.readStanza` returns: the same stanza and the
  same unread remainder, or an error — and an error is remembered (sticky).
-/
import AgeModel.GoSem
import AgeModel.Format
import AgeModel.Extracted.Funcs
import Proofs.GoTieFmtStr
import Proofs.GoTieLines
import Proofs.FormatLines
import Proofs.GoBuf
namespace AgeModel
namespace GoTie
open Extracted

/-- at `Bytes`, so that the instances are found once; at each use of the general lemma the search is slow -/
theorem bytes_bne {a b : Bytes} (h : a ≠ b) : (a != b) = true := bne_iff_ne.mpr h
theorem bytes_beq_false {a b : Bytes} (h : a ≠ b) : (a == b) = false := beq_eq_false_iff_ne.mpr h

theorem readStanza_loop1_eq (line : Bytes) : ∀ (args : List Bytes) (r : format_StanzaReader) (s : format_Stanza) (err : Option Go.Err),
    format_StanzaReader_ReadStanza_loop1 line args r s err =
      .ok (if args.all Format.validString then .next (r, s, err)
           else .ret (({ Type_ := [], Args := [], Body := [] } : format_Stanza),
                  some (Go.Err.mk "format.(*StanzaReader).ReadStanza" 3 []),
                  { r with err := some (Go.Err.mk "format.(*StanzaReader).ReadStanza" 3 []) }))
  | [], r, s, err => rfl
  | a :: rest, r, s, err => by
    simp only [format_StanzaReader_ReadStanza_loop1, isValidString_tie, Go.bind_ok, List.all_cons]
    by_cases hv : Format.validString a = true
    · simp only [hv, Bool.not_true, Bool.false_eq_true, ↓reduceIte, Bool.true_and]
      exact readStanza_loop1_eq line rest r s err
    · have hv' := Bool.eq_false_iff.mpr hv
      simp only [hv', Bool.not_false, ↓reduceIte, Bool.false_and, Bool.false_eq_true]; rfl

/-- that an accepted body has consumed input is what lets `Parse` hand its own loop enough fuel -/
theorem readStanza_loop2_eq (D : Bytes → Go.M (Bytes × Option Go.Err)) (eD : Go.Err) (hD : DecodeIsModel D eD) :
    ∀ (fuel : Nat) (r : format_StanzaReader) (s : format_Stanza) (err : Option Go.Err), r.r.length < fuel →
    ∃ res, format_StanzaReader_ReadStanza_loop2 D fuel r s err = .ok (.ret res) ∧
      match Format.readBody fuel r.r s.Body with
      | .ok (body, rest) => res = ({ s with Body := body }, none, ⟨rest, none⟩) ∧ rest.length < r.r.length
      | .error _ => res.2.1 ≠ none ∧ res.2.2.err = res.2.1
  | 0, r, s, err, h => absurd h (Nat.not_lt_zero _)
  | fuel + 1, r, s, err, h => by
    cases htl : Format.takeLine r.r with
    | none =>
      simp only [Format.readBody, htl, format_StanzaReader_ReadStanza_loop2, readBytes_none _ htl, Go.ioEOF,
        Go.some_bne_none, ↓reduceIte]
      exact ⟨_, rfl, Option.some_ne_none _, rfl⟩
    | some p =>
      obtain ⟨l, r'⟩ := p
      have hlen := Format.takeLine_len htl
      simp only [Format.readBody, htl, format_StanzaReader_ReadStanza_loop2, readBytes_some _ _ _ htl,
        Go.none_bne_none, Bool.false_eq_true, ↓reduceIte, trimSuffix_nl, hD l, Go.bind_ok]
      cases hd : Format.decodeString l with
      | none =>
        simp only [Go.some_bne_none, ↓reduceIte]
        split <;> exact ⟨_, rfl, Option.some_ne_none _, rfl⟩
      | some d =>
        have hg : (Go.len d > 48) ↔ d.length > 48 := by
          simp only [Go.len, Int.ofNat_eq_natCast]; omega
        have hl : (Go.len d < 48) ↔ d.length < 48 := by
          simp only [Go.len, Int.ofNat_eq_natCast]; omega
        simp only [Go.none_bne_none, Bool.false_eq_true, ↓reduceIte, decide_eq_true_eq, hg, hl]
        by_cases h1 : d.length > 48
        · simp only [h1, ↓reduceIte]
          exact ⟨_, rfl, Option.some_ne_none _, rfl⟩
        · simp only [h1, ↓reduceIte]
          by_cases h2 : d.length < 48
          · simp only [h2, ↓reduceIte]
            exact ⟨_, rfl, rfl, hlen⟩
          · simp only [h2, ↓reduceIte]
            obtain ⟨res, hr, hm⟩ := readStanza_loop2_eq D eD hD fuel ⟨r', r.err⟩ ⟨s.Type_, s.Args, s.Body ++ d⟩ err
              (Nat.lt_of_lt_of_le hlen (Nat.le_of_lt_succ h))
            refine ⟨res, hr, ?_⟩
            revert hm
            cases Format.readBody fuel r' (s.Body ++ d) with
            | ok p => exact fun hm => ⟨hm.1, Nat.lt_trans hm.2 hlen⟩
            | error e => exact id

theorem splitSp_head_prefix : ∀ (l h : Bytes) (t : List Bytes), Format.splitSp l = h :: t → h.isPrefixOf l = true
  | [], h, t, e => by
    simp only [Format.splitSp, List.cons.injEq] at e
    rw [← e.1]; rfl
  | c :: cs, h, t, e => by
    by_cases hc : c = Format.sp
    · simp only [Format.splitSp, hc, ↓reduceIte, List.cons.injEq] at e
      rw [← e.1]; rfl
    · simp only [Format.splitSp, hc, ↓reduceIte] at e
      cases hs : Format.splitSp cs with
      | nil =>
        rw [hs] at e
        simp only [List.cons.injEq] at e
        rw [← e.1]; simp
      | cons h' t' =>
        rw [hs] at e
        simp only [List.cons.injEq] at e
        rw [← e.1]
        have := splitSp_head_prefix cs h' t' hs
        simp [this]

theorem hasPrefix_of_split (l : Bytes) (t : List Bytes) (e : Format.splitSp l = Format.stanzaPrefix :: t) :
    Go.strings_HasPrefix (l ++ [Format.nl]) format_stanzaPrefix = true := by
  have h := splitSp_head_prefix l _ t e
  simp only [Go.strings_HasPrefix]
  rw [List.isPrefixOf_iff_prefix] at h ⊢
  exact List.IsPrefix.trans h (List.prefix_append _ _)

theorem splitSp_cons (l : Bytes) : ∃ h t, Format.splitSp l = h :: t :=
  List.exists_cons_of_ne_nil (Format.splitSp_ne_nil l)

theorem readStanza_run (D : Bytes → Go.M (Bytes × Option Go.Err)) (eD : Go.Err) (hD : DecodeIsModel D eD)
    (input : Bytes) :
    ∃ res, format_StanzaReader_ReadStanza D ⟨input, none⟩ = .ok res ∧
      match Format.readStanza input with
      | .ok (st, rest) => res = (toGoFStanza st, none, ⟨rest, none⟩) ∧ rest.length < input.length
      | .error _ => res.2.1 ≠ none ∧ res.2.2.err = res.2.1 := by
  cases htl : Format.takeLine input with
  | none =>
    simp only [format_StanzaReader_ReadStanza, Go.none_bne_none, Bool.false_eq_true, ↓reduceIte,
      readBytes_none _ htl, Go.ioEOF, Go.some_bne_none, Format.readStanza, htl]
    exact ⟨_, rfl, Option.some_ne_none _, rfl⟩
  | some p =>
    obtain ⟨l, r'⟩ := p
    have hlen := Format.takeLine_len htl
    simp only [format_StanzaReader_ReadStanza, Go.none_bne_none, Bool.false_eq_true, ↓reduceIte,
      readBytes_some _ _ _ htl, Format.readStanza, htl]
    obtain ⟨h, t, hs⟩ := splitSp_cons l
    by_cases hp : h = Format.stanzaPrefix
    · subst hp
      simp only [hasPrefix_of_split l t hs, Bool.not_true, Bool.false_eq_true, ↓reduceIte, splitArgs_tie,
        hs, Go.bind_ok]
      cases t with
      | nil =>
        have : (Format.stanzaPrefix != format_stanzaPrefix || decide (Go.len ([] : List Bytes) < 1)) = true := by decide
        simp only [this, ↓reduceIte]
        exact ⟨_, rfl, Option.some_ne_none _, rfl⟩
      | cons t0 args =>
        have hc : (Format.stanzaPrefix != format_stanzaPrefix || decide (Go.len (t0 :: args) < 1)) = false := by
          have : ¬ (Go.len (t0 :: args) < 1) := by
            simp only [Go.len, List.length_cons, Int.ofNat_eq_natCast]; omega
          simp only [this, decide_false, Bool.or_false]; decide
        have hidx : Go.idx (t0 :: args) 0 = .ok t0 := rfl
        have hsl : Go.slice (t0 :: args) 1 (Go.len (t0 :: args)) = .ok args := by
          have h1 : (0 : Int) ≤ 1 ∧ (1 : Int) ≤ Go.len (t0 :: args) ∧ Go.len (t0 :: args) ≤ Int.ofNat (t0 :: args).length := by
            simp only [Go.len, List.length_cons, Int.ofNat_eq_natCast]; omega
          simp only [Go.slice, h1, and_self, ↓reduceIte]
          simp [Go.len]
        simp only [hc, Bool.false_eq_true, ↓reduceIte, readStanza_loop1_eq, true_and, Go.bind_ok]
        by_cases hv : (t0 :: args).all Format.validString = true
        · simp only [hv, ↓reduceIte, hidx, hsl, Go.bind_ok]
          have hfuel : (Go.len r').toNat + 1 = r'.length + 1 := rfl
          rw [hfuel]
          obtain ⟨res, e1, hm⟩ := readStanza_loop2_eq D eD hD (r'.length + 1) ⟨r', none⟩ ⟨t0, args, []⟩ none (Nat.lt_succ_self _)
          simp only [e1, Go.bind_ok]
          refine ⟨_, rfl, ?_⟩
          revert hm
          cases Format.readBody (r'.length + 1) r' [] with
          | ok br => exact fun hm => ⟨hm.1, Nat.lt_trans hm.2 hlen⟩
          | error e => exact id
        · simp only [hv]
          exact ⟨_, rfl, Option.some_ne_none _, rfl⟩
    · have hne : (h != format_stanzaPrefix) = true := bytes_bne hp
      simp only [hs, splitArgs_tie, Go.bind_ok, hne, Bool.true_or, ↓reduceIte]
      cases t with
      | nil => split <;> exact ⟨_, rfl, Option.some_ne_none _, rfl⟩
      | cons t0 args =>
        simp only [hp, false_and, ↓reduceIte]
        split <;> exact ⟨_, rfl, Option.some_ne_none _, rfl⟩

theorem readStanza_tie (D : Bytes → Go.M (Bytes × Option Go.Err)) (eD : Go.Err) (hD : DecodeIsModel D eD)
    (input : Bytes) :
    ∃ res, format_StanzaReader_ReadStanza D ⟨input, none⟩ = .ok res ∧
      match Format.readStanza input with
      | .ok (st, rest) => res = (toGoFStanza st, none, ⟨rest, none⟩)
      | .error _ => res.2.1 ≠ none ∧ res.2.2.err = res.2.1 := by
  obtain ⟨res, h, hm⟩ := readStanza_run D eD hD input
  refine ⟨res, h, ?_⟩
  revert hm
  cases Format.readStanza input with
  | ok p => exact And.left
  | error e => exact id

/-- read errors are unrecoverable: once an error was returned, every later call returns it, reading nothing -/
theorem readStanza_sticky (D : Bytes → Go.M (Bytes × Option Go.Err)) (rd : Bytes) (e : Go.Err) :
    format_StanzaReader_ReadStanza D ⟨rd, some e⟩ =
      .ok (({ Type_ := [], Args := [], Body := [] } : format_Stanza), some e, ⟨rd, some e⟩) := by
  simp only [format_StanzaReader_ReadStanza, Go.some_bne_none, ↓reduceIte]; rfl

/-! ## format.Parse

The whole header parser: intro line, the `Peek`/`ReadStanza` loop, the closing line with the
MAC. Translated up to the point where the Go code hands the unread input back (the tail that
unwinds bufio's read-ahead is outside the fragment: in the value semantics used here the
payload IS the unread remainder `rr`, which is what the model returns; that the real tail
delivers exactly those bytes is checked by the correspondence, suites C07/C12). The stanza
reader `sr` is built around the same reader `rr` (the translation threads one reader through both). -/

def toGoHeader (h : Format.Header) : format_Header := ⟨h.stanzas.map toGoFStanza, h.mac⟩

def fromGoFStanza (s : format_Stanza) : Format.Stanza := ⟨s.Type_, s.Args, s.Body⟩
def fromGoHeader (h : format_Header) : Format.Header := ⟨h.Recipients.map fromGoFStanza, h.MAC⟩

theorem fromGoFStanza_toGoFStanza (s : Format.Stanza) : fromGoFStanza (toGoFStanza s) = s := rfl

theorem map_fromGoFStanza (ss : List Format.Stanza) : (ss.map toGoFStanza).map fromGoFStanza = ss := by
  induction ss with
  | nil => rfl
  | cons s ss ih => simp only [List.map_cons, ih, fromGoFStanza_toGoFStanza]

theorem fromGoHeader_toGoHeader (h : Format.Header) : fromGoHeader (toGoHeader h) = h := by
  cases h with
  | mk ss m => simp only [fromGoHeader, toGoHeader, map_fromGoFStanza]

theorem toGoFStanza_injective : ∀ a b, toGoFStanza a = toGoFStanza b → a = b := by
  intro a b h
  rw [← fromGoFStanza_toGoFStanza a, h, fromGoFStanza_toGoFStanza]

theorem toGoHeader_injective : ∀ a b, toGoHeader a = toGoHeader b → a = b := by
  intro a b h
  rw [← fromGoHeader_toGoHeader a, h, fromGoHeader_toGoHeader]

theorem peek3 (rr : Bytes) : Go.bufio_Peek rr (Go.len format_footerPrefix) =
    if rr.length < 3 then (rr, Go.ioEOF) else (rr.take 3, none) := by
  have : (Go.len format_footerPrefix).toNat = 3 := rfl
  simp only [Go.bufio_Peek, this]
  by_cases h : rr.length < 3
  · have h' : ¬ 3 ≤ rr.length := by omega
    simp only [h, h', ↓reduceIte]
  · have h' : 3 ≤ rr.length := by omega
    simp only [h, h', ↓reduceIte]

theorem footerPrefix_beq : (Format.footerPrefix == format_footerPrefix) = true := by decide

theorem parse_loop_eq (D : Bytes → Go.M (Bytes × Option Go.Err)) (eD : Go.Err) (hD : DecodeIsModel D eD) :
    ∀ (fuel : Nat) (h : format_Header) (rr x : Bytes) (acc : List Format.Stanza),
    rr.length < fuel → h.Recipients = acc.reverse.map toGoFStanza →
    match Format.readStanzas fuel rr acc with
    | .ok (hd, rest) => ∃ sr', format_Parse_loop1 D fuel h rr ⟨x, none⟩ = .ok (.next (toGoHeader hd, rest, sr'))
    | .error _ => ∃ res, format_Parse_loop1 D fuel h rr ⟨x, none⟩ = .ok (.ret res) ∧ res.2.2 ≠ none
  | 0, h, rr, x, acc, hf, hh => absurd hf (Nat.not_lt_zero _)
  | fuel + 1, h, rr, x, acc, hfuel, hh => by
    simp only [Format.readStanzas, format_Parse_loop1, peek3]
    by_cases h3 : rr.length < 3
    · simp only [h3, ↓reduceIte, Go.ioEOF, Go.some_bne_none]
      exact ⟨_, rfl, Option.some_ne_none _⟩
    · simp only [h3, ↓reduceIte, Go.none_bne_none, Bool.false_eq_true, Go.bytes_Equal]
      by_cases hf : rr.take 3 = Format.footerPrefix
      · simp only [hf, footerPrefix_beq, ↓reduceIte, Format.readFooter]
        cases htl : Format.takeLine rr with
        | none =>
          simp only [readBytes_none _ htl, Go.ioEOF, Go.some_bne_none, ↓reduceIte]
          exact ⟨_, rfl, Option.some_ne_none _⟩
        | some p =>
          obtain ⟨l, r'⟩ := p
          simp only [readBytes_some _ _ _ htl, Go.none_bne_none, Bool.false_eq_true, ↓reduceIte, splitArgs_tie,
            Go.bind_ok]
          obtain ⟨h0, t, hs⟩ := splitSp_cons l
          simp only [hs]
          cases t with
          | nil =>
            have : (Go.len ([] : List Bytes) != 1) = true := by decide
            simp only [this, Bool.or_true, ↓reduceIte]
            exact ⟨_, rfl, Option.some_ne_none _⟩
          | cons m t' =>
          cases t' with
          | cons b t'' =>
            have : (Go.len (m :: b :: t'') != 1) = true := by
              simp only [bne_iff_ne, Go.len, List.length_cons, Int.ofNat_eq_natCast, ne_eq]; omega
            simp only [this, Bool.or_true, ↓reduceIte]
            exact ⟨_, rfl, Option.some_ne_none _⟩
          | nil =>
            have h1 : (Go.len [m] != 1) = false := rfl
            have hidx : Go.idx [m] 0 = .ok m := rfl
            by_cases hp : h0 = Format.footerPrefix
            · subst hp
              have hne : (Format.footerPrefix != format_footerPrefix) = false := by decide
              simp only [h1, hne, Bool.or_false, Bool.false_eq_true, ↓reduceIte, hidx, hD m, Go.bind_ok]
              cases hd : Format.decodeString m with
              | none =>
                simp only [Go.some_bne_none, Bool.true_or, ↓reduceIte]
                exact ⟨_, rfl, Option.some_ne_none _⟩
              | some mac =>
                simp only [Go.none_bne_none, Bool.false_or]
                by_cases h32 : mac.length = 32
                · have hb : (Go.len mac != 32) = false := Go.len_bne_of_eq h32
                  simp only [h32, hb, ↓reduceIte, Bool.false_eq_true]
                  exact ⟨⟨x, none⟩, by rw [hh]; rfl⟩
                · have hb : (Go.len mac != 32) = true := Go.len_bne_of_ne h32
                  simp only [h32, hb, ↓reduceIte]
                  exact ⟨_, rfl, Option.some_ne_none _⟩
            · have hne : (h0 != format_footerPrefix) = true := bytes_bne hp
              simp only [hne, Bool.true_or, ↓reduceIte, hp]
              exact ⟨_, rfl, Option.some_ne_none _⟩
      · have hf' : (rr.take 3 == format_footerPrefix) = false := bytes_beq_false hf
        obtain ⟨res, hres, hm⟩ := readStanza_run D eD hD rr
        simp only [hf, hf', ↓reduceIte, Bool.false_eq_true, hres, Go.bind_ok]
        cases hs : Format.readStanza rr with
        | error e0 =>
          rw [hs] at hm
          have hb : (res.2.1 != none) = true := bne_iff_ne.mpr hm.1
          simp only [hb, ↓reduceIte]
          exact ⟨_, rfl, Option.some_ne_none _⟩
        | ok p =>
          obtain ⟨st, r'⟩ := p
          rw [hs] at hm
          obtain ⟨rfl, hlt⟩ := hm
          simp only [Go.none_bne_none, Bool.false_eq_true, ↓reduceIte]
          exact parse_loop_eq D eD hD fuel _ r' r' (st :: acc) (by omega)
            (by simp only [hh, List.reverse_cons, List.map_append, List.map_cons, List.map_nil])

theorem parse_tie (D : Bytes → Go.M (Bytes × Option Go.Err)) (eD : Go.Err) (hD : DecodeIsModel D eD)
    (input : Bytes) :
    ∃ res, format_Parse D input = .ok res ∧
      match Format.parse input with
      | .ok (h, rest) => res = (toGoHeader h, rest, none)
      | .error _ => res.2.2 ≠ none := by
  cases htl : Format.takeLine input with
  | none =>
    simp only [format_Parse, Format.parse, htl, readBytes_none _ htl, Go.ioEOF, Go.some_bne_none, ↓reduceIte]
    exact ⟨_, rfl, Option.some_ne_none _⟩
  | some p =>
    obtain ⟨l, r⟩ := p
    simp only [format_Parse, Format.parse, htl, readBytes_some _ _ _ htl, Go.none_bne_none, Bool.false_eq_true,
      ↓reduceIte]
    by_cases hi : l ++ [Format.nl] = Format.intro
    · have hlit : (Format.intro != ([97, 103, 101, 45, 101, 110, 99, 114, 121, 112, 116, 105, 111, 110, 46, 111, 114, 103, 47, 118, 49, 10] : List UInt8)) = false := by decide
      simp only [hi, hlit, Bool.false_eq_true, ↓reduceIte, format_NewStanzaReader, Go.bind_ok, pure,
        Except.pure]
      have hfuel : (Go.len r).toNat + 1 = r.length + 1 := rfl
      rw [hfuel]
      have h2 := parse_loop_eq D eD hD (r.length + 1) ⟨[], []⟩ r r [] (Nat.lt_succ_self _) rfl
      cases hb : Format.readStanzas (r.length + 1) r [] with
      | ok p =>
        rw [hb] at h2
        obtain ⟨sr', e1⟩ := h2
        simp only [e1]
        exact ⟨_, rfl, rfl⟩
      | error e =>
        rw [hb] at h2
        obtain ⟨res, e1, e2⟩ := h2
        simp only [e1]
        exact ⟨_, rfl, e2⟩
    · have hb : (l ++ [Format.nl] != ([97, 103, 101, 45, 101, 110, 99, 114, 121, 112, 116, 105, 111, 110, 46, 111, 114, 103, 47, 118, 49, 10] : List UInt8)) = true :=
        bytes_bne hi
      simp only [hb, hi, ↓reduceIte]
      exact ⟨_, rfl, Option.some_ne_none _⟩

end GoTie
end AgeModel

