/-
  Proofs.GoTieArmorSpace — `len(bytes.TrimSpace(b)) == 0` as GoSem has it (every rune, decoded
  left to right, is a Unicode space) is the model's `Armor.allSpace` (a pattern match on the
  UTF-8 encodings of the 25 White_Space code points), for every byte string.

  One way the model's patterns decode to spaces by computation. The other way (`shape`) a space
  rune fixes the bytes it was decoded from, because `decodeRune` accepts only shortest forms
  (`shortest2`..`shortest4`) and a three-byte sequence is recovered from its code point (`bytes3`).
-/
import AgeModel.GoSem
import AgeModel.Armor
import Proofs.DecodeRune
namespace AgeModel
namespace GoTie

namespace ArmorSpace
open Go

/-- the code points of `unicode.IsSpace`, grouped by the length of their UTF-8 encoding -/
def spN (n : Nat) : Prop :=
  (n = 9 ∨ n = 10 ∨ n = 11 ∨ n = 12 ∨ n = 13 ∨ n = 32) ∨ (n = 0x85 ∨ n = 0xA0) ∨
  (n = 0x1680 ∨ ((0x2000 ≤ n ∧ n ≤ 0x200A) ∨ n = 0x2028 ∨ n = 0x2029 ∨ n = 0x202F) ∨ n = 0x205F ∨ n = 0x3000)

theorem spN_1 {n : Nat} (h : spN n) (hn : n < 0x80) :
    n = 9 ∨ n = 10 ∨ n = 11 ∨ n = 12 ∨ n = 13 ∨ n = 32 := by
  rcases h with h | h | h
  · exact h
  · exfalso; omega
  · exfalso; omega

theorem spN_2 {n : Nat} (h : spN n) (h1 : 0x80 ≤ n) (h2 : n < 0x800) : n = 0x85 ∨ n = 0xA0 := by
  rcases h with h | h | h
  · exfalso; omega
  · exact h
  · exfalso; omega

theorem spN_3 {n : Nat} (h : spN n) (h1 : 0x800 ≤ n) :
    n = 0x1680 ∨ ((0x2000 ≤ n ∧ n ≤ 0x200A) ∨ n = 0x2028 ∨ n = 0x2029 ∨ n = 0x202F) ∨ n = 0x205F ∨ n = 0x3000 := by
  rcases h with h | h | h
  · exfalso; omega
  · exfalso; omega
  · exact h

theorem spN_lt {n : Nat} (h : spN n) : n < 0x10000 := by
  unfold spN at h
  omega

/- with these `isSpace_nat` is a rewriting of the two definitions into each other, with no arithmetic -/
theorem cast_eq_lit (n k : Nat) : ((n : Int) = no_index (OfNat.ofNat k)) = (n = k) := propext Int.ofNat_inj
theorem cast_le_lit (n k : Nat) : ((n : Int) ≤ no_index (OfNat.ofNat k)) = (n ≤ k) := propext Int.ofNat_le
theorem lit_le_cast (n k : Nat) : ((no_index (OfNat.ofNat k) : Int) ≤ n) = (k ≤ n) := propext Int.ofNat_le

theorem isSpace_nat (n : Nat) : unicode_IsSpace (Int.ofNat n) = true ↔ spN n := by
  simp only [unicode_IsSpace, spN, Bool.or_eq_true, Bool.and_eq_true, beq_iff_eq, decide_eq_true_eq,
    Int.ofNat_eq_natCast, or_assoc, cast_eq_lit, cast_le_lit, lit_le_cast]

theorem isCont_iff (b : UInt8) : isCont b = true ↔ 0x80 ≤ b.toNat ∧ b.toNat ≤ 0xBF := by
  simp only [isCont, Bool.and_eq_true, decide_eq_true_eq, UInt8.le_iff_toNat_le]
  rfl

theorem u8 {c : UInt8} {k : Nat} (h : c.toNat = k) : c = UInt8.ofNat k := by
  rw [← h, UInt8.ofNat_toNat]

theorem bytes3 {c b1 b2 : UInt8} {n : Nat} (h : c.toNat % 16 * 4096 + b1.toNat % 64 * 64 + b2.toNat % 64 = n)
    (hc : 0xE0 ≤ c.toNat ∧ c.toNat < 0xF0) (h1 : 0x80 ≤ b1.toNat ∧ b1.toNat ≤ 0xBF)
    (h2 : 0x80 ≤ b2.toNat ∧ b2.toNat ≤ 0xBF) :
    c = .ofNat (0xE0 + n / 4096) ∧ b1 = .ofNat (0x80 + n / 64 % 64) ∧ b2 = .ofNat (0x80 + n % 64) := by
  have : c.toNat = 0xE0 + n / 4096 ∧ b1.toNat = 0x80 + n / 64 % 64 ∧ b2.toNat = 0x80 + n % 64 := by omega
  exact ⟨u8 this.1, u8 this.2.1, u8 this.2.2⟩

theorem shortest2 {c x : Nat} (hc : 0xC2 ≤ c ∧ c < 0xE0) (hx : x < 64) :
    0x80 ≤ c % 32 * 64 + x ∧ c % 32 * 64 + x < 0x800 ∧ c = 0xC0 + (c % 32 * 64 + x) / 64 := by
  omega

theorem shortest3 {c b x : Nat} (hc : 0xE0 ≤ c ∧ c < 0xF0) (h0 : c = 0xE0 → 0xA0 ≤ b) (hb : b ≤ 0xBF) :
    0x800 ≤ c % 16 * 4096 + b % 64 * 64 + x := by
  omega

theorem shortest4 {c b x : Nat} (hc : 0xF0 ≤ c ∧ c < 0xF5) (h0 : c = 0xF0 → 0x90 ≤ b) (hb : b ≤ 0xBF) :
    0x10000 ≤ c % 8 * 262144 + b % 64 * 4096 + x := by
  omega

theorem fffd_absurd {P : Prop} (h : unicode_IsSpace ((0xFFFD : Int), 1).fst = true) : P :=
  absurd (show unicode_IsSpace 0xFFFD = true from h) (by decide)

theorem spN_of_space {n w : Nat} (h : unicode_IsSpace (Int.ofNat n, w).1 = true) : spN n :=
  (isSpace_nat n).mp h

theorem ite_fst_space {p : Prop} [Decidable p] {n w : Nat}
    (h : unicode_IsSpace (if p then (Int.ofNat n, w) else ((0xFFFD : Int), 1)).fst = true) : p ∧ spN n := by
  by_cases hp : p
  · rw [if_pos hp] at h
    exact ⟨hp, spN_of_space h⟩
  · rw [if_neg hp] at h
    exact fffd_absurd h

theorem shape (c : UInt8) (r : List UInt8) (h : unicode_IsSpace (decodeRune (c :: r)).1 = true) :
    (c = 9 ∨ c = 10 ∨ c = 11 ∨ c = 12 ∨ c = 13 ∨ c = 32) ∨
    (c = 0xC2 ∧ ∃ b r1, r = b :: r1) ∨
    (c = 0xE1 ∧ ∃ r1, r = 0x9A :: 0x80 :: r1) ∨
    (c = 0xE2 ∧ ∃ b r1, r = 0x80 :: b :: r1) ∨
    (c = 0xE2 ∧ ∃ r1, r = 0x81 :: 0x9F :: r1) ∨
    (c = 0xE3 ∧ ∃ r1, r = 0x80 :: 0x80 :: r1) := by
  refine decodeRune_cases (P := fun d => unicode_IsSpace d.1 = true → _) c r fffd_absurd ?_ ?_ ?_ ?_ h
  · intro h1 hs
    left
    simp only [← UInt8.toNat_inj, UInt8.toNat_ofNat]
    exact spN_1 (spN_of_space hs) h1
  · intro b r1 hr h2 h3 _ hs
    have ⟨h80, h800, hc⟩ := shortest2 (x := b.toNat % 64) ⟨h2, h3⟩ (Nat.mod_lt _ (by decide))
    -- both two-byte spaces, U+0085 and U+00A0, have lead byte C2
    refine .inr (.inl ⟨u8 (hc.trans ?_), b, r1, hr⟩)
    rcases spN_2 (spN_of_space hs) h80 h800 with h | h <;> rw [h]
  · intro b1 b2 r1 hr h3 h4 hb1 hb2 hs
    subst hr
    have h800 := shortest3 (x := b2.toNat % 64) ⟨h3, h4⟩ hb1.2.2.1 hb1.2.1
    have h := spN_of_space hs
    generalize hn : c.toNat % 16 * 4096 + b1.toNat % 64 * 64 + b2.toNat % 64 = n at h h800
    have e := bytes3 hn ⟨h3, h4⟩ ⟨hb1.1, hb1.2.1⟩ ((isCont_iff b2).mp hb2)
    rcases spN_3 h h800 with h | h | h | h
    · subst h; obtain ⟨rfl, rfl, rfl⟩ := e
      exact .inr (.inr (.inl ⟨rfl, r1, rfl⟩))
    · have h0 : n / 4096 = 2 := by omega
      have h1 : n / 64 % 64 = 0 := by omega
      rw [h0, h1] at e; obtain ⟨rfl, rfl, -⟩ := e
      exact .inr (.inr (.inr (.inl ⟨rfl, b2, r1, rfl⟩)))
    · subst h; obtain ⟨rfl, rfl, rfl⟩ := e
      exact .inr (.inr (.inr (.inr (.inl ⟨rfl, r1, rfl⟩))))
    · subst h; obtain ⟨rfl, rfl, rfl⟩ := e
      exact .inr (.inr (.inr (.inr (.inr ⟨rfl, r1, rfl⟩))))
  · intro b1 b2 b3 r1 _ h4 h5 hb1 _ _ hs
    have := shortest4 (x := b2.toNat % 64 * 64 + b3.toNat % 64) ⟨h4, h5⟩ hb1.2.2.1 hb1.2.1
    exact absurd (spN_lt (spN_of_space hs)) (by omega)

abbrev F : Int × Int → Bool := fun p => unicode_IsSpace p.2

theorem all_step (fuel off : Nat) (b : UInt8) (rest : List UInt8) :
    (runesFrom (fuel + 1) off (b :: rest)).all F =
      (unicode_IsSpace (decodeRune (b :: rest)).1 &&
        (runesFrom fuel (off + (decodeRune (b :: rest)).2) ((b :: rest).drop (decodeRune (b :: rest)).2)).all F) := rfl

theorem all_cons {fuel off w : Nat} {c : UInt8} {r : Bytes} {A : Bool} (hl : (c :: r).length ≤ fuel)
    (hs : unicode_IsSpace (decodeRune (c :: r)).1 = true) (hw : (decodeRune (c :: r)).2 = w + 1)
    (ih : ∀ fuel off, (r.drop w).length ≤ fuel → (runesFrom fuel off (r.drop w)).all F = A) :
    (runesFrom fuel off (c :: r)).all F = A := by
  cases fuel with
  | zero => cases hl
  | succ fuel =>
    rw [all_step, hs, hw]
    refine ih fuel _ ?_
    rw [List.length_drop]
    exact Nat.le_trans (Nat.sub_le _ _) (Nat.le_of_succ_le_succ hl)

theorem all_cons_false {fuel off : Nat} {c : UInt8} {r : Bytes} (hl : (c :: r).length ≤ fuel)
    (hs : ¬ unicode_IsSpace (decodeRune (c :: r)).1 = true) : (runesFrom fuel off (c :: r)).all F = false := by
  cases fuel with
  | zero => cases hl
  | succ fuel => rw [all_step, Bool.eq_false_iff.mpr hs]; rfl

theorem dr_e2 (c : UInt8) (r : List UInt8) : decodeRune (226 :: 128 :: c :: r) =
    if isCont c then (Int.ofNat (0x2000 + c.toNat % 64), 3) else (0xFFFD, 1) := by
  unfold decodeRune
  simp only
  rw [if_neg (by decide), if_neg (by decide), if_neg (by decide), if_pos (by decide)]
  by_cases hc : isCont c = true
  · rw [if_pos ⟨by decide, by decide, hc⟩, if_pos hc]; rfl
  · rw [if_neg (fun h => hc h.2.2), if_neg hc]

theorem dr_c2 (c : UInt8) (r : List UInt8) : decodeRune (194 :: c :: r) =
    if isCont c then (Int.ofNat (0x80 + c.toNat % 64), 2) else (0xFFFD, 1) := rfl

theorem e2_space (c : UInt8) (r : List UInt8)
    (h : (0x80 ≤ c.toNat ∧ c.toNat ≤ 0x8A) ∨ c = 0xA8 ∨ c = 0xA9 ∨ c = 0xAF) :
    unicode_IsSpace (decodeRune (226 :: 128 :: c :: r)).1 = true ∧ (decodeRune (226 :: 128 :: c :: r)).2 = 3 := by
  rcases h with h | rfl | rfl | rfl
  · rw [dr_e2, if_pos ((isCont_iff c).mpr (by omega))]
    exact ⟨(isSpace_nat _).mpr (.inr (.inr (.inr (.inl (.inl (by omega)))))), rfl⟩
  · exact ⟨rfl, rfl⟩
  · exact ⟨rfl, rfl⟩
  · exact ⟨rfl, rfl⟩

theorem e2_only (c : UInt8) (r : List UInt8) (h : unicode_IsSpace (decodeRune (226 :: 128 :: c :: r)).1 = true) :
    (0x80 ≤ c.toNat ∧ c.toNat ≤ 0x8A) ∨ c = 0xA8 ∨ c = 0xA9 ∨ c = 0xAF := by
  rw [dr_e2] at h
  have ⟨hc, hs⟩ := ite_fst_space h
  rw [isCont_iff] at hc
  rcases spN_3 hs (by omega) with h | (h | h | h | h) | h | h
  · exfalso; omega
  · exact .inl (by omega)
  · exact .inr (.inl (u8 (k := 0xA8) (by omega)))
  · exact .inr (.inr (.inl (u8 (k := 0xA9) (by omega))))
  · exact .inr (.inr (.inr (u8 (k := 0xAF) (by omega))))
  · exfalso; omega
  · exfalso; omega

theorem c2_space (c : UInt8) (r : List UInt8) (h : c = 0x85 ∨ c = 0xA0) :
    unicode_IsSpace (decodeRune (194 :: c :: r)).1 = true ∧ (decodeRune (194 :: c :: r)).2 = 2 := by
  rcases h with rfl | rfl <;> exact ⟨rfl, rfl⟩

theorem c2_only (c : UInt8) (r : List UInt8) (h : unicode_IsSpace (decodeRune (194 :: c :: r)).1 = true) :
    c = 0x85 ∨ c = 0xA0 := by
  rw [dr_c2] at h
  have ⟨hc, hs⟩ := ite_fst_space h
  rw [isCont_iff] at hc
  rcases spN_2 hs (by omega) (by omega) with h | h
  · exact .inl (u8 (k := 0x85) (by omega))
  · exact .inr (u8 (k := 0xA0) (by omega))

theorem ascii_space (c : UInt8) (r : List UInt8) (h : c = 9 ∨ c = 10 ∨ c = 11 ∨ c = 12 ∨ c = 13 ∨ c = 32) :
    unicode_IsSpace (decodeRune (c :: r)).1 = true ∧ (decodeRune (c :: r)).2 = 1 := by
  rcases h with rfl | rfl | rfl | rfl | rfl | rfl <;> exact ⟨rfl, rfl⟩

theorem main (s : Bytes) : ∀ fuel off, s.length ≤ fuel →
    (runesFrom fuel off s).all F = Armor.allSpace s := by
  fun_induction Armor.allSpace s
  case case1 => intro fuel off _; cases fuel <;> rfl
  case case2 r ih => exact fun _ _ hl => all_cons (w := 2) hl rfl rfl ih
  case case3 c r hc ih => exact fun _ _ hl => all_cons (w := 2) hl (e2_space c r hc).1 (e2_space c r hc).2 ih
  case case4 c r hc => exact fun _ _ hl => all_cons_false hl (mt (e2_only c r) hc)
  case case5 r ih => exact fun _ _ hl => all_cons (w := 2) hl rfl rfl ih
  case case6 r ih => exact fun _ _ hl => all_cons (w := 2) hl rfl rfl ih
  case case7 c r hc ih => exact fun _ _ hl => all_cons (w := 1) hl (c2_space c r hc).1 (c2_space c r hc).2 ih
  case case8 c r hc => exact fun _ _ hl => all_cons_false hl (mt (c2_only c r) hc)
  case case9 c r _ _ _ _ _ hc ih =>
    exact fun _ _ hl => all_cons (w := 0) hl (ascii_space c r hc).1 (ascii_space c r hc).2 ih
  case case10 c r x1 x2 x3 x4 x5 hc =>
    refine fun _ _ hl => all_cons_false hl fun h => ?_
    rcases shape c r h with h | ⟨h, b, r1, hr⟩ | ⟨h, r1, hr⟩ | ⟨h, b, r1, hr⟩ | ⟨h, r1, hr⟩ | ⟨h, r1, hr⟩
    · exact hc h
    · exact x5 b r1 h hr
    · exact x1 r1 h hr
    · exact x2 b r1 h hr
    · exact x3 r1 h hr
    · exact x4 r1 h hr

end ArmorSpace

/-- `len(bytes.TrimSpace(b)) == 0` as the model has it -/
theorem allSpace_eq (b : Bytes) : Go.bytes_allSpace b = Armor.allSpace b :=
  ArmorSpace.main b b.length 0 (Nat.le_refl _)

end GoTie
end AgeModel
