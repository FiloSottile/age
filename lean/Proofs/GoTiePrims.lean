/-
  Proofs.GoTiePrims — the two key derivations of primitives.go, as they stand in the source.

  `age.headerMAC` and `age.streamKey` are TRANSLATED on every run; HKDF-SHA256 (`hkdf.New` and the
  `io.ReadFull` from it), HMAC-SHA256 (`hmac.New`, writing to it, `Sum`) and
  `(*Header).MarshalWithoutMAC` are PARAMETERS with stated assumptions (`MacEnv`). The theorems:
  the header MAC the source computes is HMAC, keyed with HKDF(file key, NO salt, "header"), of the
  header serialised without its MAC; the payload key is HKDF(file key, salt = the 16-byte nonce,
  "payload"); `streamKey` does not reach its panic.
-/
import AgeModel.GoSem
import AgeModel.File
import AgeModel.Extracted.Funcs
import Proofs.GoTieLines
import Proofs.GoBuf
namespace AgeModel
namespace GoTie
open Extracted

/-- what is assumed of the HKDF and HMAC objects and of `MarshalWithoutMAC`;
    `κ` is the HKDF reader, `η` the running HMAC -/
structure MacEnv (P : Prims) (κ η : Type) where
  H : Bytes → Bytes → Bytes → Go.M κ
  R : κ → Int → Go.M (Bytes × Option Go.Err × κ)
  hHR : ∀ s salt info, ∃ k k', H s salt info = .ok k ∧ R k 32 = .ok (P.hkdf s salt info 32, none, k')
  hLen : ∀ s salt info, (P.hkdf s salt info 32).length = 32
  /-- the running HMAC: its key and the bytes written so far -/
  absH : η → Bytes × Bytes
  N : Bytes → Go.M η
  hN : ∀ key, ∃ h, N key = .ok h ∧ absH h = (key, [])
  M : format_Header → η → Go.M (Option Go.Err × η)
  /-- writing to a hash never fails: the header without its MAC is appended -/
  hM : ∀ (hdr : Format.Header) (h : η), ∃ h', M ⟨hdr.stanzas.map toGoFStanza, hdr.mac⟩ h = .ok (none, h') ∧
        absH h' = ((absH h).1, (absH h).2 ++ Format.marshalNoMAC hdr)
  S : η → Bytes → Go.M Bytes
  hS : ∀ h, S h [] = .ok (P.hmac (absH h).1 (absH h).2)

theorem headerMAC_tie (P : Prims) {κ η : Type} (E : MacEnv P κ η) (fk : Bytes) (hdr : Format.Header) :
    age_headerMAC E.H E.R E.N E.M E.S fk ⟨hdr.stanzas.map toGoFStanza, hdr.mac⟩ =
      .ok (P.hmac (P.hkdf fk [] headerInfo 32) (Format.marshalNoMAC hdr), none) := by
  obtain ⟨k, k', hH, hR⟩ := E.hHR fk [] headerInfo
  obtain ⟨h0, hN, hA0⟩ := E.hN (P.hkdf fk [] headerInfo 32)
  obtain ⟨h1, hM, hA1⟩ := E.hM hdr h0
  have hlen : Go.len (List.replicate 32 (0 : UInt8)) = (32 : Int) := Go.len_make32
  have hH' : E.H fk [] [104, 101, 97, 100, 101, 114] = .ok k := hH
  simp only [age_headerMAC, hH', Go.make32, hlen, hR, bind, Except.bind, pure, Except.pure, Go.writeAt_fresh 32 _ (E.hLen _ _ _), hN, hM, E.hS, hA1, hA0]
  rfl

theorem streamKey_tie (P : Prims) {κ η : Type} (E : MacEnv P κ η) (fk nonce : Bytes) :
    age_streamKey E.H E.R fk nonce = .ok (streamKey P fk nonce) := by
  obtain ⟨k, k', hH, hR⟩ := E.hHR fk nonce payloadInfo
  have hlen : Go.len (List.replicate 32 (0 : UInt8)) = (32 : Int) := Go.len_make32
  have hH' : E.H fk nonce [112, 97, 121, 108, 111, 97, 100] = .ok k := hH
  simp only [age_streamKey, hH', Go.make32, hlen, hR, bind, Except.bind, pure, Except.pure, Go.writeAt_fresh 32 _ (E.hLen _ _ _)]
  rfl

end GoTie
end AgeModel
