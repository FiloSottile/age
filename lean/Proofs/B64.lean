/-
  Proofs.B64 — strict base64: both directions of the round trip, lengths,
  concatenation at 3-byte boundaries, alphabet facts.

  The round trips are proved for one quantum (at most 3 bytes, at most 4 characters) and lifted through the
  recursion on quanta; `Proofs.B64Std` reuses the quantum lemmas for the padded encoding.
-/
import AgeModel.B64
namespace AgeModel
namespace B64

theorem unalphaN_alphaN : ∀ n, n < 64 → unalphaN (alphaN n) = some n := by decide +kernel

theorem alphaN_lt : ∀ n, n < 64 → alphaN n < 256 := by decide +kernel

theorem alphaN_unalphaN : ∀ c, c < 256 → ∀ n ∈ unalphaN c, alphaN n = c ∧ n < 64 := by decide +kernel

theorem toNat_lt_256 (a : UInt8) : a.toNat < 256 := by have := a.toNat_lt; omega

theorem toUInt8_toNat (n : Nat) (h : n < 256) : n.toUInt8.toNat = n := by
  simp [Nat.toUInt8, UInt8.ofNat, UInt8.toNat]; omega

theorem toUInt8_eq (a : UInt8) (n : Nat) (h : n = a.toNat) : n.toUInt8 = a := by
  subst h; simp

theorem mod64_lt (n : Nat) : n % 64 < 64 := Nat.mod_lt _ (by decide)

theorem mod256_lt (n : Nat) : n % 256 < 256 := Nat.mod_lt _ (by decide)

theorem toNat_toUInt8 (a : UInt8) : a.toNat.toUInt8 = a := toUInt8_eq a _ rfl

theorem unalpha_alpha (n : Nat) (h : n < 64) : unalpha (alpha n) = some n := by
  unfold unalpha alpha
  rw [toUInt8_toNat _ (alphaN_lt n h)]
  exact unalphaN_alphaN n h

theorem unalpha_alpha_mod (n : Nat) : unalpha (alpha (n % 64)) = some (n % 64) := unalpha_alpha _ (mod64_lt n)

theorem unalpha_eq_some {c : UInt8} {n : Nat} : unalpha c = some n ↔ alpha n = c ∧ n < 64 := by
  refine ⟨fun h => ?_, fun ⟨e, h⟩ => e ▸ unalpha_alpha n h⟩
  have := alphaN_unalphaN c.toNat (toNat_lt_256 c) n h
  exact ⟨toUInt8_eq c _ this.1, this.2⟩

theorem alphaN_range : ∀ n, n < 64 →
    (65 ≤ alphaN n ∧ alphaN n ≤ 90) ∨ (97 ≤ alphaN n ∧ alphaN n ≤ 122) ∨ (47 ≤ alphaN n ∧ alphaN n ≤ 57) ∨ alphaN n = 43 := by
  decide +kernel

theorem alpha_ne (n : Nat) (h : n < 64) (c : UInt8) (hc : c ∈ ([10, 13, 32, 61, 45] : List UInt8)) : alpha n ≠ c := by
  rintro rfl
  have h1 : (alpha n).toNat = alphaN n := by unfold alpha; exact toUInt8_toNat _ (alphaN_lt n h)
  have h2 : (alpha n).toNat ∈ [10, 13, 32, 61, 45] := List.mem_map_of_mem (f := UInt8.toNat) hc
  rw [h1] at h2
  have := alphaN_range n h
  simp only [List.mem_cons, List.not_mem_nil, or_false] at h2
  omega

/-! Octets against sextets: one lemma for each shape of quantum and each direction; `n` is the quantum as a number. -/

theorem digits3 (B n : Nat) : n / (B * B) * (B * B) + n / B % B * B + n % B = n := by
  rw [← Nat.div_div_eq_div_mul, ← Nat.mul_assoc, ← Nat.add_mul, Nat.div_add_mod', Nat.div_add_mod']

theorem digits4 (B n : Nat) :
    n / (B * B * B) * (B * B * B) + n / (B * B) % B * (B * B) + n / B % B * B + n % B = n := by
  -- the upper three digits are the digits of `n / B`
  rw [Nat.mul_assoc B B B, ← Nat.div_div_eq_div_mul n B (B * B), ← Nat.div_div_eq_div_mul n B B,
    ← Nat.mul_assoc B B B, ← Nat.mul_assoc _ (B * B) B, ← Nat.mul_assoc (n / B / B % B) B B, ← Nat.add_mul,
    ← Nat.add_mul, digits3, Nat.div_add_mod']

theorem sextets4 (n : Nat) : n / 262144 * 262144 + n / 4096 % 64 * 4096 + n / 64 % 64 * 64 + n % 64 = n :=
  digits4 64 n

theorem sextets3 (n : Nat) : n / 4096 * 4096 + n / 64 % 64 * 64 + n % 64 = n := digits3 64 n

theorem octets3 (n : Nat) : n / 65536 * 65536 + n / 256 % 256 * 256 + n % 256 = n := digits3 256 n

theorem of_octets3 {a b c n : Nat} (ha : a < 256) (hb : b < 256) (hc : c < 256) (hn : n = a * 65536 + b * 256 + c) :
    n / 262144 < 64 ∧ n / 65536 = a ∧ n / 256 % 256 = b ∧ n % 256 = c := by omega

theorem of_octets2 {a b n : Nat} (ha : a < 256) (hb : b < 256) (hn : n = a * 1024 + b * 4) :
    n / 4096 < 64 ∧ n % 4 = 0 ∧ n / 1024 = a ∧ n / 4 % 256 = b := by omega

theorem of_octets1 {a n : Nat} (ha : a < 256) (hn : n = a * 16) :
    n / 64 < 64 ∧ n % 16 = 0 ∧ n / 16 = a := by omega

theorem of_sextets4 {w x y z n : Nat} (hw : w < 64) (hx : x < 64) (hy : y < 64) (hz : z < 64)
    (hn : n = w * 262144 + x * 4096 + y * 64 + z) :
    n / 65536 < 256 ∧ n / 262144 = w ∧ n / 4096 % 64 = x ∧ n / 64 % 64 = y ∧ n % 64 = z := by omega

theorem of_sextets3 {w x y n : Nat} (hw : w < 64) (hx : x < 64) (hy : y < 64) (hn : n = w * 4096 + x * 64 + y)
    (h4 : n % 4 = 0) :
    n / 1024 < 256 ∧ n / 1024 * 1024 + n / 4 % 256 * 4 = n ∧ n / 4096 = w ∧ n / 64 % 64 = x ∧ n % 64 = y := by
  omega

theorem of_sextets2 {w x n : Nat} (hw : w < 64) (hx : x < 64) (hn : n = w * 64 + x) (h16 : n % 16 = 0) :
    n / 16 < 256 ∧ n / 16 * 16 = n ∧ n / 64 = w ∧ n % 64 = x := by omega

theorem decRaw_encRaw3 (a b c : UInt8) : decRaw (encRaw [a, b, c]) = some [a, b, c] := by
  obtain ⟨h0, ha, hb, hc⟩ := of_octets3 (toNat_lt_256 a) (toNat_lt_256 b) (toNat_lt_256 c) rfl
  simp only [encRaw, decRaw, unalpha_alpha _ h0, unalpha_alpha_mod, Option.bind_eq_bind, Option.bind_some,
    Option.pure_def, sextets4, ha, hb, hc, toNat_toUInt8]

theorem decRaw_encRaw2 (a b : UInt8) : decRaw (encRaw [a, b]) = some [a, b] := by
  obtain ⟨h0, h4, ha, hb⟩ := of_octets2 (toNat_lt_256 a) (toNat_lt_256 b) rfl
  simp only [encRaw, decRaw]
  rw [unalpha_alpha _ h0, unalpha_alpha_mod, unalpha_alpha_mod]
  dsimp only [Option.bind_eq_bind, Option.bind_some, Option.pure_def]
  rw [sextets3, if_neg (Decidable.not_not.mpr h4), ha, hb, toNat_toUInt8, toNat_toUInt8]

theorem decRaw_encRaw1 (a : UInt8) : decRaw (encRaw [a]) = some [a] := by
  obtain ⟨h0, h16, ha⟩ := of_octets1 (toNat_lt_256 a) rfl
  simp only [encRaw, decRaw, unalpha_alpha _ h0, unalpha_alpha_mod, Option.bind_eq_bind, Option.bind_some,
    Option.pure_def, Nat.div_add_mod', h16, ha, toNat_toUInt8, ne_eq, not_true_eq_false, if_false]

theorem encRaw_decRaw4 {w x y z : UInt8} {g : Bytes} (h : decRaw [w, x, y, z] = some g) :
    ∃ a b c, g = [a, b, c] ∧ [w, x, y, z] = encRaw [a, b, c] := by
  simp only [decRaw, Option.bind_eq_bind, Option.pure_def, Option.bind_eq_some_iff, Option.some.injEq,
    unalpha_eq_some] at h
  obtain ⟨wv, ⟨rfl, lw⟩, xv, ⟨rfl, lx⟩, yv, ⟨rfl, ly⟩, zv, ⟨rfl, lz⟩, _, rfl, rfl⟩ := h
  obtain ⟨h0, ew, ex, ey, ez⟩ := of_sextets4 lw lx ly lz rfl
  refine ⟨_, _, _, rfl, ?_⟩
  simp only [encRaw]
  rw [toUInt8_toNat _ h0, toUInt8_toNat _ (mod256_lt _), toUInt8_toNat _ (mod256_lt _), octets3, ew, ex, ey, ez]

theorem encRaw_decRaw3 {w x y : UInt8} {g : Bytes} (h : decRaw [w, x, y] = some g) :
    ∃ a b, g = [a, b] ∧ [w, x, y] = encRaw [a, b] := by
  simp only [decRaw, Option.bind_eq_bind, Option.pure_def, Option.bind_eq_some_iff, unalpha_eq_some] at h
  obtain ⟨wv, ⟨rfl, lw⟩, xv, ⟨rfl, lx⟩, yv, ⟨rfl, ly⟩, h⟩ := h
  split at h
  · cases h
  · rename_i h4
    cases h
    obtain ⟨h0, e, ew, ex, ey⟩ := of_sextets3 lw lx ly rfl (Decidable.not_not.mp h4)
    refine ⟨_, _, rfl, ?_⟩
    simp only [encRaw]
    rw [toUInt8_toNat _ h0, toUInt8_toNat _ (mod256_lt _), e, ew, ex, ey]

theorem encRaw_decRaw2 {w x : UInt8} {g : Bytes} (h : decRaw [w, x] = some g) :
    ∃ a, g = [a] ∧ [w, x] = encRaw [a] := by
  simp only [decRaw, Option.bind_eq_bind, Option.pure_def, Option.bind_eq_some_iff, unalpha_eq_some] at h
  obtain ⟨wv, ⟨rfl, lw⟩, xv, ⟨rfl, lx⟩, h⟩ := h
  split at h
  · cases h
  · rename_i h16
    cases h
    obtain ⟨h0, e, ew, ex⟩ := of_sextets2 lw lx rfl (Decidable.not_not.mp h16)
    refine ⟨_, rfl, ?_⟩
    simp only [encRaw]
    rw [toUInt8_toNat _ h0, e, ew, ex]

theorem decRaw_quad (w x y z : UInt8) (rest : Bytes) :
    decRaw (w :: x :: y :: z :: rest) = (decRaw [w, x, y, z]).bind fun g => (decRaw rest).map (g ++ ·) := by
  simp only [decRaw, Option.bind_eq_bind, Option.pure_def, Option.bind_assoc, Option.bind_some, Option.map_eq_bind,
    List.cons_append, List.nil_append, Function.comp_def]

theorem decRaw_append4 : ∀ (q rest : Bytes), q.length = 4 →
    decRaw (q ++ rest) = (decRaw q).bind fun g => (decRaw rest).map (g ++ ·)
  | [w, x, y, z], rest, _ => decRaw_quad w x y z rest

theorem encRaw_cons3 (a b c : UInt8) (rest : Bytes) : encRaw (a :: b :: c :: rest) = encRaw [a, b, c] ++ encRaw rest :=
  rfl

theorem decRaw_encRaw : ∀ b : Bytes, decRaw (encRaw b) = some b
  | a :: b :: c :: rest => by
    rw [encRaw_cons3, decRaw_append4 _ _ rfl, decRaw_encRaw3, decRaw_encRaw rest]
    rfl
  | [a, b] => decRaw_encRaw2 a b
  | [a] => decRaw_encRaw1 a
  | [] => rfl

theorem encRaw_decRaw : ∀ (s b : Bytes), decRaw s = some b → s = encRaw b
  | w :: x :: y :: z :: rest, b, h => by
    rw [decRaw_quad] at h
    simp only [Option.bind_eq_some_iff, Option.map_eq_some_iff] at h
    obtain ⟨g, hg, r, hr, rfl⟩ := h
    obtain ⟨a, b, c, rfl, e⟩ := encRaw_decRaw4 hg
    show [w, x, y, z] ++ rest = encRaw [a, b, c] ++ encRaw r
    rw [e, encRaw_decRaw rest r hr]
  | [w, x, y], b, h => by
    obtain ⟨_, _, rfl, e⟩ := encRaw_decRaw3 h
    exact e
  | [w, x], b, h => by
    obtain ⟨_, rfl, e⟩ := encRaw_decRaw2 h
    exact e
  | [_], b, h => by simp [decRaw] at h
  | [], b, h => by cases h; rfl

theorem encRaw_length : ∀ b : Bytes, (encRaw b).length = (b.length * 4 + 2) / 3
  | a :: b :: c :: rest => by
    simp only [encRaw, List.length_cons, encRaw_length rest]; omega
  | [a, b] => by simp [encRaw]
  | [a] => by simp [encRaw]
  | [] => by simp [encRaw]

theorem encRaw_append : ∀ (a b : Bytes), a.length % 3 = 0 → encRaw (a ++ b) = encRaw a ++ encRaw b
  | x :: y :: z :: rest, b, h => by
    simp only [List.cons_append, encRaw]
    rw [encRaw_append rest b (by simp only [List.length_cons] at h; omega)]
  | [x, y], b, h => by simp at h
  | [x], b, h => by simp at h
  | [], b, h => by simp [encRaw]

/-- every character of an encoding is an alphabet character, hence none of LF, CR, SP, `=`, `-` -/
theorem encRaw_chars : ∀ (b : Bytes) (c : UInt8), c ∈ encRaw b → ∃ n, n < 64 ∧ c = alpha n
  | a :: b :: d :: rest => by
    simp only [encRaw, List.forall_mem_cons]
    exact ⟨⟨_, (of_octets3 (toNat_lt_256 a) (toNat_lt_256 b) (toNat_lt_256 d) rfl).1, rfl⟩, ⟨_, mod64_lt _, rfl⟩, ⟨_, mod64_lt _, rfl⟩,
      ⟨_, mod64_lt _, rfl⟩, encRaw_chars rest⟩
  | [a, b] => by
    simp only [encRaw, List.forall_mem_cons]
    exact ⟨⟨_, (of_octets2 (toNat_lt_256 a) (toNat_lt_256 b) rfl).1, rfl⟩, ⟨_, mod64_lt _, rfl⟩, ⟨_, mod64_lt _, rfl⟩, nofun⟩
  | [a] => by
    simp only [encRaw, List.forall_mem_cons]
    exact ⟨⟨_, (of_octets1 (toNat_lt_256 a) rfl).1, rfl⟩, ⟨_, mod64_lt _, rfl⟩, nofun⟩
  | [] => nofun

theorem encRaw_not_mem (b : Bytes) (c : UInt8) (hc : c ∈ ([10, 13, 32, 61, 45] : List UInt8)) : c ∉ encRaw b := by
  intro h
  obtain ⟨n, hn, he⟩ := encRaw_chars b c h
  exact alpha_ne n hn c hc he.symm

end B64
end AgeModel
