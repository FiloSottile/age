/-
  What `Hard` excludes, and generic lemmas about the read loop `Plugin.run` (any
  step function). "The client is listening after `pre`" means that its run over
  `pre` alone ends with the read error, `(run step s pre e).result = .error (.ended e)`:
  it read all of `pre` and asked for more.
-/
import AgeModel.Plugin
namespace AgeModel
namespace Plugin

variable {S α : Type} {step : S → Stanza → Step S α}

theorem Hard.not_ok {res : Except ClientErr α} (h : Hard res) (v : α) : res ≠ .ok v := by
  obtain ⟨err, rfl, _⟩ := h; intro h; cases h

theorem Hard.not_incorrect {res : Except ClientErr α} (h : Hard res) : res ≠ .error .incorrectIdentity := by
  obtain ⟨err, rfl, he⟩ := h; intro h; cases h; exact he

theorem Hard.not_noStanzas {res : Except ClientErr α} (h : Hard res) : res ≠ .error .noStanzas := by
  obtain ⟨err, rfl, he⟩ := h; intro h; cases h; exact he

theorem hard_protocol : Hard (.error .protocol : Except ClientErr α) := ⟨_, rfl, trivial⟩
theorem hard_ended (e : End) : Hard (.error (.ended e) : Except ClientErr α) := ⟨_, rfl, trivial⟩
theorem hard_pluginError (t : Bytes) : Hard (.error (.pluginError t) : Except ClientErr α) := ⟨_, rfl, trivial⟩

/-- a step never returns the "read failed" error itself -/
def NoEndHalt (step : S → Stanza → Step S α) : Prop :=
  ∀ s m rs res, step s m = .halt rs res → ∀ e, res ≠ .error (.ended e)

theorem run_nil (step : S → Stanza → Step S α) (s : S) (e : End) :
    run step s [] e = ⟨s, [], .error (.ended e)⟩ := rfl

theorem run_cons_next {s s' : S} {m : Stanza} {r : Stanza}
    (h : step s m = .next s' r) (rest : List Stanza) (e : End) :
    run step s (m :: rest) e =
      ⟨(run step s' rest e).state, r :: (run step s' rest e).replies, (run step s' rest e).result⟩ := by
  simp only [run, h]

theorem run_cons_halt {s : S} {m : Stanza} {rs : List Stanza}
    {res : Except ClientErr α} (h : step s m = .halt rs res) (rest : List Stanza) (e : End) :
    run step s (m :: rest) e = ⟨s, rs, res⟩ := by
  simp only [run, h]

theorem run_append_of_listening (hne : NoEndHalt step)
    (s : S) (pre : List Stanza) (e : End)
    (h : (run step s pre e).result = .error (.ended e)) (rest : List Stanza) (e' : End) :
    run step s (pre ++ rest) e' =
      ⟨(run step (run step s pre e).state rest e').state,
       (run step s pre e).replies ++ (run step (run step s pre e).state rest e').replies,
       (run step (run step s pre e).state rest e').result⟩ := by
  induction pre generalizing s with
  | nil => simp [run]
  | cons m pre ih =>
    cases hs : step s m with
    | next s' r =>
      rw [run_cons_next hs] at h
      simp only [List.cons_append, run_cons_next hs]
      rw [ih s' h]
    | halt rs res =>
      rw [run_cons_halt hs] at h
      exact absurd h (hne s m rs res hs e)

theorem listening_any_end {step : S → Stanza → Step S α} (hne : NoEndHalt step)
    (s : S) (pre : List Stanza) (e e' : End)
    (h : (run step s pre e).result = .error (.ended e)) :
    (run step s pre e').result = .error (.ended e') ∧
    (run step s pre e').state = (run step s pre e).state ∧
    (run step s pre e').replies = (run step s pre e).replies := by
  have := run_append_of_listening hne s pre e h [] e'
  simp only [List.append_nil, run_nil] at this
  rw [this]
  simp

theorem run_state_inv (P : S → Prop) (Q : Stanza → Prop)
    (hP : ∀ s m s' r, Q m → P s → step s m = .next s' r → P s')
    (s : S) (hs : P s) (msgs : List Stanza) (hall : ∀ m ∈ msgs, Q m) (e : End) :
    P (run step s msgs e).state := by
  induction msgs generalizing s with
  | nil => exact hs
  | cons m rest ih =>
    have hm := hall m List.mem_cons_self
    have hrest : ∀ x ∈ rest, Q x := fun x hx => hall x (List.mem_cons_of_mem _ hx)
    cases h : step s m with
    | next s' r => rw [run_cons_next h]; exact ih s' (hP s m s' r hm hs h) hrest
    | halt rs res => rw [run_cons_halt h]; exact hs

theorem run_all_next (Q : Stanza → Prop)
    (hQ : ∀ s m, Q m → ∃ s' r, step s m = .next s' r)
    (s : S) (msgs : List Stanza) (hall : ∀ m ∈ msgs, Q m) (e : End) :
    (run step s msgs e).result = .error (.ended e) ∧ (run step s msgs e).replies.length = msgs.length := by
  induction msgs generalizing s with
  | nil => exact ⟨rfl, rfl⟩
  | cons m rest ih =>
    obtain ⟨s', r, h⟩ := hQ s m (hall m List.mem_cons_self)
    rw [run_cons_next h]
    have := ih s' (fun x hx => hall x (List.mem_cons_of_mem _ hx))
    exact ⟨this.1, by simp [this.2]⟩

/-- If only an acknowledged `error` message makes the loop return the plugin's
    text, that text is returned only for an `error` message reached while
    listening, and the acknowledgement `ok` is the last thing written. -/
theorem run_pluginError
    (hH : ∀ s m rs res t, step s m = .halt rs res → res = .error (.pluginError t) →
      rs = [okS] ∧ m.type = "error" ∧ m.body = t)
    (s : S) (msgs : List Stanza) (e : End) (t : Bytes)
    (h : (run step s msgs e).result = .error (.pluginError t)) :
    ∃ pre m post, msgs = pre ++ m :: post ∧ m.type = "error" ∧ m.body = t ∧
      ∀ e₀, (run step s pre e₀).result = .error (.ended e₀) ∧
        (run step s msgs e).replies = (run step s pre e₀).replies ++ [okS] := by
  induction msgs generalizing s with
  | nil => simp [run] at h
  | cons m rest ih =>
    cases hs : step s m with
    | next s' r =>
      rw [run_cons_next hs] at h ⊢
      obtain ⟨pre, x, post, hsplit, hxt, hxb, hl⟩ := ih s' h
      refine ⟨m :: pre, x, post, by rw [hsplit]; rfl, hxt, hxb, fun e₀ => ?_⟩
      rw [run_cons_next hs]
      exact ⟨(hl e₀).1, by simp only [(hl e₀).2, List.cons_append]⟩
    | halt rs res =>
      rw [run_cons_halt hs] at h ⊢
      obtain ⟨hrs, hty, hb⟩ := hH s m rs res t hs h
      exact ⟨[], m, rest, rfl, hty, hb, fun e₀ => ⟨rfl, by simp [hrs, run_nil]⟩⟩

theorem run_hard {Q : Stanza → Prop}
    (hQ : ∀ s m rs res, Q m → step s m = .halt rs res → Hard res)
    (s : S) (msgs : List Stanza) (e : End) (hall : ∀ m ∈ msgs, Q m) :
    Hard (run step s msgs e).result := by
  induction msgs generalizing s with
  | nil => exact hard_ended e
  | cons m rest ih =>
    have hm := hall m List.mem_cons_self
    have hrest : ∀ x ∈ rest, Q x := fun x hx => hall x (List.mem_cons_of_mem _ hx)
    cases h : step s m with
    | next s' r => rw [run_cons_next h]; exact ih s' hrest
    | halt rs res => rw [run_cons_halt h]; exact hQ s m rs res hm h

theorem run_append_of_halted (s : S) (pre : List Stanza) (e : End)
    (h : (run step s pre e).result ≠ .error (.ended e)) (rest : List Stanza) (e' : End) :
    run step s (pre ++ rest) e' = run step s pre e := by
  induction pre generalizing s with
  | nil => exact absurd rfl h
  | cons m pre ih =>
    cases hs : step s m with
    | next s' r =>
      rw [run_cons_next hs] at h
      rw [List.cons_append, run_cons_next hs, run_cons_next hs, ih s' h]
    | halt rs res => rw [List.cons_append, run_cons_halt hs, run_cons_halt hs]

theorem run_halt_when_listening (hne : NoEndHalt step)
    (s : S) (pre : List Stanza) (e : End) (h : (run step s pre e).result = .error (.ended e))
    (m : Stanza) (post : List Stanza) (e' : End) (rs : List Stanza) (res : Except ClientErr α)
    (hm : step (run step s pre e).state m = .halt rs res) :
    (run step s (pre ++ m :: post) e').result = res ∧
    (run step s (pre ++ m :: post) e').replies = (run step s pre e).replies ++ rs ∧
    (run step s (pre ++ m :: post) e').state = (run step s pre e).state := by
  rw [run_append_of_listening hne s pre e h, run_cons_halt hm]
  exact ⟨rfl, rfl, rfl⟩

theorem run_halt_silent (hne : NoEndHalt step)
    (s : S) (pre : List Stanza) (e : End) (h : (run step s pre e).result = .error (.ended e))
    (m : Stanza) (post : List Stanza) (e' : End) {res : Except ClientErr α}
    (hm : step (run step s pre e).state m = .halt [] res) :
    (run step s (pre ++ m :: post) e').result = res ∧
    (run step s (pre ++ m :: post) e').replies = (run step s pre e).replies :=
  have h := run_halt_when_listening hne s pre e h m post e' [] res hm
  ⟨h.1, h.2.1.trans (List.append_nil _)⟩

theorem run_next_when_listening (hne : NoEndHalt step)
    (s : S) (pre : List Stanza) (e : End) (h : (run step s pre e).result = .error (.ended e))
    (m : Stanza) (e' : End) (s' : S) (r : Stanza)
    (hm : step (run step s pre e).state m = .next s' r) :
    (run step s (pre ++ [m]) e').result = .error (.ended e') ∧
    (run step s (pre ++ [m]) e').replies = (run step s pre e).replies ++ [r] ∧
    (run step s (pre ++ [m]) e').state = s' := by
  rw [run_append_of_listening hne s pre e h, run_cons_next hm, run_nil]
  exact ⟨rfl, rfl, rfl⟩

/-- A message that, whenever it is reached, makes the loop return the hard error `res`,
    nothing written: (a) after a prefix whose messages can only return hard errors
    the result is a hard error; (b) when the client is listening after the prefix,
    the result is `res` and nothing more is written. -/
theorem run_halt_at (hne : NoEndHalt step)
    {Q : Stanza → Prop} (hQ : ∀ s m rs res, Q m → step s m = .halt rs res → Hard res)
    (s : S) (pre : List Stanza) (m : Stanza) (post : List Stanza) (e : End)
    {res : Except ClientErr α} (hres : Hard res)
    (hm : ∀ e₀, (run step s pre e₀).result = .error (.ended e₀) → step (run step s pre e₀).state m = .halt [] res) :
    ((∀ x ∈ pre, Q x) → Hard (run step s (pre ++ m :: post) e).result) ∧
    (∀ e₀, (run step s pre e₀).result = .error (.ended e₀) →
      (run step s (pre ++ m :: post) e).result = res ∧
      (run step s (pre ++ m :: post) e).replies = (run step s pre e₀).replies) := by
  have hb := fun e₀ hl => run_halt_silent hne s pre e₀ hl m post e (hm e₀ hl)
  refine ⟨fun hpre => ?_, hb⟩
  by_cases hl : (run step s pre e).result = .error (.ended e)
  · rw [(hb e hl).1]; exact hres
  · rw [run_append_of_halted s pre e hl]; exact run_hard hQ s pre e hpre

theorem run_state_after (hne : NoEndHalt step)
    {P : S → Prop} (hP : ∀ s m s' r, P s → step s m = .next s' r → P s')
    (s : S) (pre : List Stanza) (m1 : Stanza) (mid : List Stanza) (e : End)
    (hm1 : ∀ sx s' r, step sx m1 = .next s' r → P s')
    (hl : (run step s (pre ++ m1 :: mid) e).result = .error (.ended e)) :
    P (run step s (pre ++ m1 :: mid) e).state := by
  by_cases hp : (run step s pre e).result = .error (.ended e)
  · rw [run_append_of_listening hne s pre e hp] at hl ⊢
    cases h1 : step (run step s pre e).state m1 with
    | next s1 r1 =>
      rw [run_cons_next h1]
      exact run_state_inv P (fun _ => True) (fun s m s' r _ => hP s m s' r) s1 (hm1 _ s1 r1 h1) mid
        (fun _ _ => trivial) e
    | halt rs res =>
      rw [run_cons_halt h1] at hl
      exact absurd hl (hne _ m1 rs res h1 e)
  · rw [run_append_of_halted s pre e hp] at hl
    exact absurd hl hp

/-- The "repeated message" pattern: once `m1` has been accepted the invariant
    `P` holds for good, and under `P` the message `m2` makes the loop return the
    hard error `res`, nothing written. -/
theorem run_second_message (hne : NoEndHalt step)
    {P : S → Prop} (hP : ∀ s m s' r, P s → step s m = .next s' r → P s')
    {Q : Stanza → Prop} (hQ : ∀ s m rs res, Q m → step s m = .halt rs res → Hard res)
    (s : S) (pre : List Stanza) (m1 : Stanza) (mid : List Stanza) (m2 : Stanza) (post : List Stanza) (e : End)
    (hm1 : ∀ sx s' r, step sx m1 = .next s' r → P s') (hq1 : Q m1)
    {res : Except ClientErr α} (hres : Hard res) (hm2 : ∀ sx, P sx → step sx m2 = .halt [] res) :
    ((∀ x ∈ pre, Q x) → (∀ x ∈ mid, Q x) → Hard (run step s (pre ++ m1 :: (mid ++ m2 :: post)) e).result) ∧
    (∀ e₀, (run step s (pre ++ m1 :: mid) e₀).result = .error (.ended e₀) →
      (run step s (pre ++ m1 :: (mid ++ m2 :: post)) e).result = res ∧
      (run step s (pre ++ m1 :: (mid ++ m2 :: post)) e).replies = (run step s (pre ++ m1 :: mid) e₀).replies) := by
  have h := run_halt_at hne hQ s (pre ++ m1 :: mid) m2 post e hres fun e₀ hl =>
    hm2 _ (run_state_after hne hP s pre m1 mid e₀ hm1 hl)
  rw [List.append_assoc, List.cons_append] at h
  refine ⟨fun hpre hmid => h.1 fun x hx => ?_, h.2⟩
  rw [List.mem_append, List.mem_cons] at hx
  rcases hx with hx | rfl | hx
  · exact hpre x hx
  · exact hq1
  · exact hmid x hx

/-- Deleting from the conversation messages that the step function answers
    with a fixed reply `u` without changing the state (while no other message
    is ever answered with `u`) deletes exactly the replies `u`. -/
theorem run_filter (keep : Stanza → Bool) (u : Stanza)
    (hskip : ∀ s m, keep m = false → step s m = .next s u)
    (hkeep : ∀ s m s' r, keep m = true → step s m = .next s' r → r ≠ u)
    (hhalt : ∀ s m rs res, step s m = .halt rs res → u ∉ rs)
    (s : S) (msgs : List Stanza) (e : End) :
    (run step s (msgs.filter keep) e).replies = (run step s msgs e).replies.filter (fun r => decide (r ≠ u)) ∧
    (run step s (msgs.filter keep) e).result = (run step s msgs e).result ∧
    (run step s (msgs.filter keep) e).state = (run step s msgs e).state := by
  induction msgs generalizing s with
  | nil => simp [run]
  | cons m rest ih =>
    cases hk : keep m with
    | false =>
      have hs := hskip s m hk
      rw [List.filter_cons_of_neg (by simp [hk]), run_cons_next hs]
      obtain ⟨h1, h2, h3⟩ := ih s
      refine ⟨?_, h2, h3⟩
      rw [h1]
      simp
    | true =>
      rw [List.filter_cons_of_pos (by simp [hk])]
      cases h : step s m with
      | next s' r =>
        rw [run_cons_next h, run_cons_next h]
        obtain ⟨h1, h2, h3⟩ := ih s'
        refine ⟨?_, h2, h3⟩
        have hr := hkeep s m s' r hk h
        simp only [h1]
        rw [List.filter_cons_of_pos (by simpa using hr)]
      | halt rs res =>
        rw [run_cons_halt h, run_cons_halt h]
        refine ⟨?_, rfl, rfl⟩
        have hu := hhalt s m rs res h
        simp only
        rw [List.filter_eq_self.mpr]
        intro a ha
        have : a ≠ u := fun hau => hu (hau ▸ ha)
        simpa using this

end Plugin
end AgeModel
