/-
  Proofs.GoTieUnwrap — `age.multiUnwrap` (age.go), TRANSLATED from the source on every run, is the
  model's `multiUnwrap`: stanzas answering "incorrect identity" are skipped, the first other answer
  decides, nothing left ⇒ exactly `ErrIncorrectIdentity`. With it, what the ties of the four identities
  share.
-/
import AgeModel.GoSem
import AgeModel.Recipients
import AgeModel.Extracted.Funcs
namespace AgeModel
namespace GoTie
open Extracted

def toGoStanza (s : Format.Stanza) : age_Stanza := ⟨s.type, s.args, s.body⟩

def fromGoStanza (s : age_Stanza) : Format.Stanza := ⟨s.Type_, s.Args, s.Body⟩

theorem fromGoStanza_toGoStanza (s : Format.Stanza) : fromGoStanza (toGoStanza s) = s := rfl

theorem map_fromGoStanza (ss : List Format.Stanza) : (ss.map toGoStanza).map fromGoStanza = ss := by
  induction ss with
  | nil => rfl
  | cons s ss ih => simp only [List.map_cons, ih, fromGoStanza_toGoStanza]

theorem toGoStanza_injective : ∀ a b, toGoStanza a = toGoStanza b → a = b := by
  intro a b h
  rw [← fromGoStanza_toGoStanza a, h, fromGoStanza_toGoStanza]

/-- what a Go `(fileKey, err)` pair means to `Decrypt`'s identity loop -/
def resClass (r : Bytes × Option Go.Err) : UnwrapResult :=
  if r.2 = none then .key r.1
  else if r.2 = age_ErrIncorrectIdentity then .incorrect
  else .fatal

theorem resClass_of_none {r : Bytes × Option Go.Err} (h : r.2 = none) : resClass r = .key r.1 := if_pos h

theorem resClass_of_incorrect {r : Bytes × Option Go.Err} (h : r.2 = age_ErrIncorrectIdentity) :
    resClass r = .incorrect := by
  rw [resClass, if_neg (by rw [h]; exact Option.some_ne_none _), if_pos h]

theorem resClass_of_fatal {r : Bytes × Option Go.Err} (h1 : r.2 ≠ none) (h2 : r.2 ≠ age_ErrIncorrectIdentity) :
    resClass r = .fatal := by
  rw [resClass, if_neg h1, if_neg h2]

/-- `errors.Is` on error values that wrap nothing is equality -/
def errorsIsEq (e t : Option Go.Err) : Go.M Bool := .ok (e == t)

/-- how `multiUnwrap` reads one answer of the per-stanza function -/
def stanzaClass (u : age_Stanza → Go.M (Bytes × Option Go.Err)) (s : age_Stanza) : UnwrapResult :=
  match u s with
  | .ok r => resClass r
  | .error _ => .fatal

theorem multiUnwrap_loop (u : age_Stanza → Go.M (Bytes × Option Go.Err)) (hU : ∀ s, ∃ r, u s = .ok r)
    (ss : List Format.Stanza) :
    ∃ l, age_multiUnwrap_loop1 errorsIsEq u (ss.map toGoStanza) = .ok l ∧
      match l with
      | .next _ => multiUnwrap (fun s => stanzaClass u (toGoStanza s)) ss = .incorrect
      | .ret r => resClass r = multiUnwrap (fun s => stanzaClass u (toGoStanza s)) ss := by
  induction ss with
  | nil => exact ⟨.next (), rfl, rfl⟩
  | cons s ss ih =>
    obtain ⟨r, hr⟩ := hU (toGoStanza s)
    obtain ⟨l, hl, hl'⟩ := ih
    simp only [List.map_cons, age_multiUnwrap_loop1, hr, errorsIsEq, bind, Except.bind, pure, Except.pure,
      multiUnwrap, stanzaClass]
    by_cases h1 : r.2 = age_ErrIncorrectIdentity
    · simp only [h1, beq_self_eq_true, ↓reduceIte, hl, resClass_of_incorrect h1]
      exact ⟨l, rfl, hl'⟩
    · have hb : (r.2 == age_ErrIncorrectIdentity) = false := beq_eq_false_iff_ne.mpr h1
      simp only [hb, Bool.false_eq_true, ↓reduceIte]
      by_cases h2 : r.2 = none
      · simp only [h2, bne_self_eq_false, Bool.false_eq_true, ↓reduceIte, resClass_of_none h2]
        exact ⟨_, rfl, rfl⟩
      · have hb2 : (r.2 != none) = true := bne_iff_ne.mpr h2
        simp only [hb2, ↓reduceIte, resClass_of_fatal h2 h1]
        exact ⟨_, rfl, resClass_of_fatal h2 h1⟩

theorem multiUnwrap_tie (u : age_Stanza → Go.M (Bytes × Option Go.Err)) (hU : ∀ s, ∃ r, u s = .ok r)
    (ss : List Format.Stanza) :
    ∃ r, age_multiUnwrap errorsIsEq u (ss.map toGoStanza) = .ok r ∧
      resClass r = multiUnwrap (fun s => stanzaClass u (toGoStanza s)) ss := by
  obtain ⟨l, hl, hl'⟩ := multiUnwrap_loop u hU ss
  simp only [age_multiUnwrap, hl, bind, Except.bind, pure, Except.pure]
  cases l with
  | next x => cases x; exact ⟨_, rfl, (resClass_of_incorrect rfl).trans hl'.symm⟩
  | ret r => exact ⟨_, rfl, hl'⟩


/-- for `refine`, which matches the two `if`s without walking through the rest of the function -/
theorem tie_if_neg {c c' : Prop} [Decidable c] [Decidable c'] {A B : Go.M (Bytes × Option Go.Err)}
    {A' B' : UnwrapResult} (hc : ¬ c) (hc' : ¬ c') (h : ∃ r, B = .ok r ∧ resClass r = B') :
    ∃ r, (if c then A else B) = .ok r ∧ resClass r = if c' then A' else B' := by
  rw [if_neg hc, if_neg hc']
  exact h

theorem run_if_neg {α : Type} {c : Prop} [Decidable c] {A B : Go.M α} {Q : α → Prop} (hc : ¬ c)
    (h : ∃ r, B = .ok r ∧ Q r) : ∃ r, (if c then A else B) = .ok r ∧ Q r := by
  rw [if_neg hc]
  exact h

theorem resClass_incorrect : resClass ([], age_ErrIncorrectIdentity) = .incorrect := resClass_of_incorrect rfl

/-- the side condition by `simp`, which has a procedure for inequalities of string literals; `decide`
    on them is slow to check -/
theorem resClass_site {fn : String} (k : Nat) (h : fn ≠ "age.ErrIncorrectIdentity" := by simp) :
    resClass ([], some ⟨fn, k, []⟩) = .fatal :=
  resClass_of_fatal nofun fun e => h (congrArg Go.Err.fn (Option.some.inj e))

/-- the form the four identities' `Unwrap` ties use -/
theorem multiUnwrap_of_unwrap {u : age_Stanza → Go.M (Bytes × Option Go.Err)} {f : Format.Stanza → UnwrapResult}
    (h : ∀ s, ∃ r, u (toGoStanza s) = .ok r ∧ resClass r = f s) (ss : List Format.Stanza) :
    ∃ r, age_multiUnwrap errorsIsEq u (ss.map toGoStanza) = .ok r ∧ resClass r = multiUnwrap f ss := by
  have hU : ∀ s, ∃ r, u s = .ok r := fun s => (h ⟨s.Type_, s.Args, s.Body⟩).imp fun _ hr => hr.1
  obtain ⟨r, hr, hcl⟩ := multiUnwrap_tie u hU ss
  refine ⟨r, hr, hcl.trans (congrArg (multiUnwrap · ss) (funext fun s => ?_))⟩
  obtain ⟨r', hr', hc'⟩ := h s
  simp only [stanzaClass, hr', hc']

end GoTie
end AgeModel
