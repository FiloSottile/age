/-
  The 64-column line wrapper as it stands in the source: `(*WrappedBase64Encoder).writeWrapped` and
  `.LastLineIsEmpty` (internal/format/format.go), translated. The `bytes.Buffer` is its unread
  bytes, `Buffer.WriteTo` is `Go.buffer_WriteTo` (one `Write` of everything, none when empty), the
  destination is abstract state with an abstract `Write`. On an encoder whose buffer is empty (the
  invariant its own panic guards) the characters `p` reach the destination, in one write, as
  `wrapCols written p`, and `written` advances by `len(p)`; the function's own count is 0 and its
  error is the destination's. `wrapCols` is what the armor writer model (`Armor.AWriter.emit`) uses;
  started at a multiple of 64 it is `Format.wrap`, the body layout of header stanzas and of armor.
-/
import AgeModel.GoSem
import AgeModel.Armor
import AgeModel.Extracted.Funcs
import Proofs.ArmorWrite
import Proofs.GoBuf
namespace AgeModel
namespace GoTie
open Extracted

theorem wrap_tmod (n : Nat) : Int.tmod (n : Int) 64 = ((n % 64 : Nat) : Int) := rfl

theorem wrap_beq0 : ∀ (m : Nat), ((m : Int) == 0) = decide (m = 0)
  | 0 => rfl
  | m + 1 => by
    have h : ¬ (m + 1 = 0) := by omega
    simp only [h, decide_false]
    apply Bool.eq_false_iff.mpr
    intro hh; exact h (by have := eq_of_beq hh; omega)

/-- the loop body after `toWrite` is settled -/
theorem wrap_cont {δ ω : Type} (fuel : Nat) (enc : ω) (dst : δ) (n : Nat) (buf p : Bytes) (k : Nat) (hk : k ≤ p.length)
    (t : Int) (ht : t = Int.ofNat k) :
    (do let a ← Go.slice p 0 t
        let b ← Go.slice p (Go.len a) (Go.len p)
        if (((n : Int) + Go.len a).tmod 64 == 0) = true then
          format_WrappedBase64Encoder_writeWrapped_loop1 fuel ⟨enc, dst, (n : Int) + Go.len a, buf ++ a ++ [10]⟩ b
        else format_WrappedBase64Encoder_writeWrapped_loop1 fuel ⟨enc, dst, (n : Int) + Go.len a, buf ++ a⟩ b) =
    format_WrappedBase64Encoder_writeWrapped_loop1 fuel
      ⟨enc, dst, ((n + k : Nat) : Int), buf ++ p.take k ++ (if (n + k) % 64 = 0 then [10] else [])⟩ (p.drop k) := by
  have e3 : Go.len (p.take k) = (k : Int) := by
    simp only [Go.len, List.length_take, Int.ofNat_eq_natCast]; congr 1; omega
  have e6 : ((((n : Int) + (k : Int)).tmod 64) == 0) = decide ((n + k) % 64 = 0) := wrap_beq0 ((n + k) % 64)
  subst ht
  have hkl : (k : Int) ≤ Go.len p := Int.ofNat_le.mpr hk
  simp only [Go.slice_upto p k hk, Go.bind_ok, e3, Go.slice_tail p k (Int.natCast_nonneg k) hkl, Int.toNat_natCast, e6,
    decide_eq_true_eq]
  by_cases h : (n + k) % 64 = 0
  · rw [if_pos h, if_pos h]; rfl
  · rw [if_neg h, if_neg h, List.append_nil]; rfl

theorem wrap_step {δ ω : Type} (fuel : Nat) (enc : ω) (dst : δ) (n : Nat) (buf p : Bytes) (hp : p ≠ [])
    (k : Nat) (hk : k = min (64 - n % 64) p.length) :
    format_WrappedBase64Encoder_writeWrapped_loop1 (fuel + 1) ⟨enc, dst, (n : Int), buf⟩ p =
    format_WrappedBase64Encoder_writeWrapped_loop1 fuel
      ⟨enc, dst, ((n + k : Nat) : Int), buf ++ p.take k ++ (if (n + k) % 64 = 0 then [10] else [])⟩ (p.drop k) := by
  have hlen : 0 < p.length := List.length_pos_iff.mpr hp
  have hgt : decide (Go.len p > 0) = true := by
    apply decide_eq_true; simp only [Go.len, Int.ofNat_eq_natCast]; omega
  rw [format_WrappedBase64Encoder_writeWrapped_loop1]
  simp only [hgt, wrap_tmod, Bool.not_true, Bool.false_eq_true, if_false]
  -- `toWrite` is `k` on both branches
  by_cases hc : (64 : Int) - ((n % 64 : Nat) : Int) > Go.len p
  · rw [if_pos (decide_eq_true hc)]
    exact wrap_cont fuel enc dst n buf p k (by omega) _ (by simp only [Go.len, Int.ofNat_eq_natCast] at hc ⊢; omega)
  · rw [if_neg (by simpa using hc)]
    exact wrap_cont fuel enc dst n buf p k (by omega) _ (by simp only [Go.len, Int.ofNat_eq_natCast] at hc ⊢; omega)

theorem wrap_chunk (n : Nat) (c : Bytes) (hc : c ≠ []) (h : n % 64 + c.length ≤ 64) :
    (Armor.wrapCols n c).1 = c ++ (if (n + c.length) % 64 = 0 then [10] else []) := by
  have hlen : 0 < c.length := List.length_pos_iff.mpr hc
  by_cases h0 : n % 64 + c.length = 64
  · rw [if_pos (by omega)]
    exact Armor.wrapCols_fill c n hc h0
  · rw [if_neg (by omega), List.append_nil]
    exact Armor.wrapCols_short c n (by omega)

theorem wrap_loop {δ ω : Type} (enc : ω) (dst : δ) : ∀ (fuel : Nat) (p : Bytes) (n : Nat) (buf : Bytes),
    p.length < fuel →
    format_WrappedBase64Encoder_writeWrapped_loop1 fuel ⟨enc, dst, (n : Int), buf⟩ p =
      .ok (.next (⟨enc, dst, ((n + p.length : Nat) : Int), buf ++ (Armor.wrapCols n p).1⟩, []))
  | 0, _, _, _, h => absurd h (Nat.not_lt_zero _)
  | fuel + 1, p, n, buf, h => by
    by_cases hp : p = []
    · subst hp
      rw [format_WrappedBase64Encoder_writeWrapped_loop1]
      simp [Go.len, Armor.wrapCols]
      rfl
    · have hlen : 0 < p.length := List.length_pos_iff.mpr hp
      obtain ⟨k, hk, hk0, hkp, hk64⟩ : ∃ k, k = min (64 - n % 64) p.length ∧ 0 < k ∧ k ≤ p.length ∧ n % 64 + k ≤ 64 :=
        ⟨_, rfl, by omega⟩
      rw [wrap_step fuel enc dst n buf p hp k hk]
      clear hk -- from here on only the bounds on `k` matter, and `omega` is spared the `min`
      have hkl : (p.take k).length = k := by rw [List.length_take]; omega
      rw [wrap_loop enc dst fuel _ _ _ (by rw [List.length_drop]; omega)]
      have hsplit := Armor.wrapCols_append (p.take k) (p.drop k) n
      rw [List.take_append_drop, hkl,
        wrap_chunk n (p.take k) (by intro e; rw [e] at hkl; exact absurd hkl.symm (Nat.ne_of_gt hk0)) (by omega), hkl] at hsplit
      have e : n + k + (p.drop k).length = n + p.length := by rw [List.length_drop]; omega
      rw [e, hsplit]
      simp only [List.append_assoc]

theorem writeWrapped_tie {δ ω : Type} (write : δ → Bytes → Go.M (Int × Option Go.Err × δ))
    (w : format_WrappedBase64Encoder ω δ) (p : Bytes) (hbuf : w.buf = []) (hw : 0 ≤ w.written) :
    format_WrappedBase64Encoder_writeWrapped write w p = (do
      let t ← Go.buffer_WriteTo write (Armor.wrapCols w.written.toNat p).1 w.dst
      pure (0, t.2.1, { w with written := w.written + Int.ofNat p.length, buf := t.2.2.1, dst := t.2.2.2 })) := by
  obtain ⟨enc, dst, written, buf⟩ := w
  simp only at hbuf hw
  subst hbuf
  obtain ⟨n, rfl⟩ := Int.eq_ofNat_of_zero_le hw
  unfold format_WrappedBase64Encoder_writeWrapped
  have hl : (((([] : Bytes).length : Nat) : Int) != 0) = false := rfl
  simp only [Go.len, hl, List.nil_append, Bool.false_eq_true, if_false, Int.toNat_natCast, Int.ofNat_eq_natCast, wrap_loop enc dst _ p n [] (Nat.lt_succ_self _), Go.bind_ok, pure, Except.pure]
  cases Go.buffer_WriteTo write (Armor.wrapCols n p).fst dst with
  | error e => rfl
  | ok v =>
    obtain ⟨a, e, b, d⟩ := v
    cases e with
    | none => rfl
    | some e => rfl

/-- the explicit panic of `writeWrapped` is reached exactly when the buffer invariant is broken -/
theorem writeWrapped_panic {δ ω : Type} (write : δ → Bytes → Go.M (Int × Option Go.Err × δ))
    (w : format_WrappedBase64Encoder ω δ) (p : Bytes) (hbuf : w.buf ≠ []) :
    format_WrappedBase64Encoder_writeWrapped write w p = .error (.panic 0) := by
  unfold format_WrappedBase64Encoder_writeWrapped
  have hl : (Go.len w.buf != 0) = true := by
    cases h : w.buf with
    | nil => exact absurd h hbuf
    | cons x xs => rfl
  simp only [hl, if_true]
  rfl

theorem writeWrapped_fresh {δ ω : Type} (write : δ → Bytes → Go.M (Int × Option Go.Err × δ))
    (w : format_WrappedBase64Encoder ω δ) (p : Bytes) (hbuf : w.buf = []) (hw : 0 ≤ w.written)
    (h64 : w.written.toNat % 64 = 0) :
    format_WrappedBase64Encoder_writeWrapped write w p = (do
      let t ← Go.buffer_WriteTo write (Format.wrap p) w.dst
      pure (0, t.2.1, { w with written := w.written + Int.ofNat p.length, buf := t.2.2.1, dst := t.2.2.2 })) := by
  rw [writeWrapped_tie write w p hbuf hw, Armor.wrapCols_wrap p _ h64]

theorem lastLineIsEmpty_tie {δ ω : Type} (w : format_WrappedBase64Encoder ω δ) (hw : 0 ≤ w.written) :
    format_WrappedBase64Encoder_LastLineIsEmpty w = .ok (decide (w.written.toNat % 64 = 0)) := by
  obtain ⟨n, hn⟩ := Int.eq_ofNat_of_zero_le hw
  unfold format_WrappedBase64Encoder_LastLineIsEmpty
  rw [hn]
  show Except.ok _ = _
  congr 1
  simp only [Int.toNat_natCast, wrap_tmod]
  exact wrap_beq0 _

end GoTie
end AgeModel
