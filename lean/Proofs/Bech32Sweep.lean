/-
  Proofs.Bech32Sweep — the finite fact behind the Bech32 distance, by kernel
  computation (`decide +kernel`; no `native_decide`).

  `Lpow p x` is the syndrome of the single-symbol error x at distance p from the
  end.  `triple_ge`: for p ≤ 57, q, r < p and symbols y, z,
      32 ≤ Lpow p 1 ^^^ Lpow q y ^^^ Lpow r z.
  `Lpow 0 y = y` and `Lpow q 0 = 0`, so sums of fewer terms and sums that end in
  a symbol are among these.

  `sweep` takes the rows `Lpow p ·` in order.  The keys `c >>> 5` of the rows so
  far are kept in a Bloom filter (one `Nat` holding three bitsets: the keys
  modulo three primes), and each `(a ^^^ Lpow p 1) >>> 5`, `a` in an earlier
  row, must have one of its three bits clear.  Such a filter errs only towards
  "present", so nothing about the moduli is trusted: they were picked so that no
  probe finds all three bits set.

  The evaluator calls `Nat.xor`, `Nat.land`, … directly: the kernel computes
  these on numerals by GMP, while `^^^`, `&&&` would first unfold instances at
  each call.  Rows and filters are closed terms, so the kernel's cache of
  weak-head normal forms evaluates each once.
-/
import Proofs.Bech32Syndrome
namespace AgeModel
namespace Bech32

def setBit (S i : Nat) : Nat := Nat.lor S (Nat.shiftLeft 1 i)

def clear (S i : Nat) : Bool := Nat.beq (Nat.land S (Nat.shiftLeft 1 i)) 0

def slot1 (v : Nat) : Nat := Nat.mod v 16381
def slot2 (v : Nat) : Nat := Nat.add 16384 (Nat.mod v 65521)
def slot3 (v : Nat) : Nat := Nat.add 81920 (Nat.mod v 65519)

def mark (S v : Nat) : Nat := setBit (setBit (setBit S (slot1 v)) (slot2 v)) (slot3 v)

def fresh (S v : Nat) : Bool := clear S (slot1 v) || (clear S (slot2 v) || clear S (slot3 v))

def Marked (S v : Nat) : Prop :=
  S.testBit (slot1 v) = true ∧ S.testBit (slot2 v) = true ∧ S.testBit (slot3 v) = true

theorem testBit_setBit (S i j : Nat) : (setBit S i).testBit j = (S.testBit j || decide (i = j)) := by
  show (S ||| 1 <<< i).testBit j = _
  rw [Nat.testBit_or, Nat.one_shiftLeft, Nat.testBit_two_pow]

theorem not_clear {S i : Nat} (h : S.testBit i = true) : clear S i = false := by
  cases hc : clear S i with
  | false => rfl
  | true =>
    have h0 : S &&& 1 <<< i = 0 := Nat.eq_of_beq_eq_true hc
    have := Nat.testBit_and S (1 <<< i) i
    rw [h0, Nat.one_shiftLeft, Nat.testBit_two_pow_self, h, Nat.zero_testBit] at this
    cases this

theorem Marked.not_fresh {S v : Nat} (h : Marked S v) : fresh S v = false := by
  rw [fresh, not_clear h.1, not_clear h.2.1, not_clear h.2.2]
  rfl

theorem marked_mark (S v : Nat) : Marked (mark S v) v := by
  simp [Marked, mark, testBit_setBit]

theorem Marked.mono {S v : Nat} (h : Marked S v) (w : Nat) : Marked (mark S w) v := by
  simp [Marked, mark, testBit_setBit, h.1, h.2.1, h.2.2]

def markAll : List Nat → Nat → Nat
  | [], S => S
  | c :: cs, S => markAll cs (mark S (Nat.shiftRight c 5))

theorem marked_markAll : ∀ (cs : List Nat) {S v : Nat}, (Marked S v ∨ ∃ c ∈ cs, c >>> 5 = v) → Marked (markAll cs S) v
  | [], _, _, h => by
    rcases h with h | ⟨_, hc, _⟩
    · exact h
    · cases hc
  | c :: cs, S, _, h => by
    apply marked_markAll cs
    rcases h with h | ⟨c', hc', rfl⟩
    · exact .inl (h.mono _)
    · rcases List.mem_cons.mp hc' with rfl | hc'
      · exact .inl (marked_mark S _)
      · exact .inr ⟨c', hc', rfl⟩

/-- `as.all f` by the recursor: one ι-reduction per element in the kernel
    (`List.all` goes through `brecOn`).  No compiled code for a recursor, hence
    `noncomputable`, here and for `sweep`. -/
noncomputable def allR (f : Nat → Bool) (as : List Nat) : Bool :=
  List.rec true (fun a _ ih => f a && ih) as

theorem allR_eq_true {f : Nat → Bool} {as : List Nat} (h : allR f as = true) : ∀ a ∈ as, f a = true := by
  induction as with
  | nil => intro _ ha; cases ha
  | cons b as ih =>
    have h : (f b && allR f as) = true := h
    rw [Bool.and_eq_true] at h
    intro a ha
    rcases List.mem_cons.mp ha with rfl | ha
    · exact h.1
    · exact ih h.2 a ha

/-- `n` rows, starting with `row`, each the image under `L` of the one before.
    `below` holds the entries of the rows already seen and `S` marks their keys. -/
noncomputable def sweep (S : Nat) (below row : List Nat) : Nat → Bool
  | 0 => true
  | n + 1 =>
    match row with
    | _ :: b :: _ =>
      allR (fun a => fresh S (Nat.shiftRight (Nat.xor a b) 5)) below &&
        sweep (markAll row S) (row ++ below) (row.map L) n
    | _ => false

theorem sweep_true : sweep 0 [] ((List.range 32).map (Lpow 0)) 58 = true := by decide +kernel

theorem sweep_spec : ∀ (n p S : Nat) (below : List Nat),
    sweep S below ((List.range 32).map (Lpow p)) n = true →
    (∀ c ∈ below, Marked S (c >>> 5)) →
    (∀ q y, q < p → y < 32 → Lpow q y ∈ below) →
    ∀ p' q r y z, p ≤ p' → p' < p + n → q < p' → r < p' → y < 32 → z < 32 →
      (Lpow q y ^^^ Lpow p' 1) >>> 5 ≠ Lpow r z >>> 5
  | 0, _, _, _, _, _, _ => by omega
  | n + 1, p, S, below, h, hM, hB => by
    obtain ⟨rest, hrow⟩ : ∃ rest, (List.range 32).map (Lpow p) = Lpow p 0 :: Lpow p 1 :: rest := ⟨_, rfl⟩
    have hstep : ((List.range 32).map (Lpow p)).map L = (List.range 32).map (Lpow (p + 1)) := by
      rw [List.map_map]
      rfl
    rw [hrow, sweep, ← hrow, hstep, Bool.and_eq_true] at h
    intro p' q r y z hp hp' hq hr hy hz
    by_cases hpp : p' = p
    · -- the row that arrives now: `a ^^^ b` was probed, the key of `c` is marked
      subst hpp
      intro he
      have h1 : fresh S ((Lpow q y ^^^ Lpow p' 1) >>> 5) = true := allR_eq_true h.1 _ (hB q y hq hy)
      rw [he, (hM _ (hB r z hr hz)).not_fresh] at h1
      cases h1
    · -- a later row: the row joins `below`, its keys are marked
      refine sweep_spec n (p + 1) _ _ h.2 (fun c hc => marked_markAll _ ?_) (fun q y hq hy => ?_)
        p' q r y z (by omega) (by omega) hq hr hy hz
      · rcases List.mem_append.mp hc with hc | hc
        · exact .inr ⟨c, hc, rfl⟩
        · exact .inl (hM c hc)
      · by_cases hqp : q = p
        · subst hqp
          exact List.mem_append_left _ (List.mem_map.mpr ⟨y, List.mem_range.mpr hy, rfl⟩)
        · exact List.mem_append_right _ (hB q y (by omega) hy)

theorem triple_ge {p q r y z : Nat} (hp : p ≤ 57) (hq : q < p) (hr : r < p) (hy : y < 32) (hz : z < 32) :
    32 ≤ Lpow p 1 ^^^ Lpow q y ^^^ Lpow r z := by
  have := shift_ne_xor_ge (sweep_spec 58 0 0 [] sweep_true (fun _ h => by cases h) (fun _ _ h => by omega)
    p q r y z (Nat.zero_le p) (by omega) hq hr hy hz)
  rwa [Nat.xor_comm (Lpow q y)] at this

end Bech32
end AgeModel
