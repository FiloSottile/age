/-
  Proofs.GoTieWitnessB — the assumption structures of the "translated code = model" theorems about
  armor, header marshalling, the plugin client and the CLI's recipients file are SATISFIABLE: each is
  inhabited, so no theorem that assumes one of them is vacuous.
  The instances are in `GoTieWitnessArmor`, `GoTieWitnessMarshal`, `GoTieWitnessPlugin` and
  `GoTieWitnessRecFile`, which this module collects.
-/
import Proofs.GoTieWitnessArmor
import Proofs.GoTieWitnessMarshal
import Proofs.GoTieWitnessPlugin
import Proofs.GoTieWitnessRecFile
