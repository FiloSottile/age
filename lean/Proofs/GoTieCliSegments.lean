/-
  Proofs.GoTieCliSegments — "the copy loops are modelled as one write", proved for the model of
  `age` (AgeModel/Cli.lean), and with it the refinement of the translated `encrypt`.

  `io.Copy`, the STREAM writer and the armor writer issue many non-empty writes and stop at the
  first error; `Cli.execute` hands the whole ciphertext to the destination at once. `writeSegs` is
  the segment-by-segment writer; `writeSegs_flatten` shows that for EVERY destination of the model
  (standard output, the buffer used when standard output is a terminal, the lazily opened file) it
  leaves the process in a state that is observably the one the single write leaves — same files,
  same bytes on standard output, same opener state, same success. `cli_encrypt_refines`: with the
  four steps of the translated `encrypt` read as segment writers, it returns exactly when
  `Cli.execute` reaches `finish`, observably in the model's final state, and otherwise ends the
  process at the exit site of the first step whose write failed (and at no other fault), the model's
  result being observably the state that step's segment writer stopped in, with status 1.
-/
import Proofs.CliKeygen
import Proofs.GoTieCliEncrypt
namespace AgeModel
namespace GoTie
open Extracted Cli

/-- write the segments one after the other (never an empty write), stop at the first failure -/
def writeSegs (dest : Dest) : Proc → List Bytes → Proc × Bool
  | p, [] => (p, true)
  | p, s :: ss =>
    let r := p.writeNE dest s
    if r.2 then writeSegs dest r.1 ss else (r.1, false)

/-- what can be observed of a process state -/
structure ObsEq (p q : Proc) : Prop where
  get : ∀ u, p.w.get u = q.w.get u
  cwd : p.w.cwd = q.w.cwd
  fsize : p.w.fsize = q.w.fsize
  umask : p.w.umask = q.w.umask
  stdinTerminal : p.w.stdinTerminal = q.w.stdinTerminal
  stdout : p.w.stdout = q.w.stdout
  closeFails : p.w.closeFails = q.w.closeFails
  emitted : p.emitted = q.emitted
  buf : p.buf = q.buf
  lz : p.lz = q.lz

/-- what can be observed of the result of a run -/
structure ResObsEq (r s : Result) : Prop where
  exit : r.exit = s.exit
  stdout : r.stdout = s.stdout
  get : ∀ u, r.world.get u = s.world.get u

/-- the capacity invariants of every reachable state: what standard output has taken is within its capacity, an opened
    regular file is within the size limit -/
structure SegInv (p : Proc) : Prop where
  out : ∀ c, p.w.stdout = .limited (some c) → p.emitted.length ≤ c
  file : ∀ t c0 m L, p.lz = .opened t → p.w.get t = .file c0 m → p.w.fsize = some L → c0.length ≤ L


theorem ObsEq.refl (p : Proc) : ObsEq p p :=
  ⟨fun _ => rfl, rfl, rfl, rfl, rfl, rfl, rfl, rfl, rfl, rfl⟩

theorem ObsEq.symm {p q : Proc} (h : ObsEq p q) : ObsEq q p :=
  ⟨fun u => (h.get u).symm, h.cwd.symm, h.fsize.symm, h.umask.symm, h.stdinTerminal.symm, h.stdout.symm,
    h.closeFails.symm, h.emitted.symm, h.buf.symm, h.lz.symm⟩

theorem ObsEq.trans {p q r : Proc} (h : ObsEq p q) (k : ObsEq q r) : ObsEq p r :=
  ⟨fun u => (h.get u).trans (k.get u), h.cwd.trans k.cwd, h.fsize.trans k.fsize, h.umask.trans k.umask,
    h.stdinTerminal.trans k.stdinTerminal, h.stdout.trans k.stdout, h.closeFails.trans k.closeFails,
    h.emitted.trans k.emitted, h.buf.trans k.buf, h.lz.trans k.lz⟩

/-- the shape of the claim: after `r1 = write a`, if it succeeded the second write `r2` is the single write `r12`,
    else `r1` already is -/
def TwoAsOne (r1 r2 r12 : Proc × Bool) : Prop :=
  if r1.2 then ObsEq r2.1 r12.1 ∧ r2.2 = r12.2 else ObsEq r1.1 r12.1 ∧ r12.2 = false

theorem writeFile_two (p : Proc) (t : Path) (a b : Bytes) :
    TwoAsOne (p.writeFile t a) ((p.writeFile t a).1.writeFile t b) (p.writeFile t (a ++ b)) := by
  unfold TwoAsOne
  cases hg : p.w.get t with
  | file c m =>
    cases hok : (accept p.w.fsize c.length a).2 with
    | true =>
      have hl := accept_ok _ _ _ hok
      simp only [Proc.writeFile, hg, hok, hl, if_true, World.get_set_same, World.set_fsize,
        accept_append_ok _ _ _ _ hok, List.length_append]
      refine ⟨⟨?_, rfl, rfl, rfl, rfl, rfl, rfl, rfl, rfl, rfl⟩, trivial⟩
      intro u
      simp only [World.get_set, List.append_assoc]
      split <;> rfl
    | false =>
      simp only [Proc.writeFile, hg, hok, Bool.false_eq_true, if_false, accept_append_fail _ _ _ _ hok]
      exact ⟨ObsEq.refl _, trivial⟩
  | absent | dir | devFull =>
    simp only [Proc.writeFile, hg, Bool.false_eq_true, if_false]
    exact ⟨ObsEq.refl _, trivial⟩

theorem writeStdout_two (p : Proc) (a b : Bytes) :
    TwoAsOne (p.writeStdout a) ((p.writeStdout a).1.writeStdout b) (p.writeStdout (a ++ b)) := by
  unfold TwoAsOne
  rw [writeStdout_append]
  cases h : (p.writeStdout a).2
  · rw [if_neg Bool.false_ne_true, if_neg Bool.false_ne_true]
    exact ⟨ObsEq.refl _, h⟩
  · rw [if_pos rfl, if_pos rfl]
    exact ⟨ObsEq.refl _, rfl⟩

theorem write_two (dest : Dest) (p : Proc) (a b : Bytes) :
    TwoAsOne (p.write dest a) ((p.write dest a).1.write dest b) (p.write dest (a ++ b)) := by
  cases dest with
  | stdout => exact writeStdout_two p a b
  | buffered =>
    simp only [TwoAsOne, Proc.write, if_true, List.append_assoc]
    exact ⟨ObsEq.refl _, trivial⟩
  | lazy name =>
    cases hlz : p.lz with
    | failed =>
      simp only [TwoAsOne, Proc.write, hlz, Bool.false_eq_true, if_false]
      exact ⟨ObsEq.refl _, trivial⟩
    | opened t =>
      have h2 := writeFile_two p t a b
      have hl := writeFile_lz p t a
      rw [hlz] at hl
      simp only [Proc.write, hlz, hl]
      exact h2
    | unopened =>
      cases hc : create p.w name with
      | none =>
        simp only [TwoAsOne, Proc.write, hlz, hc, Bool.false_eq_true, if_false]
        exact ⟨ObsEq.refl _, trivial⟩
      | some wt =>
        obtain ⟨w', t⟩ := wt
        have h2 := writeFile_two ({ p with w := w', lz := .opened t } : Proc) t a b
        have hl := writeFile_lz ({ p with w := w', lz := .opened t } : Proc) t a
        simp only [Proc.write, hlz, hc, hl]
        exact h2

theorem writeNE_two (dest : Dest) (p : Proc) (a b : Bytes) :
    TwoAsOne (p.writeNE dest a) ((p.writeNE dest a).1.writeNE dest b) (p.writeNE dest (a ++ b)) := by
  by_cases ha : a = []
  · subst ha
    simp only [TwoAsOne, Proc.writeNE, if_true, List.nil_append]
    exact ⟨ObsEq.refl _, trivial⟩
  · by_cases hb : b = []
    · subst hb
      simp only [TwoAsOne, Proc.writeNE, ha, if_false, if_true, List.append_nil]
      split
      · rename_i h
        exact ⟨ObsEq.refl _, h.symm⟩
      · rename_i h
        exact ⟨ObsEq.refl _, by simpa using h⟩
    · have hab : a ++ b ≠ [] := by simp [ha]
      simp only [Proc.writeNE, ha, hb, hab, if_false]
      exact write_two dest p a b


theorem accept_len_le (c n : Nat) (d : Bytes) (hn : n ≤ c) : n + (accept (some c) n d).1.length ≤ c := by
  simp only [accept]
  split
  · assumption
  · simp only [List.length_take]; omega

theorem writeStdout_inv (p : Proc) (d : Bytes) (h : SegInv p) : SegInv (p.writeStdout d).1 := by
  cases hso : p.w.stdout with
  | terminal =>
    simp only [Proc.writeStdout, hso]
    exact ⟨fun c hc => by simp [hso] at hc, h.file⟩
  | devFull =>
    simp only [Proc.writeStdout, hso]
    exact h
  | limited cap =>
    simp only [Proc.writeStdout, hso]
    refine ⟨?_, h.file⟩
    intro c hc
    simp only [hso, Stdout.limited.injEq] at hc
    subst hc
    have := accept_len_le c p.emitted.length d (h.out c hso)
    simp only [List.length_append]
    exact this

theorem writeFile_inv (p : Proc) (t : Path) (d : Bytes) (h : SegInv p) (hl : p.lz = .opened t) :
    SegInv (p.writeFile t d).1 := by
  cases hg : p.w.get t with
  | file c m =>
    simp only [Proc.writeFile, hg]
    refine ⟨h.out, ?_⟩
    intro t' c0 m' L hl' hg' hf
    simp only [hl, Lazy.opened.injEq] at hl'
    subst hl'
    simp only [World.get_set_same, Node.file.injEq] at hg'
    simp only [World.set_fsize] at hf
    have hb := h.file t c m L hl hg hf
    rw [← hg'.1, hf, List.length_append]
    exact accept_len_le L c.length d hb
  | absent | dir | devFull =>
    simp only [Proc.writeFile, hg]
    exact h

theorem write_inv (dest : Dest) (p : Proc) (d : Bytes) (h : SegInv p) : SegInv (p.write dest d).1 := by
  cases dest with
  | stdout => exact writeStdout_inv p d h
  | buffered => exact ⟨h.out, h.file⟩
  | lazy name =>
    cases hlz : p.lz with
    | failed => simp only [Proc.write, hlz]; exact h
    | opened t => simp only [Proc.write, hlz]; exact writeFile_inv p t d h hlz
    | unopened =>
      cases hc : create p.w name with
      | none =>
        simp only [Proc.write, hlz, hc]
        exact ⟨h.out, fun t c0 m L hl => by simp at hl⟩
      | some wt =>
        obtain ⟨w', t⟩ := wt
        simp only [Proc.write, hlz, hc]
        apply writeFile_inv _ _ _ _ rfl
        obtain ⟨_, hcs⟩ := create_some _ _ _ _ hc
        have hso : w'.stdout = p.w.stdout := by
          rcases hcs with ⟨_, e⟩ | ⟨_, _, _, e⟩ | ⟨_, e⟩ <;> rw [e] <;> rfl
        refine ⟨fun c hc' => h.out c (by rw [← hso]; exact hc'), ?_⟩
        intro t' c0 m L hl' hg' hf
        simp only [Lazy.opened.injEq] at hl'
        subst hl'
        simp only at hg'
        rcases hcs with ⟨_, e⟩ | ⟨_, _, _, e⟩ | ⟨e1, e⟩
        · rw [e, World.get_set_same] at hg'
          simp only [Node.file.injEq] at hg'
          rw [← hg'.1]; exact Nat.zero_le _
        · rw [e, World.get_set_same] at hg'
          simp only [Node.file.injEq] at hg'
          rw [← hg'.1]; exact Nat.zero_le _
        · rw [e, e1] at hg'
          exact Node.noConfusion hg'

theorem writeNE_inv (dest : Dest) (p : Proc) (d : Bytes) (h : SegInv p) : SegInv (p.writeNE dest d).1 := by
  unfold Proc.writeNE
  split
  · exact h
  · exact write_inv dest p d h

theorem segInv_fresh (w : World) : SegInv ({ w := w } : Proc) := by
  refine ⟨fun c _ => Nat.zero_le _, ?_⟩
  intro t c0 m L hl
  exact Lazy.noConfusion hl

theorem writeSegs_append (dest : Dest) (a b : List Bytes) (p : Proc) :
    writeSegs dest p (a ++ b) =
      (let r := writeSegs dest p a
       if r.2 then writeSegs dest r.1 b else (r.1, false)) := by
  induction a generalizing p with
  | nil => simp only [List.nil_append, writeSegs, if_true]
  | cons s ss ih =>
    simp only [List.cons_append, writeSegs]
    by_cases hf : (p.writeNE dest s).2 = true
    · simp only [hf, if_true]; exact ih _
    · simp only [hf, if_false, Bool.false_eq_true]

theorem writeSegs_append_ok (dest : Dest) (a b : List Bytes) (p : Proc) (h : (writeSegs dest p a).2 = true) :
    writeSegs dest p (a ++ b) = writeSegs dest (writeSegs dest p a).1 b := by
  rw [writeSegs_append]
  exact if_pos h

theorem writeSegs_inv (dest : Dest) (segs : List Bytes) (p : Proc) (h : SegInv p) : SegInv (writeSegs dest p segs).1 := by
  induction segs generalizing p with
  | nil => exact h
  | cons s ss ih =>
    simp only [writeSegs]
    have h1 := writeNE_inv dest p s h
    cases hf : (p.writeNE dest s).2 with
    | true => simp only [if_true]; exact ih _ h1
    | false => simp only [Bool.false_eq_true, if_false]; exact h1

/-- segment by segment = at once, observably, for every destination -/
theorem writeSegs_flatten (dest : Dest) (segs : List Bytes) (p : Proc) (h : SegInv p) :
    ObsEq (writeSegs dest p segs).1 (p.writeNE dest segs.flatten).1 ∧
      (writeSegs dest p segs).2 = (p.writeNE dest segs.flatten).2 := by
  induction segs generalizing p with
  | nil => exact ⟨ObsEq.refl _, rfl⟩
  | cons s ss ih =>
    have h1 := writeNE_inv dest p s h
    have h2 := writeNE_two dest p s ss.flatten
    have h3 := ih (p.writeNE dest s).1 h1
    simp only [writeSegs, List.flatten_cons]
    unfold TwoAsOne at h2
    cases hf : (p.writeNE dest s).2 with
    | true =>
      simp only [hf, if_true] at h2 ⊢
      exact ⟨h3.1.trans h2.1, h3.2.trans h2.2⟩
    | false =>
      simp only [hf, Bool.false_eq_true, if_false] at h2 ⊢
      exact ⟨h2.1, h2.2.symm⟩


theorem writeStdout_obs (p q : Proc) (d : Bytes) (h : ObsEq p q) :
    ObsEq (p.writeStdout d).1 (q.writeStdout d).1 := by
  have hs := h.stdout
  have he := h.emitted
  cases hso : q.w.stdout with
  | devFull =>
    rw [hso] at hs
    simp only [Proc.writeStdout, hs, hso]
    exact h
  | terminal | limited cap =>
    rw [hso] at hs
    simp only [Proc.writeStdout, hs, hso, he]
    exact ⟨h.get, h.cwd, h.fsize, h.umask, h.stdinTerminal, h.stdout, h.closeFails, rfl, h.buf, h.lz⟩

theorem finish_obs (dest : Dest) (p q : Proc) (h : ObsEq p q) : ResObsEq (p.finish dest) (q.finish dest) := by
  cases dest with
  | stdout => exact ⟨rfl, h.emitted, h.get⟩
  | buffered =>
    simp only [Proc.finish, Proc.result]
    have hb := h.buf
    have := writeStdout_obs p q p.buf h
    rw [← hb]
    exact ⟨rfl, this.emitted, this.get⟩
  | lazy name =>
    have hl := h.lz
    have hc := h.closeFails
    cases hq : q.lz with
    | opened t =>
      rw [hq] at hl
      simp only [Proc.finish, hl, hq, Proc.result, hc]
      exact ⟨rfl, h.emitted, h.get⟩
    | failed | unopened =>
      rw [hq] at hl
      simp only [Proc.finish, hl, hq, Proc.result]
      exact ⟨rfl, h.emitted, h.get⟩

/-- a step of `encrypt` that writes the given segments to the destination; the error it reports -/
def segStep (eW : Go.Err) (dest : Dest) (segs : List Bytes) (p : Proc) : Option Go.Err × Proc :=
  let r := writeSegs dest p segs
  (if r.2 then none else some eW, r.1)

/-! The four steps of `encrypt` read in the model (`mNW`, `mEnc`, `mCp`, `mCl`). Handles: 0 the output, 1 the armor
writer, 2 the stream writer. `age.Encrypt` writes `s1` (header, nonce), `io.Copy` `s2` (full chunks), the stream writer's
`Close` `s3` (the last chunk), the armor writer's `Close` `s4` (what is left of the last line, the END line). -/

def mNW (_out : Nat) (p : Proc) : Go.M (Nat × Proc) := .ok (1, p)
def mEnc {ρ : Type} (eW : Go.Err) (dest : Dest) (s1 : List Bytes) (_dst : Nat) (_recs : List ρ) (p : Proc) : Go.M (Nat × Option Go.Err × Proc) :=
  .ok (2, (segStep eW dest s1 p).1, (segStep eW dest s1 p).2)
def mCp (eW : Go.Err) (dest : Dest) (s2 : List Bytes) (_w : Nat) (_inp : Bytes) (p : Proc) : Go.M (Int × Option Go.Err × Proc) :=
  .ok (0, (segStep eW dest s2 p).1, (segStep eW dest s2 p).2)
def mCl (eW : Go.Err) (dest : Dest) (s3 s4 : List Bytes) (h : Nat) (p : Proc) : Go.M (Option Go.Err × Proc) :=
  .ok (segStep eW dest (if h = 1 then s4 else s3) p)

theorem result_obs (p q : Proc) (c : Nat) (h : ObsEq p q) : ResObsEq (p.result c) (q.result c) :=
  ⟨rfl, h.emitted, h.get⟩

theorem execute_enc_segs_res (dest : Dest) (S : List Bytes) (w : World) :
    ResObsEq (execute dest (.enc S.flatten) w)
      (if (writeSegs dest ({ w := w } : Proc) S).2 = true then (writeSegs dest ({ w := w } : Proc) S).1.finish dest
       else (writeSegs dest ({ w := w } : Proc) S).1.result 1) := by
  have hf := writeSegs_flatten dest S ({ w := w } : Proc) (segInv_fresh w)
  cases hb : (writeSegs dest ({ w := w } : Proc) S).2 with
  | true =>
    have h2 : (({ w := w } : Proc).writeNE dest S.flatten).2 = true := by rw [← hf.2]; exact hb
    simp only [execute, h2, Bool.not_true, Bool.false_eq_true, if_false, if_true]
    exact finish_obs dest _ _ hf.1.symm
  | false =>
    have h2 : (({ w := w } : Proc).writeNE dest S.flatten).2 = false := by rw [← hf.2]; exact hb
    simp only [execute, h2, Bool.not_false, if_true, Bool.false_eq_true, if_false]
    exact result_obs _ _ 1 hf.1.symm

theorem execute_enc_segs (dest : Dest) (S : List Bytes) (w : World) :
    ((writeSegs dest ({ w := w } : Proc) S).2 = true →
      ResObsEq (execute dest (.enc S.flatten) w) ((writeSegs dest ({ w := w } : Proc) S).1.finish dest)) ∧
    ((writeSegs dest ({ w := w } : Proc) S).2 = false → (execute dest (.enc S.flatten) w).exit = 1) := by
  have h := execute_enc_segs_res dest S w
  constructor
  · intro ht
    rwa [if_pos ht] at h
  · intro hf
    rw [if_neg (by rw [hf]; exact Bool.false_ne_true)] at h
    exact h.exit

/-- a failing segment writer is where the model's run on any longer ciphertext stops -/
theorem execute_enc_fail (dest : Dest) (S : List Bytes) (rest : Bytes) (w : World)
    (h : (writeSegs dest ({ w := w } : Proc) S).2 = false) :
    ResObsEq (execute dest (.enc (S.flatten ++ rest)) w) ((writeSegs dest ({ w := w } : Proc) S).1.result 1) := by
  have key := execute_enc_segs_res dest (S ++ [rest]) w
  rw [writeSegs_append, List.flatten_append, List.flatten_singleton] at key
  simp only [h, Bool.false_eq_true, if_false] at key
  exact key

/-- The translated `encrypt` against `Cli.execute`, outcome by outcome. `r1 … r4` are the segment writers of the four
    writing steps, each from the state the one before left: `age.Encrypt` (`s1`), `io.Copy` (`s2`), the stream writer's
    `Close` (`s3`), the armor writer's `Close` (`s4`, reached only with `-a`).
    * it RETURNS only if every step that is run succeeded, with exactly the state the last of them left (`r4.1` armored,
      `r3.1` otherwise), and the model's result is observably `finish` of that state;
    * otherwise the fault is one of the four exit sites of `encrypt` and nothing else (no index fault, no other panic
      number), and the site names the step: site 0 (`errorf` after `age.Encrypt`) exactly when `s1` could not be written,
      site 1 (after `io.Copy`) when `s1` was and `s2` could not, site 2 (after the stream writer's `Close`) when `s1`,
      `s2` were and `s3` could not, site 3 (after the armor writer's `Close`, only with `-a`) when `s1`, `s2`, `s3` were
      and `s4` could not; in each case the model's result is observably the state in which that segment writer stopped
      — everything written so far, up to and including what the destination took of the failing write — with status 1.
    (`armor.NewWriter` writes nothing and reports no error in the source; `mNW` cannot fail.) -/
theorem cli_encrypt_refines {ρ : Type} (eW : Go.Err) (dest : Dest) (s1 s2 s3 s4 : List Bytes) (recs : List ρ) (inp : Bytes)
    (armor : Bool) (w : World) :
    let ct := (s1 ++ s2 ++ s3 ++ (if armor then s4 else [])).flatten
    let r1 := writeSegs dest ({ w := w } : Proc) s1
    let r2 := writeSegs dest r1.1 s2
    let r3 := writeSegs dest r2.1 s3
    let r4 := writeSegs dest r3.1 s4
    match main_encrypt (0 : Nat) mNW (mEnc eW dest s1) (mCp eW dest s2) (mCl eW dest s3 s4) recs inp 0 armor ({ w := w } : Proc) with
    | .ok p' =>
      r1.2 = true ∧ r2.2 = true ∧ r3.2 = true ∧ (armor = true → r4.2 = true) ∧ p' = (if armor then r4.1 else r3.1) ∧
        ResObsEq (execute dest (.enc ct) w) (p'.finish dest)
    | .error f =>
      (f = .panic 1000 ∧ r1.2 = false ∧ ResObsEq (execute dest (.enc ct) w) (r1.1.result 1)) ∨
      (f = .panic 1001 ∧ r1.2 = true ∧ r2.2 = false ∧ ResObsEq (execute dest (.enc ct) w) (r2.1.result 1)) ∨
      (f = .panic 1002 ∧ r1.2 = true ∧ r2.2 = true ∧ r3.2 = false ∧
        ResObsEq (execute dest (.enc ct) w) (r3.1.result 1)) ∨
      (f = .panic 1003 ∧ armor = true ∧ r1.2 = true ∧ r2.2 = true ∧ r3.2 = true ∧ r4.2 = false ∧
        ResObsEq (execute dest (.enc ct) w) (r4.1.result 1)) := by
  intro ct r1 r2 r3 r4
  have hct : ct = s1.flatten ++ (s2.flatten ++ (s3.flatten ++ (if armor then s4 else []).flatten)) := by
    simp only [ct, List.flatten_append, List.append_assoc]
  have hrun : main_encrypt (0 : Nat) mNW (mEnc eW dest s1) (mCp eW dest s2) (mCl eW dest s3 s4) recs inp 0 armor ({ w := w } : Proc) =
      if ((if r1.2 = true then none else some eW : Option Go.Err) != none) = true then .error (.panic 1000)
      else if ((if r2.2 = true then none else some eW : Option Go.Err) != none) = true then .error (.panic 1001)
      else if ((if r3.2 = true then none else some eW : Option Go.Err) != none) = true then .error (.panic 1002)
      else if armor = true then
        (if ((if r4.2 = true then none else some eW : Option Go.Err) != none) = true then .error (.panic 1003)
         else .ok r4.1)
      else .ok r3.1 := by
    rw [cli_encrypt_tie]
    cases armor <;> rfl
  rw [hrun]
  have key := execute_enc_segs_res dest (s1 ++ s2 ++ s3 ++ (if armor then s4 else [])) w
  -- by cases on the first writer to fail; `a2`, `a3`: while none has failed, the writer of a prefix of the ciphertext is `r2`, `r3`
  cases h1 : r1.2
  · exact Or.inl ⟨rfl, rfl, hct ▸ execute_enc_fail dest s1 _ w h1⟩
  have a2 : writeSegs dest { w := w } (s1 ++ s2) = r2 := writeSegs_append_ok dest s1 s2 _ h1
  cases h2 : r2.2
  · have := execute_enc_fail dest (s1 ++ s2) (s3.flatten ++ (if armor then s4 else []).flatten) w (a2 ▸ h2)
    rw [a2, List.flatten_append, List.append_assoc, ← hct] at this
    exact Or.inr (Or.inl ⟨rfl, rfl, rfl, this⟩)
  have a3 : writeSegs dest { w := w } (s1 ++ s2 ++ s3) = r3 := by
    rw [writeSegs_append_ok dest (s1 ++ s2) s3 _ (a2 ▸ h2), a2]
  cases h3 : r3.2
  · have := execute_enc_fail dest (s1 ++ s2 ++ s3) (if armor then s4 else []).flatten w (a3 ▸ h3)
    rw [a3, List.flatten_append, List.flatten_append, List.append_assoc, List.append_assoc, ← hct] at this
    exact Or.inr (Or.inr (Or.inl ⟨rfl, rfl, rfl, rfl, this⟩))
  rw [writeSegs_append_ok dest (s1 ++ s2 ++ s3) _ _ (a3 ▸ h3), a3] at key
  cases armor
  · exact And.intro rfl ⟨rfl, rfl, nofun, rfl, key⟩
  have key' : ResObsEq (execute dest (.enc ct) w) (if r4.2 = true then r4.1.finish dest else r4.1.result 1) := key
  cases h4 : r4.2
  · rw [h4] at key'
    exact Or.inr (Or.inr (Or.inr ⟨rfl, rfl, rfl, rfl, rfl, rfl, key'⟩))
  · rw [h4] at key'
    exact And.intro rfl ⟨rfl, rfl, fun _ => rfl, rfl, key'⟩
end GoTie
end AgeModel
