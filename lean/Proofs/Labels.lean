/-
  Proofs.Labels — `sort.Strings` on labels: the result depends only on the
  multiset of labels, not on the order a recipient returns them in.
-/
import AgeModel.File
namespace AgeModel

theorem u8_lt_irrefl (a : UInt8) : ¬ a < a := by
  rw [UInt8.lt_iff_toNat_lt]; omega

theorem u8_trichotomy (a b : UInt8) (h1 : ¬ a < b) (h2 : ¬ b < a) : a = b := by
  rw [UInt8.lt_iff_toNat_lt] at h1 h2
  exact UInt8.toNat_inj.mp (by omega)

theorem bytesLe_cons (x y : UInt8) (xs ys : Bytes) :
    bytesLe (x :: xs) (y :: ys) = true ↔ x.toNat < y.toNat ∨ (x = y ∧ bytesLe xs ys = true) := by
  rw [bytesLe, ← UInt8.lt_iff_toNat_lt]
  by_cases h1 : x < y
  · simp only [h1, if_true, true_or]
  · by_cases h2 : y < x
    · have : x ≠ y := fun e => u8_lt_irrefl y (e ▸ h2)
      simp only [h1, h2, if_false, if_true, Bool.false_eq_true, false_or, this, false_and]
    · cases u8_trichotomy x y h1 h2
      simp only [h1, if_false, false_or, true_and]

theorem bytesLe_total : ∀ (a b : Bytes), bytesLe a b = true ∨ bytesLe b a = true
  | [], _ => Or.inl rfl
  | _ :: _, [] => Or.inr rfl
  | x :: xs, y :: ys => by
    rw [bytesLe_cons, bytesLe_cons]
    rcases Nat.lt_trichotomy x.toNat y.toNat with h | h | h
    · exact .inl (.inl h)
    · cases UInt8.toNat_inj.mp h
      exact (bytesLe_total xs ys).imp (fun h => .inr ⟨rfl, h⟩) (fun h => .inr ⟨rfl, h⟩)
    · exact .inr (.inl h)

theorem bytesLe_antisymm : ∀ (a b : Bytes), bytesLe a b = true → bytesLe b a = true → a = b
  | [], [], _, _ => rfl
  | [], _ :: _, _, h => nomatch h
  | _ :: _, [], h, _ => nomatch h
  | x :: xs, y :: ys, h1, h2 => by
    rw [bytesLe_cons] at h1 h2
    rcases h1 with h1 | ⟨rfl, h1⟩
    · rcases h2 with h2 | ⟨rfl, _⟩ <;> omega
    · rcases h2 with h2 | ⟨_, h2⟩
      · omega
      · rw [bytesLe_antisymm xs ys h1 h2]

theorem bytesLe_trans : ∀ (a b c : Bytes), bytesLe a b = true → bytesLe b c = true → bytesLe a c = true
  | [], _, _, _, _ => rfl
  | _ :: _, [], _, h, _ => nomatch h
  | _ :: _, _ :: _, [], _, h => nomatch h
  | x :: xs, y :: ys, z :: zs, h1, h2 => by
    rw [bytesLe_cons] at h1 h2 ⊢
    rcases h1 with h1 | ⟨rfl, h1⟩
    · rcases h2 with h2 | ⟨rfl, _⟩
      · exact .inl (Nat.lt_trans h1 h2)
      · exact .inl h1
    · rcases h2 with h2 | ⟨rfl, h2⟩
      · exact .inl h2
      · exact .inr ⟨rfl, bytesLe_trans xs ys zs h1 h2⟩

def Sorted (l : List Bytes) : Prop := l.Pairwise (fun a b => bytesLe a b = true)

theorem insertLabel_perm (x : Bytes) : ∀ l : List Bytes, (insertLabel x l).Perm (x :: l)
  | [] => by simp [insertLabel]
  | y :: ys => by
    unfold insertLabel
    split
    · exact List.Perm.refl _
    · exact (List.Perm.cons y (insertLabel_perm x ys)).trans (List.Perm.swap x y ys)

theorem insertLabel_sorted (x : Bytes) : ∀ l : List Bytes, Sorted l → Sorted (insertLabel x l)
  | [], _ => by simp [insertLabel, Sorted]
  | y :: ys, h => by
    unfold insertLabel
    have hy : ∀ z ∈ ys, bytesLe y z = true := (List.pairwise_cons.mp h).1
    have hs : Sorted ys := (List.pairwise_cons.mp h).2
    split
    · rename_i hxy
      refine List.pairwise_cons.mpr ⟨?_, h⟩
      intro z hz
      simp only [List.mem_cons] at hz
      rcases hz with rfl | hz
      · exact hxy
      · exact bytesLe_trans x y z hxy (hy z hz)
    · rename_i hxy
      have hyx : bytesLe y x = true := by
        rcases bytesLe_total x y with h1 | h1
        · exact absurd h1 hxy
        · exact h1
      refine List.pairwise_cons.mpr ⟨?_, insertLabel_sorted x ys hs⟩
      intro z hz
      have := (insertLabel_perm x ys).mem_iff.mp hz
      simp only [List.mem_cons] at this
      rcases this with rfl | hz'
      · exact hyx
      · exact hy z hz'

theorem sortLabels_perm : ∀ l : List Bytes, (sortLabels l).Perm l
  | [] => List.Perm.refl _
  | x :: xs => (insertLabel_perm x (sortLabels xs)).trans (List.Perm.cons x (sortLabels_perm xs))

theorem sortLabels_sorted : ∀ l : List Bytes, Sorted (sortLabels l)
  | [] => List.Pairwise.nil
  | x :: xs => insertLabel_sorted x _ (sortLabels_sorted xs)

theorem sorted_perm_eq : ∀ (l₁ l₂ : List Bytes), Sorted l₁ → Sorted l₂ → l₁.Perm l₂ → l₁ = l₂
  | [], l₂, _, _, h => (List.Perm.nil_eq h)
  | a :: t₁, [], _, _, h => by have := h.length_eq; simp at this
  | a :: t₁, b :: t₂, h₁, h₂, hp => by
    have ha : ∀ z ∈ t₁, bytesLe a z = true := (List.pairwise_cons.mp h₁).1
    have hb : ∀ z ∈ t₂, bytesLe b z = true := (List.pairwise_cons.mp h₂).1
    have hab : a = b := by
      have ha2 : a ∈ b :: t₂ := hp.mem_iff.mp (by simp)
      have hb1 : b ∈ a :: t₁ := hp.mem_iff.mpr (by simp)
      simp only [List.mem_cons] at ha2 hb1
      rcases ha2 with e | ha2
      · exact e
      · rcases hb1 with e | hb1
        · exact e.symm
        · exact bytesLe_antisymm a b (ha b hb1) (hb a ha2)
    subst hab
    rw [sorted_perm_eq t₁ t₂ (List.pairwise_cons.mp h₁).2 (List.pairwise_cons.mp h₂).2 (List.Perm.cons_inv hp)]

/-- `sort.Strings` yields the same list for any two orderings of the same labels -/
theorem sortLabels_perm_invariant (l₁ l₂ : List Bytes) (h : l₁.Perm l₂) : sortLabels l₁ = sortLabels l₂ :=
  sorted_perm_eq _ _ (sortLabels_sorted l₁) (sortLabels_sorted l₂)
    ((sortLabels_perm l₁).trans (h.trans (sortLabels_perm l₂).symm))

/-- two label lists sort to the same list exactly when they are permutations of each other -/
theorem sortLabels_eq_iff_perm (l₁ l₂ : List Bytes) : sortLabels l₁ = sortLabels l₂ ↔ l₁.Perm l₂ := by
  constructor
  · intro h
    exact (sortLabels_perm l₁).symm.trans (h ▸ sortLabels_perm l₂)
  · exact sortLabels_perm_invariant l₁ l₂

end AgeModel
