/-
  Proofs.GoTieCodec — bech32.Encode / bech32.Decode, as TRANSLATED from the Go source
  (AgeModel/Extracted/Funcs.lean, regenerated on every run), compute what the
  hand-written model (AgeModel/Bech32.lean) computes — for ALL byte strings,
  including non-ASCII ones (the translated code ranges over RUNES and calls
  strings.ToLower, whose behaviour beyond ASCII is an opaque constant: the
  theorems show it is never reached with a non-ASCII argument).
-/
import AgeModel.GoSem
import AgeModel.Bech32
import AgeModel.Keys
import AgeModel.Extracted.Funcs
import Proofs.Bech32Codec
import Proofs.GoTieBech32
import Proofs.GoTieRunes
import Proofs.GoBuf
namespace AgeModel
namespace GoTie
open Extracted

theorem ascii_of_noBad_b (c : UInt8) (h : Bech32.badByte c = false) : c < 0x80 := by
  have h := (Bool.or_eq_false_iff.mp h).2
  rw [decide_eq_false_iff_not, UInt8.not_lt, UInt8.le_iff_toNat_le] at h
  exact UInt8.lt_iff_toNat_lt.mpr (Nat.lt_of_le_of_lt h (by decide))

theorem isAscii_of_noBad (s : Bytes) (h : Bech32.hasBadByte s = false) : Go.isAscii s = true := by
  simp only [Bech32.hasBadByte, List.any_eq_false] at h
  simp only [Go.isAscii, List.all_eq_true, decide_eq_true_eq]
  intro b hb
  exact ascii_of_noBad_b b (by simpa using h b hb)

theorem toLower_ascii (s : Bytes) (h : Go.isAscii s = true) : Go.strings_ToLower s = Bech32.toLower s := by
  simp only [Go.strings_ToLower, h, if_true]; rfl

theorem toUpper_ascii (s : Bytes) (h : Go.isAscii s = true) : Go.strings_ToUpper s = Bech32.toUpper s := by
  simp only [Go.strings_ToUpper, h, if_true]; rfl

theorem runes_any_bad' (s : Bytes) :
    (Go.runes s).any (fun p => decide (p.2 < 33) || decide (p.2 > 126)) = Bech32.hasBadByte s :=
  runes_any_bad s

theorem Decode_loop1_eq (rs : List (Int × Int)) :
    bech32_Decode_loop1 rs = .ok (if rs.any (fun p => decide (p.2 < 33) || decide (p.2 > 126)) = true
      then .ret ([], [], some ⟨"bech32.Decode", 0, []⟩) else .next ()) :=
  searchLoop_eq _ _ _ rfl (fun _ _ => rfl) rs

theorem Decode_loop2_eq (rs : List (Int × Int)) :
    bech32_Decode_loop2 rs = .ok (if rs.any (fun p => decide (p.2 < 33) || decide (p.2 > 126)) = true
      then .ret ([], [], some ⟨"bech32.Decode", 3, []⟩) else .next ()) :=
  searchLoop_eq _ _ _ rfl (fun _ _ => rfl) rs

theorem Encode_loop1_eq (rs : List (Int × Int)) :
    bech32_Encode_loop1 rs = .ok (if rs.any (fun p => decide (p.2 < 33) || decide (p.2 > 126)) = true
      then .ret ([], some ⟨"bech32.Encode", 1, []⟩) else .next ()) :=
  searchLoop_eq _ _ _ rfl (fun _ _ => rfl) rs

theorem lastIndexFrom_eq (c : UInt8) : ∀ (s : Bytes) (off : Nat),
    Go.lastIndexFrom [c] off s =
      match Bech32.lastIndex c s with
      | some i => Int.ofNat (off + i)
      | none => -1
  | [], off => rfl
  | x :: xs, off => by
    have hp : ([c] : Bytes).isPrefixOf (x :: xs) = (c == x) := Bool.and_true _
    rw [Go.lastIndexFrom, lastIndexFrom_eq c xs (off + 1), Bech32.lastIndex, hp]
    cases Bech32.lastIndex c xs with
    | some i =>
      dsimp only
      rw [if_pos (show Int.ofNat (off + 1 + i) ≥ 0 from Int.natCast_nonneg _), Nat.add_assoc, Nat.add_comm 1 i]
    | none =>
      dsimp only
      rw [if_neg (by decide)]
      by_cases hx : x = c
      · rw [if_pos hx, hx, beq_self_eq_true, if_pos rfl]; rfl
      · rw [if_neg hx, if_neg (fun e => hx (beq_iff_eq.mp e).symm)]

theorem lastIndex_eq (s : Bytes) :
    Go.strings_LastIndex s [0x31] =
      match Bech32.lastIndex 0x31 s with
      | some i => Int.ofNat i
      | none => -1 := by
  simp only [Go.strings_LastIndex]
  rw [if_neg (by simp), lastIndexFrom_eq]
  cases Bech32.lastIndex 0x31 s <;> simp


theorem charset_eq : bech32_charset = Bech32.charset := by decide

theorem charset_ascii : Go.isAscii bech32_charset = true := by decide

theorem indexRune_charset (b : UInt8) :
    Go.strings_IndexRune bech32_charset (Int.ofNat b.toNat) = match Bech32.charsetIdx b with
      | some p => Int.ofNat p.toNat
      | none => -1 := by
  rw [indexRune_byte _ charset_ascii, charset_eq, Bech32.charsetIdx]
  cases h : Bech32.charset.findIdx? (· == b) with
  | none => rfl
  | some i =>
    have : i < 32 := (List.findIdx?_eq_some_iff_findIdx_eq.mp h).1
    show Int.ofNat i = Int.ofNat (i % 256)
    rw [Nat.mod_eq_of_lt (by omega)]

theorem intToU8_b (p : UInt8) : Go.intToU8 (Int.ofNat p.toNat) = p := by
  have : (Int.ofNat p.toNat).emod 256 = Int.ofNat p.toNat :=
    Int.emod_eq_of_lt (Int.natCast_nonneg _) (Int.ofNat_lt.mpr p.toNat_lt)
  rw [Go.intToU8, this]
  exact UInt8.ofNat_toNat

theorem Decode_loop3_eq : ∀ (rs : List (Int × Int)) (bs : Bytes) (data : Bytes),
    rs.map (·.2) = bs.map (fun b => Int.ofNat b.toNat) →
    bech32_Decode_loop3 rs data = .ok (match Bech32.mapOpt Bech32.charsetIdx bs with
      | some l => .next (data ++ l)
      | none => .ret ([], [], some ⟨"bech32.Decode", 4, []⟩))
  | [], [], data, _ => by simp [bech32_Decode_loop3, Bech32.mapOpt]; rfl
  | [], _ :: _, _, h => by simp at h
  | _ :: _, [], _, h => by simp at h
  | r :: rs, b :: bs, data, h => by
    simp only [List.map_cons, List.cons.injEq] at h
    obtain ⟨h1, h2⟩ := h
    simp only [bech32_Decode_loop3, Bech32.mapOpt, h1, indexRune_charset]
    cases hc : Bech32.charsetIdx b with
    | none => rfl
    | some p =>
      have hne : (Int.ofNat p.toNat == (-1 : Int)) = false := by
        simp only [beq_eq_false_iff_ne, Int.ofNat_eq_natCast]; omega
      simp only [hne, intToU8_b]
      show bech32_Decode_loop3 rs (data ++ [p]) = _
      rw [Decode_loop3_eq rs bs (data ++ [p]) h2]
      cases Bech32.mapOpt Bech32.charsetIdx bs <;> simp

theorem zipWith_snd {α β γ : Type} (g : β → γ) : ∀ (l : List α) (s : List β), s.length ≤ l.length →
    List.zipWith (fun _ b => g b) l s = s.map g
  | _, [], _ => by simp
  | [], _ :: _, h => by simp at h
  | _ :: l, b :: s, h => by
    simp only [List.zipWith_cons_cons, List.map_cons, zipWith_snd g l s (by simpa using h)]

theorem runes_ascii_snd (s : Bytes) (h : Go.isAscii s = true) :
    (Go.runes s).map (·.2) = s.map (fun b => Int.ofNat b.toNat) := by
  rw [runes_ascii s h, List.map_zipWith]
  exact zipWith_snd _ _ _ (by simp)

theorem idx_charset (p : UInt8) :
    Go.idx bech32_charset (Go.u8ToInt p) = match Bech32.charsetAt p with
      | some c => .ok c
      | none => .error .index := by
  simp only [Go.idx, Go.u8ToInt, Bech32.charsetAt, charset_eq]
  rw [if_neg (by simp only [Int.ofNat_eq_natCast]; omega)]
  simp only [Int.ofNat_eq_natCast, Int.toNat_natCast]
  cases Bech32.charset[p.toNat]? <;> rfl

/-- a translated `for _, p := range vs { ret += charset[p] }` -/
theorem charsetLoop_eq {ρ : Type} (f : Bytes → Bytes → Go.M (Go.Loop Bytes ρ))
    (hnil : ∀ ret, f [] ret = .ok (.next ret))
    (hcons : ∀ v vs ret, f (v :: vs) ret = do f vs (ret ++ [← Go.idx bech32_charset (Go.u8ToInt v)])) :
    ∀ (vs ret : Bytes), f vs ret = match Bech32.mapOpt Bech32.charsetAt vs with
      | some cs => .ok (.next (ret ++ cs))
      | none => .error .index
  | [], ret => by simp only [hnil, Bech32.mapOpt, List.append_nil]
  | v :: vs, ret => by
    rw [hcons, idx_charset, Bech32.mapOpt]
    cases hc : Bech32.charsetAt v with
    | none => rfl
    | some c =>
      simp only [Go.bind_ok]
      rw [charsetLoop_eq f hnil hcons vs (ret ++ [c])]
      cases Bech32.mapOpt Bech32.charsetAt vs <;> simp

theorem slice_after {α : Type} (a : List α) (n : Nat) (h : n < a.length) :
    Go.slice a (Int.ofNat n + 1) (Go.len a) = .ok (a.drop (n + 1)) := by
  have := Go.slice_ofNat a (n + 1) a.length h (Nat.le_refl _)
  rwa [List.take_length] at this

theorem slice_dropLast {α : Type} (a : List α) (k : Nat) (h : k ≤ a.length) :
    Go.slice a 0 (Go.len a - Int.ofNat k) = .ok (a.take (a.length - k)) := by
  have e : Go.len a - Int.ofNat k = Int.ofNat (a.length - k) := by
    simp only [Go.len, Int.ofNat_eq_natCast]; omega
  rw [e]
  exact Go.slice_ofNat a 0 (a.length - k) (Nat.zero_le _) (Nat.sub_le _ _)

/-- the Go error value `bech32.Decode` returns for each error class of the model -/
def decErr : Bech32.Err → Option Go.Err
  | .badChar => some ⟨"bech32.Decode", 0, []⟩
  | .mixedCase => some ⟨"bech32.Decode", 1, []⟩
  | .badSeparator => some ⟨"bech32.Decode", 2, []⟩
  | .badHrpChar => some ⟨"bech32.Decode", 3, []⟩
  | .badDataChar => some ⟨"bech32.Decode", 4, []⟩
  | .badChecksum => some ⟨"bech32.Decode", 5, []⟩
  | e => cbErr e

def encErr : Bech32.Err → Option Go.Err
  | .badHrpEmpty => some ⟨"bech32.Encode", 0, []⟩
  | .badHrpChar => some ⟨"bech32.Encode", 1, []⟩
  | .mixedCase => some ⟨"bech32.Encode", 2, []⟩
  | e => cbErr e

theorem separator_test_iff (pos : Nat) (s : Bytes) :
    ((decide (Int.ofNat pos < 1) || decide (Int.ofNat pos + 7 > Go.len s)) = true) ↔
      (pos < 1 ∨ pos + 7 > s.length) := by
  rw [Bool.or_eq_true, decide_eq_true_iff, decide_eq_true_iff]
  simp only [Go.len, Int.ofNat_eq_natCast]
  omega

theorem mixedCase_test_iff (a b s : Bytes) : ((a != s) && (b != s)) = true ↔ a ≠ s ∧ b ≠ s := by
  rw [Bool.and_eq_true, bne_iff_ne, bne_iff_ne]

theorem hasBadByte_take (s : Bytes) (n : Nat) (h : Bech32.hasBadByte s = false) :
    Bech32.hasBadByte (s.take n) = false := by
  simp only [Bech32.hasBadByte, List.any_eq_false] at h ⊢
  exact fun x hx => h x (List.mem_of_mem_take hx)

theorem hasBadByte_drop (s : Bytes) (n : Nat) (h : Bech32.hasBadByte s = false) :
    Bech32.hasBadByte (s.drop n) = false := by
  simp only [Bech32.hasBadByte, List.any_eq_false] at h ⊢
  exact fun x hx => h x (List.mem_of_mem_drop hx)

theorem decode_tie (s : Bytes) :
    bech32_Decode s = .ok (match Bech32.decode s with
      | .ok (h, d) => (h, d, none)
      | .error e => ([], [], decErr e)) := by
  unfold bech32_Decode
  simp only [pure, Except.pure]
  rw [Decode_loop1_eq, runes_any_bad', Go.bind_ok]
  unfold Bech32.decode
  by_cases hb : Bech32.hasBadByte s = true
  · rw [if_pos hb, if_pos hb]; rfl
  rw [if_neg hb, if_neg hb]
  have hb' : Bech32.hasBadByte s = false := Bool.eq_false_iff.mpr hb
  have ha := isAscii_of_noBad s hb'
  dsimp only
  rw [toLower_ascii s ha, toUpper_ascii s ha]
  by_cases hm : Bech32.toLower s ≠ s ∧ Bech32.toUpper s ≠ s
  · rw [if_pos hm, if_pos ((mixedCase_test_iff ..).mpr hm)]; rfl
  rw [if_neg hm, if_neg (fun h => hm ((mixedCase_test_iff ..).mp h))]
  rw [lastIndex_eq]
  cases hp : Bech32.lastIndex 0x31 s with
  | none =>
    simp only []
    rw [if_pos (by simp)]
    rfl
  | some pos =>
    simp only []
    by_cases hs : pos < 1 ∨ pos + 7 > s.length
    · rw [if_pos hs, if_pos ((separator_test_iff pos s).mpr hs)]
      rfl
    rw [if_neg hs, if_neg (fun h => hs ((separator_test_iff pos s).mp h))]
    have hpos : pos < s.length := by omega
    rw [Go.slice_upto s pos (Nat.le_of_lt hpos), Go.bind_ok, Decode_loop2_eq, runes_any_bad',
      Go.bind_ok]
    have hbh : Bech32.hasBadByte (s.take pos) = false := hasBadByte_take s pos hb'
    simp only [hbh, Bool.false_eq_true, if_false]
    have hbd : Bech32.hasBadByte ((Bech32.toLower s).drop (pos + 1)) = false :=
      hasBadByte_drop _ _ (by rw [Bech32.hasBadByte_toLower]; exact hb')
    rw [slice_after _ pos (by rw [Bech32.toLower_length]; exact hpos), Go.bind_ok,
      Decode_loop3_eq _ _ [] (runes_ascii_snd _ (isAscii_of_noBad _ hbd)), Go.bind_ok]
    cases hd : Bech32.mapOpt Bech32.charsetIdx ((Bech32.toLower s).drop (pos + 1)) with
    | none => rfl
    | some data =>
      simp only [List.nil_append]
      rw [verifyChecksum_tie _ _ (isAscii_of_noBad _ hbh), Go.bind_ok]
      by_cases hv : (!Bech32.verifyChecksum (s.take pos) data) = true
      · rw [if_pos hv, if_pos hv]; rfl
      rw [if_neg hv, if_neg hv]
      have hlen := Bech32.mapOpt_length _ _ _ hd
      have hlen' : 6 ≤ data.length := by
        rw [hlen, List.length_drop, Bech32.toLower_length]; omega
      have e2 : Go.slice data 0 (Go.len data - 6) = .ok (data.take (data.length - 6)) :=
        slice_dropLast data 6 hlen'
      rw [e2, Go.bind_ok, convertBits_tie_5_8]
      cases hc : Bech32.convertBits (data.take (data.length - 6)) 5 8 false with
      | ok bytes => rfl
      | error e =>
        rcases Bech32.convertBits_5_8_err _ e hc with rfl | rfl | rfl <;> rfl

theorem emptyHrp_test_iff (s : Bytes) : (decide (Go.len s < 1) = true) ↔ s.length < 1 := by
  rw [decide_eq_true_iff]
  simp only [Go.len, Int.ofNat_eq_natCast]
  omega

theorem encode_tie (hrp data : Bytes) :
    bech32_Encode hrp data = .ok (match Bech32.encode hrp data with
      | .ok s => (s, none)
      | .error e => ([], encErr e)) := by
  unfold bech32_Encode
  simp only [pure, Except.pure]
  obtain ⟨d5, k, h1, _, h3, _⟩ := Bech32.convertBits_8_5 data
  rw [convertBits_tie_8_5, h1, cbRes, Go.bind_ok]
  unfold Bech32.encode
  rw [h1]
  dsimp only
  rw [if_neg (by decide)]
  by_cases hl : hrp.length < 1
  · rw [if_pos hl, if_pos ((emptyHrp_test_iff hrp).mpr hl)]; rfl
  rw [if_neg hl, if_neg (fun h => hl ((emptyHrp_test_iff hrp).mp h))]
  rw [Encode_loop1_eq, runes_any_bad', Go.bind_ok]
  by_cases hb : Bech32.hasBadByte hrp = true
  · rw [if_pos hb, if_pos hb]; rfl
  rw [if_neg hb, if_neg hb]
  have hb' : Bech32.hasBadByte hrp = false := Bool.eq_false_iff.mpr hb
  have ha := isAscii_of_noBad hrp hb'
  dsimp only
  rw [toLower_ascii hrp ha, toUpper_ascii hrp ha]
  by_cases hm : Bech32.toUpper hrp ≠ hrp ∧ Bech32.toLower hrp ≠ hrp
  · rw [if_pos hm, if_pos ((mixedCase_test_iff ..).mpr hm)]; rfl
  rw [if_neg hm, if_neg (fun h => hm ((mixedCase_test_iff ..).mp h))]
  obtain ⟨cs1, a1, _, a3, _, _⟩ := Bech32.chars_of_syms d5 h3
  obtain ⟨cs2, b1, _, b3, _, _⟩ := Bech32.chars_of_syms _ (Bech32.createChecksum_lt (Bech32.toLower hrp) d5)
  have hbl : Bech32.hasBadByte (Bech32.toLower hrp) = false := by
    rw [Bech32.hasBadByte_toLower]; exact hb'
  rw [charsetLoop_eq bech32_Encode_loop2 (fun _ => rfl) (fun _ _ _ => rfl), a1]
  simp only [Go.bind_ok, createChecksum_tie _ _ (isAscii_of_noBad _ hbl),
    charsetLoop_eq bech32_Encode_loop3 (fun _ => rfl) (fun _ _ _ => rfl), b1]
  rw [Bech32.mapOpt_append _ _ _ _ _ a1 b1]
  simp only [List.nil_append, List.append_assoc]
  by_cases hlo : (Bech32.toLower hrp == hrp) = true
  · rw [if_pos hlo, if_pos hlo]
  · rw [if_neg hlo, if_neg hlo]
    rw [toUpper_ascii]
    apply isAscii_of_noBad
    simp only [Bech32.hasBadByte_append, hbl, a3, b3, Bool.or_false]
    rfl

theorem encode_fst (hrp data : Bytes) :
    (match Bech32.encode hrp data with
      | .ok s => (s, (none : Option Go.Err))
      | .error e => ([], encErr e)).1 = Keys.encodeOrEmpty hrp data := by
  unfold Keys.encodeOrEmpty
  cases Bech32.encode hrp data <;> rfl

theorem decErr_ne_none (e : Bech32.Err) : (decErr e != none) = true := by
  cases e <;> rfl

end GoTie
end AgeModel
