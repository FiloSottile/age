/-
  Proofs.FormatLines — line splitting, space splitting and base64 line wrapping.
-/
import AgeModel.Format
import Proofs.B64
namespace AgeModel
namespace Format

theorem any_eq_or_false {a b : UInt8} {l : Bytes} (ha : a ∉ l) (hb : b ∉ l) :
    l.any (fun c => c = a || c = b) = false := by
  rw [List.any_eq_false]
  intro x hx
  simp only [Bool.or_eq_true, decide_eq_true_eq, not_or]
  exact ⟨fun e => ha (e ▸ hx), fun e => hb (e ▸ hx)⟩

theorem takeLine_eq : ∀ {b l r : Bytes}, takeLine b = some (l, r) → b = l ++ nl :: r ∧ nl ∉ l
  | [], l, r, h => by simp [takeLine] at h
  | c :: cs, l, r, h => by
    unfold takeLine at h
    split at h
    · rename_i hc; simp at h; obtain ⟨rfl, rfl⟩ := h; simp [hc]
    · rename_i hc
      split at h
      · rename_i l' r' heq
        simp at h; obtain ⟨rfl, rfl⟩ := h
        have ⟨h1, h2⟩ := takeLine_eq heq
        constructor
        · simp [h1]
        · simp; exact ⟨fun e => hc e.symm, h2⟩
      · simp at h

theorem takeLine_len {b l r : Bytes} (h : takeLine b = some (l, r)) : r.length < b.length := by
  have := (takeLine_eq h).1
  rw [this]; simp; omega

theorem takeLine_app : ∀ (l r : Bytes), nl ∉ l → takeLine (l ++ nl :: r) = some (l, r)
  | [], r, _ => by simp [takeLine]
  | c :: l, r, h => by
    simp at h
    have hc : ¬ c = nl := fun e => h.1 e.symm
    simp [takeLine, hc, takeLine_app l r h.2]

theorem wrap_short {cs : Bytes} (h : cs.length < 64) : wrap cs = cs := by
  unfold wrap; simp [h]

theorem wrap_app64 {x y : Bytes} (h : x.length = 64) : wrap (x ++ y) = x ++ nl :: wrap y := by
  rw [wrap, dif_neg (by rw [List.length_append]; omega), List.take_left' h, List.drop_left' h]

/-- the first full line of a wrapped base64 text, with or without padding: 48 bytes make 64 columns -/
theorem wrap_enc48 {enc : Bytes → Bytes} (happ : ∀ a b : Bytes, a.length % 3 = 0 → enc (a ++ b) = enc a ++ enc b)
    (hlen : ∀ a : Bytes, a.length = 48 → (enc a).length = 64) {d : Bytes} (h : 48 ≤ d.length) :
    wrap (enc d) = enc (d.take 48) ++ nl :: wrap (enc (d.drop 48)) ∧
      (enc d).length = 64 + (enc (d.drop 48)).length := by
  have ht := List.length_take_of_le h
  have henc : enc d = enc (d.take 48) ++ enc (d.drop 48) := by
    rw [← happ _ _ (by omega), List.take_append_drop]
  rw [henc, wrap_app64 (hlen _ ht), List.length_append, hlen _ ht]
  exact ⟨rfl, rfl⟩

/-- `strings.Join(parts, " ")` -/
def joinSp : List Bytes → Bytes
  | [] => []
  | [a] => a
  | a :: b :: rest => a ++ sp :: joinSp (b :: rest)

theorem splitSp_ne_nil : ∀ l : Bytes, splitSp l ≠ []
  | [] => by simp [splitSp]
  | c :: cs => by
    unfold splitSp
    split
    · simp
    · split <;> simp

theorem joinSp_splitSp : ∀ l : Bytes, joinSp (splitSp l) = l
  | [] => by simp [splitSp, joinSp]
  | c :: cs => by
    have ih := joinSp_splitSp cs
    unfold splitSp
    split
    · rename_i hc
      have hne := splitSp_ne_nil cs
      cases hs : splitSp cs with
      | nil => exact absurd hs hne
      | cons h t =>
        rw [hs] at ih
        simp only [joinSp, List.nil_append, hc, ih]
    · split
      · rename_i hc h t hs
        rw [hs] at ih
        cases t with
        | nil => simp only [joinSp] at ih ⊢; rw [ih]
        | cons t1 ts => simp only [joinSp, List.cons_append] at ih ⊢; rw [ih]
      · rename_i hc hs
        exact absurd hs (splitSp_ne_nil cs)

theorem splitSp_nosp : ∀ (a : Bytes), sp ∉ a → splitSp a = [a]
  | [], _ => by simp [splitSp]
  | c :: cs, h => by
    simp at h
    have hc : ¬ c = sp := fun e => h.1 e.symm
    unfold splitSp
    simp only [hc, if_false, splitSp_nosp cs h.2]

theorem splitSp_app : ∀ (a rest : Bytes), sp ∉ a → splitSp (a ++ sp :: rest) = a :: splitSp rest
  | [], rest, _ => by simp [splitSp]
  | c :: cs, rest, h => by
    simp at h
    have hc : ¬ c = sp := fun e => h.1 e.symm
    simp only [List.cons_append, splitSp, hc, if_false, splitSp_app cs rest h.2]

theorem splitSp_joinSp : ∀ (ps : List Bytes), ps ≠ [] → (∀ p ∈ ps, sp ∉ p) → splitSp (joinSp ps) = ps
  | [], h, _ => absurd rfl h
  | [a], _, h => by simp only [joinSp]; exact splitSp_nosp a (h a (by simp))
  | a :: b :: rest, _, h => by
    simp only [joinSp]
    rw [splitSp_app a _ (h a (by simp))]
    rw [splitSp_joinSp (b :: rest) (by simp) (fun p hp => h p (by simp [hp]))]

theorem splitSp_parts_nosp : ∀ (l : Bytes) (p : Bytes), p ∈ splitSp l → sp ∉ p
  | [], p, h => by simp [splitSp] at h; subst h; simp
  | c :: cs, p, h => by
    unfold splitSp at h
    split at h
    · simp only [List.mem_cons] at h
      rcases h with h | h
      · subst h; simp
      · exact splitSp_parts_nosp cs p h
    · rename_i hc
      split at h
      · rename_i hd tl hs
        simp only [List.mem_cons] at h
        rcases h with h | h
        · subst h
          have := splitSp_parts_nosp cs hd (by rw [hs]; simp)
          simp; exact ⟨fun e => hc e.symm, this⟩
        · exact splitSp_parts_nosp cs p (by rw [hs]; simp [h])
      · simp only [List.mem_singleton] at h; subst h
        simp; exact fun e => hc e.symm

theorem joinSp_no_nl : ∀ (ps : List Bytes), (∀ p ∈ ps, nl ∉ p) → nl ∉ joinSp ps
  | [], _ => by simp [joinSp]
  | [a], h => by simp only [joinSp]; exact h a (by simp)
  | a :: b :: rest, h => by
    simp only [joinSp, List.mem_append, List.mem_cons, not_or]
    refine ⟨h a (by simp), by decide, joinSp_no_nl (b :: rest) (fun p hp => h p (by simp [hp]))⟩

/-- `"->" ++ " a" ++ " b" …` is the join of `"->" :: a :: b …` -/
theorem prefix_spaced (pre : Bytes) : ∀ (l : List Bytes), pre ++ spaced l = joinSp (pre :: l)
  | [] => by simp [spaced, joinSp]
  | a :: as => by
    simp only [spaced, joinSp]
    have := prefix_spaced a as
    rw [← this]
    simp

theorem validString_props {s : Bytes} (h : validString s = true) : s ≠ [] ∧ sp ∉ s ∧ nl ∉ s := by
  unfold validString at h
  simp only [Bool.and_eq_true, Bool.not_eq_true', List.all_eq_true, decide_eq_true_eq] at h
  obtain ⟨h1, h2⟩ := h
  refine ⟨by intro e; subst e; simp at h1, ?_, ?_⟩
  · intro hm; have := h2 sp hm; simp [sp] at this
  · intro hm; have := h2 nl hm; simp [nl] at this

end Format
end AgeModel
