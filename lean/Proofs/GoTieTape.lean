/-
  Proofs.GoTieTape — crypto/rand as a tape of bytes: `tapeRead` and what it returns, and
  facts about `draw` (its length, a draw of `a + b` bytes, a draw of two) (no translated function involved).
-/
import AgeModel.File
import Proofs.GoBuf
namespace AgeModel
namespace GoTie

/-- `rand.Read` on a tape of bytes: the next `n` bytes, or an error when the tape is exhausted -/
def tapeRead (eRand : Go.Err) (tape : Bytes) (n : Int) : Go.M (Bytes × Option Go.Err × Bytes) :=
  match draw n.toNat tape with
  | some (b, t) => .ok (b, none, t)
  | none => .ok ([], some eRand, tape)

theorem draw_length {n : Nat} {t b t' : Bytes} (h : draw n t = some (b, t')) : b.length = n := by
  unfold draw at h
  split at h
  · cases h; simp only [List.length_take]; omega
  · cases h

theorem draw_add (a b : Nat) (tape : Bytes) :
    draw (a + b) tape =
      match draw a tape with
      | none => none
      | some (x, t) =>
        match draw b t with
        | none => none
        | some (y, t') => some (x ++ y, t') := by
  unfold draw
  by_cases ha : a ≤ tape.length
  · rw [if_pos ha]
    simp only [List.length_drop]
    by_cases hb : b ≤ tape.length - a
    · rw [if_pos hb, if_pos (by omega), List.take_add, List.drop_drop]
    · rw [if_neg hb, if_neg (by omega)]
  · rw [if_neg ha, if_neg (by omega)]

theorem draw_two {tape b t : Bytes} (h : draw 2 tape = some (b, t)) : ∃ b0 b1, b = [b0, b1] :=
  match b, draw_length h with
  | [b0, b1], _ => ⟨b0, b1, rfl⟩

theorem tapeRead_none (eRand : Go.Err) {tape : Bytes} {n : Nat} (h : draw n tape = none) :
    tapeRead eRand tape (Int.ofNat n) = .ok ([], some eRand, tape) := by
  simp only [tapeRead, Int.toNat_natCast, Int.ofNat_eq_natCast, h]

theorem tapeRead_some (eRand : Go.Err) {tape b t : Bytes} {n : Nat} (h : draw n tape = some (b, t)) :
    tapeRead eRand tape (Int.ofNat n) = .ok (b, none, t) := by
  simp only [tapeRead, Int.toNat_natCast, Int.ofNat_eq_natCast, h]


end GoTie
end AgeModel
