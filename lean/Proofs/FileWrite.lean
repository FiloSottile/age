/-
  Proofs.FileWrite — `encryptInit` read both ways: given the header and the nonce draw, the call succeeds as soon as
  its two destination writes do (on a concrete run this leaves only those two flags to evaluate); and what a
  successful call has established and written.
-/
import Proofs.File
namespace AgeModel
open Format Stream

theorem encryptInit_of_writes {S : DstSpec} (P : Prims) (tape : Bytes) (rs : List Recipient) (hdrSegs : List Nat)
    (d : Dst S) {fk t nonce t' : Bytes} {stanzas : List Stanza}
    (hh : encryptHeader P tape rs = .ok (fk, stanzas, t))
    (hd : draw streamNonceSize t = some (nonce, t'))
    (hw : (writeAll d (segmentBy hdrSegs (marshal { stanzas := stanzas, mac := headerMAC P fk stanzas }))).2 = true)
    (hn : ((writeAll d (segmentBy hdrSegs (marshal { stanzas := stanzas, mac := headerMAC P fk stanzas }))).1.write
            nonce).2 = true) :
    encryptInit P tape rs hdrSegs d =
      (.ok (Stream.Writer.new
              ((writeAll d (segmentBy hdrSegs (marshal { stanzas := stanzas, mac := headerMAC P fk stanzas }))).1.write
                nonce).1,
            streamKey P fk nonce, t'),
       ((writeAll d (segmentBy hdrSegs (marshal { stanzas := stanzas, mac := headerMAC P fk stanzas }))).1.write
          nonce).1) := by
  unfold encryptInit
  rw [hh]
  simp only
  generalize writeAll d (segmentBy hdrSegs (marshal { stanzas := stanzas, mac := headerMAC P fk stanzas })) = r1 at hw hn ⊢
  obtain ⟨d1, ok1⟩ := r1
  generalize hr2 : d1.write nonce = r2 at hn
  obtain ⟨d2, ok2⟩ := r2
  cases hw
  cases hn
  simp only [hd, hr2]

theorem encryptInit_ok {S : DstSpec} (P : Prims) (tape : Bytes) (rs : List Recipient) (segs : List Nat) (d d2 : Dst S)
    (w : Stream.Writer S) (k t' : Bytes)
    (h : encryptInit P tape rs segs d = (.ok (w, k, t'), d2)) :
    ∃ fk stanzas t nonce, encryptHeader P tape rs = .ok (fk, stanzas, t) ∧ draw streamNonceSize t = some (nonce, t') ∧
      d2.acc = d.acc ++ marshal { stanzas := stanzas, mac := headerMAC P fk stanzas } ++ nonce ∧
      k = streamKey P fk nonce ∧ w = Stream.Writer.new d2 := by
  unfold encryptInit at h
  split at h
  · cases h
  · rename_i fk stanzas t hh
    simp only at h
    split at h
    · cases h
    · rename_i d1 hwa
      split at h
      · cases h
      · rename_i nonce t2 hd
        split at h
        · cases h
        · rename_i d3 hwn
          simp only [Prod.mk.injEq, Except.ok.injEq] at h
          obtain ⟨⟨rfl, rfl, rfl⟩, rfl⟩ := h
          refine ⟨fk, stanzas, t, nonce, hh, hd, ?_, rfl, rfl⟩
          rw [Dst.write_ok hwn, writeAll_ok _ _ _ hwa, segmentBy_flatten]

/-- with a destination that never fails, Encrypt succeeds whenever the header can be built and the tape suffices -/
theorem encryptInit_neverFails {S : DstSpec} (hS : S.NeverFails) (P : Prims) (tape : Bytes) (rs : List Recipient)
    (segs : List Nat) (d : Dst S) (fk : Bytes) (stanzas : List Stanza) (t nonce t' : Bytes)
    (hh : encryptHeader P tape rs = .ok (fk, stanzas, t)) (hd : draw streamNonceSize t = some (nonce, t')) :
    ∃ w d2, encryptInit P tape rs segs d = (.ok (w, streamKey P fk nonce, t'), d2) :=
  ⟨_, _, encryptInit_of_writes P tape rs segs d hh hd (writeAll_neverFails hS _ _) (Dst.write_neverFails hS _ _)⟩

end AgeModel
