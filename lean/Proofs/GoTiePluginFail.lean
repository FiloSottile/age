/-
  Proofs.GoTiePluginFail — the two client methods when the plugin cannot be reached.

  `recipient_client_tie` / `identity_client_tie` assume (`PluginEnv`) that the plugin starts and that
  every write to it succeeds. Here are the paths they leave out, for EVERY behaviour of the other
  callees: when `openClientConnection` fails, the translated `(*Recipient).WrapWithLabels` /
  `(*Identity).Unwrap` return their own error at once — nothing is written to the plugin, no UI
  callback runs, no stanza / file key is returned; when the FIRST write (`add-recipient` /
  `add-identity`) fails, they close the connection and return that write's error with nothing else.
-/
import Proofs.GoTiePluginBase
namespace AgeModel
namespace GoTie
open Extracted

section
variable {σ υ χ : Type} (Open : Bytes → Bytes → Go.M (χ × Option Go.Err))
  (W : χ → Bytes → List Bytes → Go.M (Option Go.Err × χ)) (Close : χ → Go.M (Option Go.Err)) (grease : Bytes)
  (WB : χ → Bytes → Bytes → Go.M (Option Go.Err × χ)) (M : format_Stanza → χ → Go.M (Option Go.Err × χ))
  (New : χ → Go.M σ) (Rd : υ → Bytes → σ → Go.M (format_Stanza × Option Go.Err × σ))
  (Hd : υ → Bytes → χ → format_Stanza → Go.M (Bool × Option Go.Err × χ)) (rem : σ → Nat)

/-- the plugin cannot be started: `WrapWithLabels` returns error site 0, no stanzas, no labels -/
theorem recipient_open_fails (r : plugin_Recipient υ) (fk : Bytes) (c : χ) (e : Go.Err)
    (hO : Open r.name "recipient-v1".toUTF8.toList = .ok (c, some e)) :
    plugin_Recipient_WrapWithLabels Open W Close grease WB New Rd Hd rem r fk =
      .ok ([], none, some ⟨"plugin.(*Recipient).WrapWithLabels", 0, []⟩, some c) := by
  have hO' : Open r.name (bs "recipient-v1") = .ok (c, some e) := hO
  simp [plugin_Recipient_WrapWithLabels, ↓words, hO', bind, Except.bind, pure, Except.pure]

/-- the plugin cannot be started: `Unwrap` returns error site 0 and no key -/
theorem identity_open_fails (i : plugin_Identity υ) (ss : List age_Stanza) (c : χ) (e : Go.Err)
    (hO : Open i.name "identity-v1".toUTF8.toList = .ok (c, some e)) :
    plugin_Identity_Unwrap Open W Close grease M New Rd Hd rem i ss =
      .ok ([], some ⟨"plugin.(*Identity).Unwrap", 0, []⟩, some c) := by
  have hO' : Open i.name (bs "identity-v1") = .ok (c, some e) := hO
  simp [plugin_Identity_Unwrap, ↓words, hO', bind, Except.bind, pure, Except.pure]

/-- the first write fails: the connection is closed and that error is returned, with nothing else -/
theorem recipient_first_write_fails (r : plugin_Recipient υ) (fk : Bytes) (c c' : χ) (e : Go.Err) (ce : Option Go.Err)
    (hO : Open r.name "recipient-v1".toUTF8.toList = .ok (c, none))
    (hW : W c (if r.identity then "add-identity".toUTF8.toList else "add-recipient".toUTF8.toList) [r.encoding] = .ok (some e, c'))
    (hC : Close c' = .ok ce) :
    plugin_Recipient_WrapWithLabels Open W Close grease WB New Rd Hd rem r fk = .ok ([], none, some e, some c') := by
  have hO' : Open r.name (bs "recipient-v1") = .ok (c, none) := hO
  have hW' : W c (if r.identity then bs "add-identity" else bs "add-recipient") [r.encoding] = .ok (some e, c') := hW
  cases hid : r.identity <;> simp only [hid, Bool.false_eq_true, ↓reduceIte] at hW' <;>
    simp [plugin_Recipient_WrapWithLabels, ↓words, hO', hid, hW', hC, bind, Except.bind, pure, Except.pure]

theorem identity_first_write_fails (i : plugin_Identity υ) (ss : List age_Stanza) (c c' : χ) (e : Go.Err) (ce : Option Go.Err)
    (hO : Open i.name "identity-v1".toUTF8.toList = .ok (c, none))
    (hW : W c "add-identity".toUTF8.toList [i.encoding] = .ok (some e, c'))
    (hC : Close c' = .ok ce) :
    plugin_Identity_Unwrap Open W Close grease M New Rd Hd rem i ss = .ok ([], some e, some c') := by
  have hO' : Open i.name (bs "identity-v1") = .ok (c, none) := hO
  have hW' : W c (bs "add-identity") [i.encoding] = .ok (some e, c') := hW
  simp [plugin_Identity_Unwrap, ↓words, hO', hW', hC, bind, Except.bind, pure, Except.pure]

end
end GoTie
end AgeModel
