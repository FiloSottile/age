/-
  Proofs.File — the identity loop of Decrypt; Decrypt on the Spec file, and on an honest header
  followed by arbitrary bytes.
-/
import Proofs.Recipients
import Proofs.FormatTop
import Proofs.StreamWriterTop
import Proofs.StreamReaderTop
namespace AgeModel
open Format Stream

theorem identityLoop_found (P : Prims) (ss : List Stanza) (pre post : List Identity) (id : Identity) (fk : Bytes)
    (hpre : ∀ i ∈ pre, i.unwrap P ss = .incorrect) (hid : id.unwrap P ss = .key fk) :
    ∀ n c, identityLoop P ss (pre ++ id :: post) n c = (.ok (some fk), c + pre.length + 1) := by
  induction pre with
  | nil => intro n c; simp [identityLoop, hid]
  | cons i pre ih =>
    intro n c
    simp only [List.cons_append, identityLoop, hpre i (by simp)]
    rw [ih (fun x hx => hpre x (by simp [hx]))]
    simp only [List.length_cons]
    congr 1; omega

theorem identityLoop_all_incorrect (P : Prims) (ss : List Stanza) (ids : List Identity)
    (h : ∀ i ∈ ids, i.unwrap P ss = .incorrect) :
    ∀ n c, identityLoop P ss ids n c = (.ok none, c + ids.length) ∧ countIncorrect P ss ids = ids.length := by
  induction ids with
  | nil => intro n c; simp [identityLoop, countIncorrect]
  | cons i ids ih =>
    intro n c
    have := ih (fun x hx => h x (by simp [hx])) (n+1) (c+1)
    simp only [identityLoop, countIncorrect, h i (by simp), this.1, this.2, List.length_cons]
    refine ⟨?_, by omega⟩
    congr 1; omega

theorem specFile_parse (P : Prims) (hP : P.Correct) (C : Nat) (fk nonce pt : Bytes) (stanzas : List Stanza)
    (hwf : ∀ s ∈ stanzas, s.WF) :
    parse (specFile P C fk stanzas nonce pt)
      = .ok ({ stanzas := stanzas, mac := headerMAC P fk stanzas },
             nonce ++ Stream.encrypt P.aead C (streamKey P fk nonce) pt) := by
  unfold specFile
  rw [List.append_assoc]
  exact parse_marshal _ ⟨hwf, hP.hmac_len _ _⟩ _

def headerBytes (P : Prims) (fk : Bytes) (stanzas : List Stanza) : Bytes :=
  marshal { stanzas := stanzas, mac := headerMAC P fk stanzas }

theorem specFile_eq_header (P : Prims) (C : Nat) (fk nonce pt : Bytes) (stanzas : List Stanza) :
    specFile P C fk stanzas nonce pt = headerBytes P fk stanzas ++ (nonce ++ Stream.encrypt P.aead C (streamKey P fk nonce) pt) := by
  simp [specFile, headerBytes]

theorem decryptInit_header_rest (P : Prims) (hP : P.Correct) (fk : Bytes) (stanzas : List Stanza) (rest : Bytes)
    (hwf : ∀ s ∈ stanzas, s.WF) (hfk : fk ≠ [])
    (pre post : List Identity) (id : Identity)
    (hpre : ∀ i ∈ pre, i.unwrap P stanzas = .incorrect) (hid : id.unwrap P stanzas = .key fk) :
    decryptInit P (pre ++ id :: post) (headerBytes P fk stanzas ++ rest) =
      if rest.length < streamNonceSize then (.error .nonce, pre.length + 1)
      else (.ok (streamKey P fk (rest.take streamNonceSize), rest.drop streamNonceSize), pre.length + 1) := by
  unfold decryptInit headerBytes
  have hne : (pre ++ id :: post).isEmpty = false := by cases pre <;> rfl
  have hfe : fk.isEmpty = false := by cases fk with | nil => exact absurd rfl hfk | cons _ _ => rfl
  rw [hne, parse_marshal _ ⟨hwf, hP.hmac_len _ _⟩ rest]
  simp only [identityLoop_found P stanzas pre post id fk hpre hid 0 0, hfe, Bool.false_and, Bool.false_eq_true,
    if_false, ne_eq, not_true_eq_false, Nat.zero_add]

theorem decryptInit_specFile (P : Prims) (hP : P.Correct) (C : Nat) (fk nonce pt : Bytes) (stanzas : List Stanza)
    (hwf : ∀ s ∈ stanzas, s.WF) (hfk : fk ≠ []) (hn : nonce.length = streamNonceSize)
    (pre post : List Identity) (id : Identity)
    (hpre : ∀ i ∈ pre, i.unwrap P stanzas = .incorrect) (hid : id.unwrap P stanzas = .key fk) :
    decryptInit P (pre ++ id :: post) (specFile P C fk stanzas nonce pt)
      = (.ok (streamKey P fk nonce, Stream.encrypt P.aead C (streamKey P fk nonce) pt), pre.length + 1) := by
  rw [specFile_eq_header, decryptInit_header_rest P hP fk stanzas _ hwf hfk pre post id hpre hid,
    if_neg (by rw [List.length_append, hn]; omega), List.take_left' hn, List.drop_left' hn]

theorem decryptFile_specFile (P : Prims) (hP : P.Correct) (hN : P.aead.NonceSep) (C : Nat) (hC : 0 < C)
    (fk nonce pt : Bytes) (stanzas : List Stanza)
    (hwf : ∀ s ∈ stanzas, s.WF) (hfk : fk ≠ []) (hn : nonce.length = streamNonceSize)
    (pre post : List Identity) (id : Identity)
    (hpre : ∀ i ∈ pre, i.unwrap P stanzas = .incorrect) (hid : id.unwrap P stanzas = .key fk) :
    decryptFile P C (pre ++ id :: post) (specFile P C fk stanzas nonce pt) = .ok (pt, .eof) := by
  unfold decryptFile
  rw [decryptInit_specFile P hP C fk nonce pt stanzas hwf hfk hn pre post id hpre hid]
  simp only
  rw [stream_roundtrip P.aead hP.aead hN C hC]

end AgeModel
