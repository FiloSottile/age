/-
  Proofs.GoTiePlugName — plugin.validPluginName as translated is the model's
-/
import AgeModel.GoSem
import AgeModel.Keys
import AgeModel.Extracted.Funcs
import Proofs.GoTieRunes
namespace AgeModel
namespace GoTie
open Extracted

theorem validPluginName_loop (allowed : List UInt8) (rs : List (Int × Int)) :
    plugin_validPluginName_loop1 allowed rs =
      .ok (if rs.any (fun p => !Go.strings_ContainsRune allowed p.2) then .ret false else .next ()) :=
  searchLoop_eq _ _ _ rfl (fun _ _ => rfl) rs

theorem allowed_ascii : Go.isAscii Keys.allowed = true := by decide

theorem not_allowed_of_nonascii (b : UInt8) (hb : 128 ≤ b.toNat) : Keys.allowed.contains b = false :=
  Bool.eq_false_iff.mpr fun h =>
    Nat.not_lt.mpr hb (UInt8.lt_iff_toNat_lt.mp (lt_of_contains_ascii allowed_ascii h))

theorem validPluginName_tie (n : Bytes) : plugin_validPluginName n = .ok (Keys.validPluginName n) := by
  cases n with
  | nil => rfl
  | cons b rest =>
    have hl : ((b :: rest) == ([] : List UInt8)) = false := rfl
    have hany := runes_any (fun r => !Go.strings_ContainsRune Keys.allowed r)
      (fun b => !Keys.allowed.contains b)
      (fun b hb => by simp only [containsRune_ascii Keys.allowed b hb])
      (fun b hb => by simp only [not_allowed_of_nonascii b hb, Bool.not_false])
      (fun r hr => by simp only [containsRune_nonascii Keys.allowed allowed_ascii r hr, Bool.not_false])
      (b :: rest)
    have hv : Keys.validPluginName (b :: rest) = !(b :: rest).any (fun b => !Keys.allowed.contains b) := by
      simp only [Keys.validPluginName, reduceCtorEq, if_false, List.all_eq_not_any_not]
    rw [hv, ← hany]
    simp only [plugin_validPluginName, hl, validPluginName_loop, bind, Except.bind, pure,
      Except.pure, Bool.false_eq_true, if_false]
    unfold Keys.allowed
    generalize List.any _ _ = x
    cases x <;> rfl


end GoTie
end AgeModel
