/-
  Proofs.Recipients — for each native recipient type: the identity unwraps the
  stanza its recipient wrapped; stanzas of other types are answered "incorrect";
  wrapped stanzas are well formed.
-/
import AgeModel.File
import Proofs.FormatParse
namespace AgeModel
open Format B64

theorem alpha_valid : ∀ n < 64, 33 ≤ (alpha n).toNat ∧ (alpha n).toNat ≤ 126 := by decide +kernel

theorem encRaw_valid (b : Bytes) (hpos : 0 < b.length) : validString (encRaw b) = true := by
  unfold validString
  simp only [Bool.and_eq_true, Bool.not_eq_true', List.all_eq_true, decide_eq_true_eq]
  constructor
  · have := encRaw_length b
    cases h : encRaw b with
    | nil => rw [h] at this; simp at this; omega
    | cons x xs => rfl
  · intro c hc
    obtain ⟨n, hn, rfl⟩ := encRaw_chars b c hc
    have := alpha_valid n hn
    omega

theorem workFactor_roundtrip : ∀ n < 31, 1 ≤ n →
    parseWorkFactor (natToDec n) = some n ∧ validString (natToDec n) = true := by decide +kernel

/-- the size check passes and the AEAD opens what it sealed: the last step of both native unwraps of a wrapped key -/
theorem aeadDecryptSized_wrapSeal {P : Prims} (hP : P.Correct) (key fk : Bytes) :
    aeadDecryptSized P key fk.length (P.wrapSeal key fk) = .key fk := by
  unfold aeadDecryptSized Prims.wrapSeal Prims.wrapOpen
  rw [hP.aead.seal_len, hP.aead.open_seal, if_neg (not_not_intro rfl)]

/-- the shape of the X25519 and ssh-ed25519 wraps -/
theorem bind2_some {α : Type} {a b : Option Bytes} {g : Bytes → Bytes → α} {r : α}
    (h : (do let x ← a; let y ← b; pure (g x y)) = some r) : ∃ x y, a = some x ∧ b = some y ∧ r = g x y := by
  cases a with
  | none => cases h
  | some x =>
    cases b with
    | none => cases h
    | some y => cases h; exact ⟨x, y, rfl, rfl, rfl⟩

theorem wrapX25519_some {P : Prims} {pk eph fk : Bytes} {st : Stanza} (hw : wrapX25519 P pk eph fk = some st) :
    ∃ ourPub shared, P.x25519 eph P.basepoint = some ourPub ∧ P.x25519 eph pk = some shared ∧
      st = { type := tX25519, args := [encRaw ourPub],
             body := P.wrapSeal (P.hkdf shared (ourPub ++ pk) x25519Label 32) fk } :=
  bind2_some hw

theorem x25519_wrap_unwrap (P : Prims) (hP : P.Correct) (sk pk eph fk : Bytes) (st : Stanza)
    (hpk : P.x25519 sk P.basepoint = some pk) (hfk : fk.length = fileKeySize)
    (hw : wrapX25519 P pk eph fk = some st) :
    unwrapX25519 P sk st = .key fk := by
  obtain ⟨ourPub, shared, ho, hs, rfl⟩ := wrapX25519_some hw
  have hlen := hP.x25519_len _ _ _ ho
  have hcomm := (hP.dh_comm eph sk ourPub pk ho hpk).symm.trans hs
  unfold unwrapX25519
  simp only [ne_eq, not_true_eq_false, if_false, decodeString_enc, hlen, hcomm, hpk, Option.getD_some]
  rw [← hfk, aeadDecryptSized_wrapSeal hP]

theorem x25519_other_type (P : Prims) (sk : Bytes) (s : Stanza) (h : s.type ≠ tX25519) :
    unwrapX25519 P sk s = .incorrect := by
  unfold unwrapX25519; simp [h]

theorem wrapX25519_wf (P : Prims) (hP : P.Correct) (pk eph fk : Bytes) (st : Stanza)
    (hw : wrapX25519 P pk eph fk = some st) : st.WF := by
  obtain ⟨ourPub, shared, ho, hs, rfl⟩ := wrapX25519_some hw
  have hlen := hP.x25519_len _ _ _ ho
  exact ⟨(by decide : validString tX25519 = true), List.forall_mem_singleton.mpr (encRaw_valid ourPub (by omega))⟩

theorem scrypt_wrap_unwrap (P : Prims) (hP : P.Correct) (pw salt fk : Bytes) (logN maxWF : Nat)
    (h1 : 1 ≤ logN) (h30 : logN ≤ 30) (hmax : logN ≤ maxWF)
    (hsalt : salt.length = scryptSaltSize) (hfk : fk.length = fileKeySize) :
    unwrapScrypt P pw maxWF (wrapScrypt P pw logN salt fk) = (.key fk, [logN]) := by
  unfold unwrapScrypt wrapScrypt
  have hwf := (workFactor_roundtrip logN (Nat.lt_succ_of_le h30) h1).1
  have hnot : ¬ logN > maxWF := by omega
  simp only [ne_eq, not_true_eq_false, if_false, decodeString_enc, hsalt, hwf, hnot]
  rw [← hfk, aeadDecryptSized_wrapSeal hP]

theorem wrapScrypt_wf (P : Prims) (pw salt fk : Bytes) (logN : Nat) (h1 : 1 ≤ logN) (h30 : logN ≤ 30)
    (hsalt : salt.length = scryptSaltSize) : (wrapScrypt P pw logN salt fk).WF := by
  exact ⟨(by decide : validString tScrypt = true), List.forall_mem_cons.mpr ⟨encRaw_valid salt (by rw [hsalt]; decide),
    List.forall_mem_singleton.mpr (workFactor_roundtrip logN (Nat.lt_succ_of_le h30) h1).2⟩⟩

theorem aeadDecryptSized_key {P : Prims} {key ct k : Bytes} {size : Nat}
    (h : aeadDecryptSized P key size ct = .key k) : P.wrapOpen key ct = some k := by
  unfold aeadDecryptSized at h
  split at h
  · cases h
  · cases ho : P.wrapOpen key ct with
    | none => rw [ho] at h; cases h
    | some k' => rw [ho] at h; cases h; rfl

theorem unwrapScrypt_cases (P : Prims) (pw : Bytes) (maxWF : Nat) (s : Stanza) :
    (∃ a w salt n, s.args = [a, w] ∧ decodeString a = some salt ∧ salt.length = scryptSaltSize ∧
        parseWorkFactor w = some n ∧ n ≤ maxWF ∧
        unwrapScrypt P pw maxWF s =
          (aeadDecryptSized P (P.scrypt pw (scryptLabel ++ salt) n) fileKeySize s.body, [n])) ∨
      unwrapScrypt P pw maxWF s = (.incorrect, []) ∨ unwrapScrypt P pw maxWF s = (.fatal, []) := by
  generalize hr : unwrapScrypt P pw maxWF s = r
  unfold unwrapScrypt at hr
  split at hr
  · exact .inr (.inl hr.symm)
  · split at hr
    · rename_i a w hargs
      split at hr
      · exact .inr (.inr hr.symm)
      · rename_i salt hd
        split at hr
        · exact .inr (.inr hr.symm)
        · rename_i hsl
          split at hr
          · exact .inr (.inr hr.symm)
          · rename_i n hn
            split at hr
            · exact .inr (.inr hr.symm)
            · exact .inl ⟨a, w, salt, n, hargs, hd, Decidable.of_not_not hsl, hn, Nat.le_of_not_lt ‹_›, hr.symm⟩
    · exact .inr (.inr hr.symm)

theorem scrypt_other_type (P : Prims) (pw : Bytes) (m : Nat) (s : Stanza) (h : s.type ≠ tScrypt) :
    unwrapScrypt P pw m s = (.incorrect, []) := by
  unfold unwrapScrypt; simp [h]

theorem sshTag_valid (P : Prims) (hP : P.Correct) (wire : Bytes) : validString (sshTag P wire) = true := by
  exact encRaw_valid _ (by rw [List.length_take, hP.sha256_len]; decide)

theorem wrapSshEd_some {P : Prims} {wire pk eph fk : Bytes} {st : Stanza} (hw : wrapSshEd P wire pk eph fk = some st) :
    ∃ ourPub shared, P.x25519 eph P.basepoint = some ourPub ∧ P.x25519 eph pk = some shared ∧
      st = { type := tSshEd, args := [sshTag P wire, encRaw ourPub],
             body := P.wrapSeal (P.hkdf ((P.x25519 (P.hkdf [] wire ed25519Label 32) shared).getD [])
               (ourPub ++ pk) ed25519Label 32) fk } :=
  bind2_some hw

theorem sshEd_wrap_unwrap (P : Prims) (hP : P.Correct) (wire sk pk eph fk : Bytes) (st : Stanza)
    (hpk : P.x25519 sk P.basepoint = some pk)
    (hw : wrapSshEd P wire pk eph fk = some st) :
    unwrapSshEd P wire sk st = .key fk := by
  obtain ⟨ourPub, shared, ho, hs, rfl⟩ := wrapSshEd_some hw
  have hlen := hP.x25519_len _ _ _ ho
  have hcomm := (hP.dh_comm eph sk ourPub pk ho hpk).symm.trans hs
  unfold unwrapSshEd
  simp only [ne_eq, not_true_eq_false, if_false, decodeString_enc, hlen, hcomm, hpk, Option.getD_some]
  unfold Prims.wrapSeal Prims.wrapOpen
  rw [hP.aead.open_seal]

theorem sshEd_other_tag (P : Prims) (wire sk : Bytes) (s : Stanza) (a : Bytes) (tag pkb : Bytes)
    (ht : s.type = tSshEd) (hargs : s.args = [tag, a]) (hd : decodeString a = some pkb) (hl : pkb.length = 32)
    (hne : tag ≠ sshTag P wire) : unwrapSshEd P wire sk s = .incorrect := by
  unfold unwrapSshEd
  simp [ht, hargs, hd, hl, hne]

theorem sshEd_other_type (P : Prims) (wire sk : Bytes) (s : Stanza) (h : s.type ≠ tSshEd) :
    unwrapSshEd P wire sk s = .incorrect := by
  unfold unwrapSshEd; simp [h]

theorem wrapSshEd_wf (P : Prims) (hP : P.Correct) (wire pk eph fk : Bytes) (st : Stanza)
    (hw : wrapSshEd P wire pk eph fk = some st) : st.WF := by
  obtain ⟨ourPub, shared, ho, hs, rfl⟩ := wrapSshEd_some hw
  have hlen := hP.x25519_len _ _ _ ho
  exact ⟨(by decide : validString tSshEd = true), List.forall_mem_cons.mpr ⟨sshTag_valid P hP wire,
    List.forall_mem_singleton.mpr (encRaw_valid ourPub (by omega))⟩⟩

theorem wrapSshRsa_some {P : Prims} {wire pub seed fk : Bytes} {st : Stanza} (hw : wrapSshRsa P wire pub seed fk = some st) :
    ∃ c, P.oaepEnc pub seed fk oaepLabel = some c ∧ st = { type := tSshRsa, args := [sshTag P wire], body := c } := by
  unfold wrapSshRsa at hw
  cases hc : P.oaepEnc pub seed fk oaepLabel with
  | none => rw [hc] at hw; cases hw
  | some c => rw [hc] at hw; cases hw; exact ⟨c, rfl, rfl⟩

theorem sshRsa_wrap_unwrap (P : Prims) (hP : P.Correct) (wire pub priv seed fk : Bytes) (st : Stanza)
    (hpair : P.rsaPair pub priv) (hw : wrapSshRsa P wire pub seed fk = some st) :
    unwrapSshRsa P wire priv st = .key fk := by
  obtain ⟨c, hc, rfl⟩ := wrapSshRsa_some hw
  unfold unwrapSshRsa
  simp [hP.oaep pub priv hpair seed fk oaepLabel c hc]

theorem sshRsa_other_type (P : Prims) (wire priv : Bytes) (s : Stanza) (h : s.type ≠ tSshRsa) :
    unwrapSshRsa P wire priv s = .incorrect := by
  unfold unwrapSshRsa; simp [h]

theorem sshRsa_other_tag (P : Prims) (wire priv : Bytes) (s : Stanza) (tag : Bytes)
    (ht : s.type = tSshRsa) (hargs : s.args = [tag]) (hne : tag ≠ sshTag P wire) :
    unwrapSshRsa P wire priv s = .incorrect := by
  unfold unwrapSshRsa; simp [ht, hargs, hne]

theorem wrapSshRsa_wf (P : Prims) (hP : P.Correct) (wire pub seed fk : Bytes) (st : Stanza)
    (hw : wrapSshRsa P wire pub seed fk = some st) : st.WF := by
  obtain ⟨c, hc, rfl⟩ := wrapSshRsa_some hw
  exact ⟨(by decide : validString tSshRsa = true), List.forall_mem_singleton.mpr (sshTag_valid P hP wire)⟩

/-- the identity's own stanza is found behind any stanzas it answers "incorrect" to -/
theorem multiUnwrap_skip (f : Stanza → UnwrapResult) (before after : List Stanza) (own : Stanza) (k : Bytes)
    (hb : ∀ s ∈ before, f s = .incorrect) (ho : f own = .key k) :
    multiUnwrap f (before ++ own :: after) = .key k := by
  induction before with
  | nil => simp [multiUnwrap, ho]
  | cons s ss ih =>
    simp only [List.cons_append, multiUnwrap, hb s (by simp)]
    exact ih (fun x hx => hb x (by simp [hx]))

theorem multiUnwrap_all_incorrect (f : Stanza → UnwrapResult) (ss : List Stanza)
    (h : ∀ s ∈ ss, f s = .incorrect) : multiUnwrap f ss = .incorrect := by
  induction ss with
  | nil => rfl
  | cons s ss ih =>
    simp only [multiUnwrap, h s (by simp)]
    exact ih (fun x hx => h x (by simp [hx]))

theorem multiUnwrapLog_all_incorrect (f : Stanza → UnwrapResult × List Nat) (ss : List Stanza)
    (h : ∀ s ∈ ss, f s = (.incorrect, [])) : multiUnwrapLog f ss = (.incorrect, []) := by
  induction ss with
  | nil => rfl
  | cons s ss ih =>
    rw [multiUnwrapLog, h s List.mem_cons_self, ih fun x hx => h x (List.mem_cons_of_mem _ hx)]
    rfl

end AgeModel
