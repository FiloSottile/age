/-
  Proofs.GoTieCliEncId — cmd/age's passphrase-protected identity file, as it stands in the source.

  `(*EncryptedIdentity).Unwrap` (cmd/age/encrypted_keys.go) is TRANSLATED on every run; its
  `decrypt` (age.Decrypt of the file with the lazy passphrase identity, then parseIdentities), the
  `Unwrap` of the identities inside and `errors.Is` are parameters; `identities` is a field whose
  being nil ("not decrypted yet") differs from being empty. The theorems give the model's
  `EncId.unwrap`: once the identities are cached `decrypt` is NOT called again (it may fault when
  called) — so the passphrase is asked for at most once per identity value — a failed `decrypt` is
  returned and caches nothing, the cached identities are tried in order up to the first that does
  not answer "incorrect identity", and the "no match" warning is given exactly when all of them do.
-/
import AgeModel.Extracted.Funcs
import AgeModel.CliIdent
import Proofs.GoTieUnwrap
import Proofs.GoBuf
import Proofs.GoBind
namespace AgeModel
namespace GoTie
open Extracted CliIdent

/-- the identities inside behave as model identities -/
def IdsAre (P : Prims) {ι : Type} (idOf : ι → Identity) (U : ι → List age_Stanza → Go.M (Bytes × Option Go.Err)) : Prop :=
  ∀ i ss, ∃ r, U i (ss.map toGoStanza) = .ok r ∧ resClass r = (idOf i).unwrap P ss

theorem encid_loop (P : Prims) {ι : Type} (idOf : ι → Identity) (U : ι → List age_Stanza → Go.M (Bytes × Option Go.Err))
    (hU : IdsAre P idOf U) (i : main_EncryptedIdentity ι) (ss : List Format.Stanza) (ids : List ι) :
    ∀ (fk : Bytes) (err : Option Go.Err),
    ∃ l, main_EncryptedIdentity_Unwrap_loop1 U errorsIsEq i (ss.map toGoStanza) ids fk err = .ok l ∧
      match l with
      | .next _ => tryAll P ss (ids.map idOf) = .incorrect
      | .ret v => v.2.2 = i ∧ resClass (v.1, v.2.1) = tryAll P ss (ids.map idOf) ∧
          tryAll P ss (ids.map idOf) ≠ .incorrect := by
  induction ids with
  | nil => intro fk err; exact ⟨.next (fk, err), rfl, rfl⟩
  | cons a ids ih =>
    intro fk err
    obtain ⟨r, hr, hc⟩ := hU a ss
    obtain ⟨l, hl, hl'⟩ := ih r.1 r.2
    simp only [List.map_cons, main_EncryptedIdentity_Unwrap_loop1, hr, errorsIsEq, bind, Except.bind, pure, Except.pure, tryAll]
    rw [← hc]
    by_cases h1 : r.2 = age_ErrIncorrectIdentity
    · have hc1 : resClass r = .incorrect := resClass_of_incorrect h1
      have hb : (r.2 == age_ErrIncorrectIdentity) = true := beq_iff_eq.2 h1
      simp only [hb, if_true, hl, hc1]
      exact ⟨l, rfl, hl'⟩
    · have hb : (r.2 == age_ErrIncorrectIdentity) = false := beq_eq_false_iff_ne.2 h1
      simp only [hb, Bool.false_eq_true, if_false]
      by_cases h2 : r.2 = none
      · have hc2 : resClass r = .key r.1 := resClass_of_none h2
        have hb2 : (r.2 != none) = false := bne_eq_false_iff_eq.2 h2
        simp only [hb2, Bool.false_eq_true, if_false, hc2]
        exact ⟨_, rfl, rfl, resClass_of_none rfl, nofun⟩
      · have hc2 : resClass r = .fatal := resClass_of_fatal h2 h1
        have hb2 : (r.2 != none) = true := bne_iff_ne.2 h2
        simp only [hb2, if_true, hc2]
        exact ⟨_, rfl, rfl, resClass_of_fatal h2 h1, nofun⟩

/-- identities cached, whatever the warning `wn` is: no decryption; the identities are tried in order, and `wn` is run
    exactly when all of them answer "incorrect identity"; the value is unchanged -/
theorem encid_cached (P : Prims) {ι : Type} (idOf : ι → Identity) (U : ι → List age_Stanza → Go.M (Bytes × Option Go.Err))
    (hU : IdsAre P idOf U) (c : Bytes) (pp : Go.M (Bytes × Option Go.Err)) (wn : Go.M Unit) (ids : List ι)
    (ss : List Format.Stanza) :
    ∃ r, resClass r = tryAll P ss (ids.map idOf) ∧
      main_EncryptedIdentity_Unwrap (fun _ => .error (.panic 97)) U errorsIsEq ⟨c, pp, wn, some ids⟩ (ss.map toGoStanza) =
        (if tryAll P ss (ids.map idOf) = .incorrect then wn else pure ()) >>= fun _ =>
          .ok (r.1, r.2, ⟨c, pp, wn, some ids⟩) := by
  obtain ⟨l, hl, hl'⟩ := encid_loop P idOf U hU ⟨c, pp, wn, some ids⟩ ss ids [] none
  simp only [main_EncryptedIdentity_Unwrap, Option.isNone_some, Bool.false_eq_true, if_false, Option.getD_some, hl,
    Go.bind_ok]
  cases l with
  | next x =>
    rw [hl', if_pos rfl]
    exact ⟨([], age_ErrIncorrectIdentity), resClass_incorrect, rfl⟩
  | ret v =>
    obtain ⟨h1, h2, h3⟩ := hl'
    rw [if_neg h3, ← h1]
    exact ⟨(v.1, v.2.1), h2, rfl⟩

/-- identities cached: no decryption, the identities in order; the value is unchanged -/
theorem encid_cached_tie (P : Prims) {ι : Type} (idOf : ι → Identity) (U : ι → List age_Stanza → Go.M (Bytes × Option Go.Err))
    (hU : IdsAre P idOf U) (c : Bytes) (pp : Go.M (Bytes × Option Go.Err)) (ids : List ι) (ss : List Format.Stanza) :
    ∃ r, main_EncryptedIdentity_Unwrap (fun _ => .error (.panic 97)) U errorsIsEq ⟨c, pp, .ok (), some ids⟩ (ss.map toGoStanza) =
        .ok (r.1, r.2, ⟨c, pp, .ok (), some ids⟩) ∧
      resClass r = tryAll P ss (ids.map idOf) := by
  obtain ⟨r, hr, h⟩ := encid_cached P idOf U hU c pp (.ok ()) ids ss
  refine ⟨r, ?_, hr⟩
  rw [h]
  split <;> rfl

/-- the warning is not given when some identity answers something other than "incorrect identity" -/
theorem encid_cached_no_warning (P : Prims) {ι : Type} (idOf : ι → Identity) (U : ι → List age_Stanza → Go.M (Bytes × Option Go.Err))
    (hU : IdsAre P idOf U) (c : Bytes) (pp : Go.M (Bytes × Option Go.Err)) (ids : List ι) (ss : List Format.Stanza)
    (h : tryAll P ss (ids.map idOf) ≠ .incorrect) :
    ∃ r, main_EncryptedIdentity_Unwrap (fun _ => .error (.panic 97)) U errorsIsEq ⟨c, pp, .error (.panic 98), some ids⟩ (ss.map toGoStanza) =
        .ok (r.1, r.2, ⟨c, pp, .error (.panic 98), some ids⟩) ∧
      resClass r = tryAll P ss (ids.map idOf) := by
  obtain ⟨r, hr, h'⟩ := encid_cached P idOf U hU c pp (.error (.panic 98)) ids ss
  rw [if_neg h] at h'
  exact ⟨r, h', hr⟩

/-- … and it IS given when all of them answer "incorrect identity" (witnessed by a warning that faults when run) -/
theorem encid_cached_warning (P : Prims) {ι : Type} (idOf : ι → Identity) (U : ι → List age_Stanza → Go.M (Bytes × Option Go.Err))
    (hU : IdsAre P idOf U) (c : Bytes) (pp : Go.M (Bytes × Option Go.Err)) (ids : List ι) (ss : List Format.Stanza)
    (h : tryAll P ss (ids.map idOf) = .incorrect) :
    main_EncryptedIdentity_Unwrap (fun _ => .error (.panic 97)) U errorsIsEq ⟨c, pp, .error (.panic 98), some ids⟩ (ss.map toGoStanza) =
      .error (.panic 98) := by
  obtain ⟨r, _, h'⟩ := encid_cached P idOf U hU c pp (.error (.panic 98)) ids ss
  rw [h', if_pos h]
  rfl

/-- nothing cached: `decrypt` runs (once); when it succeeds the call continues as with the cache it left -/
theorem encid_fresh_ok {ι : Type} (U : ι → List age_Stanza → Go.M (Bytes × Option Go.Err))
    (Dc : main_EncryptedIdentity ι → Go.M (Option Go.Err × main_EncryptedIdentity ι))
    (i i' : main_EncryptedIdentity ι) (hi : i.identities = none) (hD : Dc i = .ok (none, i'))
    (ids : List ι) (hi' : i'.identities = some ids) (ss : List age_Stanza) :
    main_EncryptedIdentity_Unwrap Dc U errorsIsEq i ss =
      main_EncryptedIdentity_Unwrap (fun _ => .error (.panic 97)) U errorsIsEq i' ss := by
  simp only [main_EncryptedIdentity_Unwrap, hi, hi', hD, Option.isNone_none, Option.isNone_some, if_true,
    Bool.false_eq_true, if_false, Go.none_bne_none, bind, Except.bind, pure, Except.pure]

/-- … and when it fails its error is returned as it is, the inner identities are not consulted, no warning -/
theorem encid_fresh_fail {ι : Type}
    (Dc : main_EncryptedIdentity ι → Go.M (Option Go.Err × main_EncryptedIdentity ι))
    (i i' : main_EncryptedIdentity ι) (hi : i.identities = none) (e : Go.Err) (hD : Dc i = .ok (some e, i'))
    (ss : List age_Stanza) :
    main_EncryptedIdentity_Unwrap Dc (fun _ _ => .error (.panic 96)) errorsIsEq i ss = .ok ([], some e, i') := by
  simp only [main_EncryptedIdentity_Unwrap, hi, hD, Option.isNone_none, if_true, Go.some_bne_none,
    bind, Except.bind, pure, Except.pure]

end GoTie
end AgeModel
