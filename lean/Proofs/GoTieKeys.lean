/-
  Proofs.GoTieKeys — the native key strings, as they stand in the source.

  `age.ParseX25519Recipient`, `(*X25519Recipient).String`, `age.ParseX25519Identity`,
  `(*X25519Identity).String`, `.Recipient` and the two constructors behind them are TRANSLATED from
  x25519.go on every run, on top of the translated `bech32.Decode` / `Encode` (nothing abstract but
  the scalar multiplication that derives the public key). They are proved to compute, for EVERY
  byte string, the model's `Keys.parseX25519Recipient/Identity`, `recipientString`,
  `identityString` — the functions `Props.C09`'s round-trip, canonicity and rejection theorems are
  about.
-/
import AgeModel.GoSem
import AgeModel.Keys
import AgeModel.Extracted.Funcs
import Proofs.GoTieCodec
import Proofs.Bech32Keys
import Proofs.GoBuf
namespace AgeModel
namespace GoTie
open Extracted

theorem keys_copy32 (k : Bytes) (h : k.length = 32) :
    Go.writeAt (List.replicate 32 (0 : UInt8)) 0
      (k.take (min (Go.len (List.replicate 32 (0 : UInt8))) (Go.len k)).toNat) = k := by
  have e : (min (Go.len (List.replicate 32 (0 : UInt8))) (Go.len k)).toNat = 32 := by
    simp only [Go.len, List.length_replicate, h, Int.ofNat_eq_natCast]
    omega
  rw [e, List.take_of_length_le (by omega)]
  exact Go.writeAt_fresh 32 k h

theorem keys_newRecipient (k : Bytes) :
    age_newX25519RecipientFromPoint k = .ok (if k.length ≠ 32
      then (⟨[]⟩, some ⟨"age.newX25519RecipientFromPoint", 0, []⟩) else (⟨k⟩, none)) := by
  unfold age_newX25519RecipientFromPoint
  by_cases h : k.length = 32
  · have ht : (Go.len k != (32 : Int)) = false := Go.len_bne_of_eq h
    simp only [ht, h, Go.make32, Go.bind_ok, pure, Except.pure, keys_copy32 k h, ne_eq, not_true_eq_false,
      Bool.false_eq_true, if_false]
  · have ht : (Go.len k != (32 : Int)) = true := Go.len_bne_of_ne h
    simp only [ht, h, pure, Except.pure, ne_eq, not_false_eq_true, if_true]

theorem keys_newIdentity (X : Bytes → Bytes → Go.M (Bytes × Option Go.Err)) (bp k : Bytes) :
    age_newX25519IdentityFromScalar X bp k = (if k.length ≠ 32
      then .ok (⟨[], []⟩, some ⟨"age.newX25519IdentityFromScalar", 0, []⟩)
      else match X k bp with
        | .ok r => .ok (⟨k, r.1⟩, none)
        | .error e => .error e) := by
  unfold age_newX25519IdentityFromScalar
  by_cases h : k.length = 32
  · have ht : (Go.len k != (32 : Int)) = false := Go.len_bne_of_eq h
    simp only [ht, h, Go.make32, Go.bind_ok, pure, Except.pure, keys_copy32 k h, ne_eq, not_true_eq_false,
      Bool.false_eq_true, if_false]
    cases X k bp <;> rfl
  · have ht : (Go.len k != (32 : Int)) = true := Go.len_bne_of_ne h
    simp only [ht, h, pure, Except.pure, ne_eq, not_false_eq_true, if_true]

theorem keys_encode_ascii (hrp data : Bytes) : Go.isAscii (Keys.encodeOrEmpty hrp data) = true := by
  unfold Keys.encodeOrEmpty
  cases h : Bech32.encode hrp data with
  | error e => rfl
  | ok s =>
    obtain ⟨_, _, _, hb, _⟩ := Bech32.decode_ok (Bech32.decode_encode h)
    exact isAscii_of_noBad s hb

theorem parseX25519Recipient_tie (s : Bytes) :
    ∃ res, age_ParseX25519Recipient s = .ok res ∧
      match Keys.parseX25519Recipient s with
      | .ok k => res = (⟨k⟩, none)
      | .error _ => res.1 = ⟨[]⟩ ∧ res.2 ≠ none := by
  unfold age_ParseX25519Recipient Keys.parseX25519Recipient
  simp only [pure, Except.pure, decode_tie, Go.bind_ok]
  cases hd : Bech32.decode s with
  | error e =>
    simp only []
    rw [if_pos (decErr_ne_none e)]
    exact ⟨_, rfl, rfl, by simp⟩
  | ok r =>
    obtain ⟨t, k⟩ := r
    simp only []
    rw [if_neg (by decide)]
    by_cases h1 : t = Keys.hrpAge
    · subst h1
      rw [if_neg (by decide), if_neg (by simp)]
      rw [keys_newRecipient]
      by_cases h2 : k.length = 32
      · simp only [h2, ne_eq, not_true_eq_false, if_false]
        exact ⟨_, rfl, rfl⟩
      · simp only [h2, ne_eq, not_false_eq_true, if_true]
        exact ⟨_, rfl, rfl, by simp⟩
    · have h1' : (t != ([97, 103, 101] : List UInt8)) = true := by
        simpa [Keys.hrpAge] using h1
      rw [if_pos h1', if_pos h1]
      exact ⟨_, rfl, rfl, by simp⟩

theorem recipientString_tie (k : Bytes) :
    age_X25519Recipient_String ⟨k⟩ = .ok (Keys.recipientString k) := by
  unfold age_X25519Recipient_String Keys.recipientString
  simp only [pure, Except.pure, encode_tie, Go.bind_ok, encode_fst]
  rfl

theorem parseX25519Identity_tie (X : Bytes → Bytes → Go.M (Bytes × Option Go.Err)) (bp : Bytes)
    (hX : ∀ a b, ∃ r, X a b = .ok r) (s : Bytes) :
    ∃ res, age_ParseX25519Identity X bp s = .ok res ∧
      match Keys.parseX25519Identity s with
      | .ok k => res.2 = none ∧ res.1.secretKey = k ∧ ∃ e, X k bp = .ok (res.1.ourPublicKey, e)
      | .error _ => res.1 = ⟨[], []⟩ ∧ res.2 ≠ none := by
  unfold age_ParseX25519Identity Keys.parseX25519Identity
  simp only [pure, Except.pure, decode_tie, Go.bind_ok]
  cases hd : Bech32.decode s with
  | error e =>
    simp only []
    rw [if_pos (decErr_ne_none e)]
    exact ⟨_, rfl, rfl, by simp⟩
  | ok r =>
    obtain ⟨t, k⟩ := r
    simp only []
    rw [if_neg (by decide)]
    by_cases h1 : t = Keys.hrpSecret
    · subst h1
      rw [if_neg (by decide), if_neg (by simp)]
      rw [keys_newIdentity]
      by_cases h2 : k.length = 32
      · simp only [h2, ne_eq, not_true_eq_false, if_false]
        obtain ⟨r, hr⟩ := hX k bp
        rw [hr]
        simp only [Go.bind_ok]
        rw [if_neg (by decide)]
        exact ⟨_, rfl, rfl, rfl, r.2, rfl⟩
      · simp only [h2, ne_eq, not_false_eq_true, if_true]
        exact ⟨_, rfl, rfl, by simp⟩
    · have h1' : (t != ([65, 71, 69, 45, 83, 69, 67, 82, 69, 84, 45, 75, 69, 89, 45] : List UInt8)) = true := by
        simpa [Keys.hrpSecret] using h1
      rw [if_pos h1', if_pos h1]
      exact ⟨_, rfl, rfl, by simp⟩

theorem identityString_tie (k pub : Bytes) :
    age_X25519Identity_String ⟨k, pub⟩ = .ok (Keys.identityString k) := by
  unfold age_X25519Identity_String Keys.identityString
  simp only [pure, Except.pure, encode_tie, Go.bind_ok, encode_fst]
  show Except.ok (Go.strings_ToUpper (Keys.encodeOrEmpty Keys.hrpSecret k)) = _
  rw [toUpper_ascii _ (keys_encode_ascii _ _)]

theorem identityRecipient_tie (k pub : Bytes) :
    age_X25519Identity_Recipient ⟨k, pub⟩ = .ok ⟨pub⟩ := by
  rfl

end GoTie
end AgeModel
