/-
  Proofs.GoTieNative — the native recipients (X25519, scrypt), as they stand in the source.

  `(*X25519Recipient).Wrap`, `(*X25519Identity).unwrap/.Unwrap`, `(*ScryptRecipient).Wrap` and
  `.WrapWithLabels` are TRANSLATED from x25519.go / scrypt.go on every run
  (AgeModel/Extracted/Funcs.lean). Their callees outside the translated fragment —
  `curve25519.X25519`, `hkdf.New(sha256.New, …)` and reading from it, `scrypt.Key`,
  `aeadEncrypt`, `aeadDecrypt`, `format.EncodeToString`, `format.DecodeString`, `crypto/rand`
  (a tape) — are PARAMETERS of the translated definitions. The theorems say: whenever those
  parameters behave as the model's primitives `P` do (explicit hypotheses, `NativeEnv`), the
  translated functions compute the stanzas, labels, remaining tape and unwrap results of the
  model (`wrapX25519`, `unwrapX25519`, `wrapScrypt`, `wrapOne`, `Identity.unwrapLog`) for
  EVERY key, file key, stanza list and tape.
-/
import AgeModel.GoSem
import AgeModel.Recipients
import AgeModel.File
import AgeModel.Extracted.Funcs
import Proofs.GoTieScrypt
import Proofs.GoTieTape
namespace AgeModel
namespace GoTie
open Extracted

/-- the callees of the X25519 and scrypt recipients, beyond `ScryptEnv`:
    `X` = `curve25519.X25519(scalar, point)` (`eX` its error), `Enc` = `format.EncodeToString`,
    `H` = `hkdf.New(sha256.New, secret, salt, info)` and `R` = `io.ReadFull` on what it returns (`κ`, an
    `io.Reader` with hidden state: `hHR` says the first 32 bytes read are the model's HKDF output),
    `Seal` = `aeadEncrypt(key, plaintext)`, `eRand` the error of an exhausted `crypto/rand`. -/
structure NativeEnv (P : Prims) (κ : Type) extends ScryptEnv P where
  X : Bytes → Bytes → Go.M (Bytes × Option Go.Err)
  eX : Go.Err
  hX : ∀ a b, X a b = .ok (match P.x25519 a b with
                            | some c => (c, none)
                            | none => ([], some eX))
  Enc : Bytes → Go.M Bytes
  hEnc : ∀ b, Enc b = .ok (B64.encRaw b)
  H : Bytes → Bytes → Bytes → Go.M κ
  R : κ → Int → Go.M (Bytes × Option Go.Err × κ)
  hHR : ∀ s salt info, ∃ k k', H s salt info = .ok k ∧ R k 32 = .ok (P.hkdf s salt info 32, none, k')
  hLen : ∀ s salt info, (P.hkdf s salt info 32).length = 32
  Seal : Bytes → Bytes → Go.M (Bytes × Option Go.Err)
  hSeal : ∀ k pt, Seal k pt = .ok (P.wrapSeal k pt, none)
  eRand : Go.Err

/-- the length in the form the translated code leaves it in (`Go.len` of a 32-byte buffer) -/
theorem NativeEnv.hHR' {P : Prims} {κ : Type} (E : NativeEnv P κ) (s salt info : Bytes) :
    ∃ k k', E.H s salt info = .ok k ∧ E.R k (Int.ofNat 32) = .ok (P.hkdf s salt info 32, none, k') :=
  E.hHR s salt info

/-- for a caller that drops the error (ssh-ed25519's second scalar multiplication) -/
theorem NativeEnv.X_value {P : Prims} {κ : Type} (E : NativeEnv P κ) (a b : Bytes) :
    ∃ e, E.X a b = .ok ((P.x25519 a b).getD [], e) := by
  rw [E.hX]
  cases P.x25519 a b <;> exact ⟨_, rfl⟩

/-- (*X25519Recipient).Wrap = `wrapOne (.x25519 pub)`: ephemeral key from the tape, the stanza of the model -/
theorem x25519_wrap_tie (P : Prims) {κ : Type} (E : NativeEnv P κ) (pub fk tape : Bytes) :
    ∃ res, age_X25519Recipient_Wrap (tapeRead E.eRand) E.X P.basepoint E.Enc E.H E.R E.Seal ⟨pub⟩ fk tape = .ok res ∧
      match wrapOne P (.x25519 pub) fk tape with
      | .error () => res = ([], some E.eRand, tape)
      | .ok (some (ss, ls), t) => res = (ss.map toGoStanza, none, t) ∧ ls = []
      | .ok (none, t) => res = ([], some E.eX, t) := by
  unfold age_X25519Recipient_Wrap
  -- `← x25519Label.eq_1` folds the label bytes the source spells out into the model's constant
  simp only [← x25519Label.eq_1, Go.make32, Go.make0, Go.bind_ok, Go.len_make32, wrapOne]
  cases hd : draw 32 tape with
  | none =>
    simp only [tapeRead_none E.eRand hd, Go.bind_ok, Go.some_bne_none, if_true]
    exact ⟨_, rfl, rfl⟩
  | some bt =>
    obtain ⟨eph, t⟩ := bt
    simp only [tapeRead_some E.eRand hd, Go.bind_ok, Go.writeAt_fresh 32 eph (draw_length hd), Go.none_bne_none, Bool.false_eq_true, if_false, E.hX, wrapX25519]
    cases h1 : P.x25519 eph P.basepoint with
    | none =>
      exact ⟨_, rfl, rfl⟩
    | some ourPub =>
      cases h2 : P.x25519 eph pub with
      | none =>
        exact ⟨_, rfl, rfl⟩
      | some shared =>
        obtain ⟨k, k', hH, hR⟩ := E.hHR' shared (ourPub ++ pub) x25519Label
        simp only [Go.none_bne_none, Bool.false_eq_true, if_false, E.hEnc, Go.bind_ok, List.nil_append, hH, hR,
          Go.writeAt_fresh 32 _ (E.hLen _ _ _), E.hSeal]
        exact ⟨_, rfl, rfl, rfl⟩

/-- (*X25519Identity).unwrap = `unwrapX25519`, for every stanza -/
theorem x25519_unwrap_tie (P : Prims) {κ : Type} (E : NativeEnv P κ) (sk : Bytes) (s : Format.Stanza) :
    ∃ r, age_X25519Identity_unwrap E.D E.X E.H E.R E.A ⟨sk, (P.x25519 sk P.basepoint).getD []⟩ (toGoStanza s) = .ok r ∧
      resClass r = unwrapX25519 P sk s := by
  obtain ⟨ty, args, body⟩ := s
  rw [toGoStanza]
  unfold age_X25519Identity_unwrap unwrapX25519
  simp only [← x25519Label.eq_1]
  by_cases ht : ty = tX25519
  · refine tie_if_neg (fun h => bne_iff_ne.mp h ht) (not_not_intro ht) ?_
    rcases args with _ | ⟨a, _ | ⟨x, rest⟩⟩
    · exact ⟨_, rfl, resClass_site 0⟩
    · have hl : (Go.len [a] != 1) = false := rfl
      have h0 : Go.idx [a] 0 = .ok a := rfl
      simp only [hl, Bool.false_eq_true, if_false, h0, E.hD, Go.bind_ok]
      cases hdec : Format.decodeString a with
      | none =>
        exact ⟨_, rfl, resClass_site 1⟩
      | some pk =>
        refine run_if_neg Bool.false_ne_true ?_
        by_cases hpk : pk.length = 32
        · refine tie_if_neg (Bool.eq_false_iff.mp (Go.len_bne_of_eq hpk)) (not_not_intro hpk) ?_
          simp only [E.hX sk pk, Go.bind_ok]
          cases hx : P.x25519 sk pk with
          | none =>
            exact ⟨_, rfl, resClass_site 3⟩
          | some shared =>
            obtain ⟨k, k', hH, hR⟩ := E.hHR' shared (pk ++ (P.x25519 sk P.basepoint).getD []) x25519Label
            simp only [Go.none_bne_none, Bool.false_eq_true, if_false, Go.make32, Go.make0, Go.len_make32, Go.bind_ok, List.nil_append, hH, hR,
              Go.writeAt_fresh 32 _ (E.hLen _ _ _)]
            exact aead_answer P E.toScryptEnv _ body (resClass_site 4)
        · exact ⟨_, if_pos (Go.len_bne_of_ne hpk), (resClass_site 2).trans (if_pos hpk).symm⟩
    · exact ⟨_, if_pos (Go.len_bne_of_ne (by simp only [List.length_cons]; omega)), resClass_site 0⟩
  · exact ⟨_, if_pos (bne_iff_ne.mpr ht), resClass_incorrect.trans (if_pos ht).symm⟩

/-- (*X25519Identity).Unwrap = the model's identity on every stanza list -/
theorem x25519_Unwrap_tie (P : Prims) {κ : Type} (E : NativeEnv P κ) (sk : Bytes) (ss : List Format.Stanza) :
    ∃ r, age_X25519Identity_Unwrap errorsIsEq E.D E.X E.H E.R E.A ⟨sk, (P.x25519 sk P.basepoint).getD []⟩ (ss.map toGoStanza) = .ok r ∧
      resClass r = (Identity.unwrapLog P (.x25519 sk) ss).1 := by
  obtain ⟨r, hr, hcl⟩ := multiUnwrap_of_unwrap (x25519_unwrap_tie P E sk) ss
  exact ⟨r, by rw [age_X25519Identity_Unwrap, hr]; rfl, hcl⟩

theorem digitChar_toNat (d : Nat) (h : d < 10) : (Nat.digitChar d).toNat.toUInt8 = (48 + d).toUInt8 := by
  have : ∀ k : Fin 10, (Nat.digitChar k.val).toNat.toUInt8 = (48 + k.val).toUInt8 := by decide
  exact this ⟨d, h⟩

theorem natDigits_eq (fuel n : Nat) (h : n < fuel) :
    Go.natDigits fuel n = (Nat.toDigits 10 n).map fun c => c.toNat.toUInt8 := by
  induction fuel generalizing n with
  | zero => omega
  | succ fuel ih =>
    rw [Go.natDigits, Nat.toDigits_eq_if (by decide)]
    split
    · rename_i h10
      simp only [List.map_cons, List.map_nil, digitChar_toNat n h10]
    · rw [ih (n / 10) (by omega)]
      simp only [List.map_append, List.map_cons, List.map_nil, digitChar_toNat (n % 10) (by omega)]

/-- `strconv.Itoa` of a non-negative int is the model's decimal rendering -/
theorem itoa_eq (n : Nat) : Go.strconv_Itoa (Int.ofNat n) = natToDec n := by
  unfold Go.strconv_Itoa natToDec
  rw [if_neg (by simp only [Int.ofNat_eq_natCast]; omega)]
  exact natDigits_eq _ _ (by simp)

theorem hex_eq (b : Bytes) : Go.hex_EncodeToString b = hexLower b := by
  rfl

/-- (*ScryptRecipient).Wrap: salt from the tape, the stanza of the model. `1 << logN` is an `int`
    in Go; GoSem computes shifts without wrap-around, so the statement is confined to work
    factors below 63 (`SetWorkFactor` accepts 1 … 30; the default is 18); the proof does not use `_hN`. -/
theorem scrypt_wrap_tie (P : Prims) {κ : Type} (E : NativeEnv P κ) (pw : Bytes) (logN : Nat) (_hN : logN < 63) (fk tape : Bytes) :
    ∃ res, age_ScryptRecipient_Wrap (tapeRead E.eRand) E.Enc E.K E.Seal ⟨pw, Int.ofNat logN⟩ fk tape = .ok res ∧
      match draw scryptSaltSize tape with
      | none => res = ([], some E.eRand, tape)
      | some (salt, t) => res = ([toGoStanza (wrapScrypt P pw logN salt fk)], none, t) := by
  unfold age_ScryptRecipient_Wrap
  simp only [Go.make16, Go.bind_ok, Go.len_make16, scryptSaltSize]
  cases hd : draw 16 tape with
  | none =>
    simp only [tapeRead_none E.eRand hd, Go.bind_ok, Go.some_bne_none, if_true]
    exact ⟨_, rfl, rfl⟩
  | some bt =>
    obtain ⟨salt, t⟩ := bt
    simp only [tapeRead_some E.eRand hd, Go.bind_ok, Go.writeAt_fresh 16 salt (draw_length hd), Go.none_bne_none, Bool.false_eq_true, if_false,
      E.hEnc, Go.shiftCount_ofNat, Go.shlInt_one, E.hSeal, itoa_eq]
    have hK := E.hK pw (scryptLabel ++ salt) logN
    simp only [scryptLabel] at hK
    simp only [hK, Go.bind_ok, Go.none_bne_none, Bool.false_eq_true, if_false]
    exact ⟨_, rfl, rfl⟩

/-- (*ScryptRecipient).WrapWithLabels = `wrapOne (.scrypt pw logN)`: the stanza, ONE fresh random
    label of 32 hex digits drawn after the salt, the remaining tape -/
theorem scrypt_wrapWithLabels_tie (P : Prims) {κ : Type} (E : NativeEnv P κ) (pw : Bytes) (logN : Nat) (_hN : logN < 63) (fk tape : Bytes) :
    ∃ res, age_ScryptRecipient_WrapWithLabels (tapeRead E.eRand) E.Enc E.K E.Seal ⟨pw, Int.ofNat logN⟩ fk tape = .ok res ∧
      match wrapOne P (.scrypt pw logN) fk tape with
      | .error () => res.1 = [] ∧ res.2.1 = [] ∧ res.2.2.1 = some E.eRand
      | .ok (some (ss, ls), t) => res = (ss.map toGoStanza, ls, none, t)
      | .ok (none, _) => False := by
  obtain ⟨r1, hr1, hm⟩ := scrypt_wrap_tie P E pw logN _hN fk tape
  unfold age_ScryptRecipient_WrapWithLabels
  simp only [hr1, Go.bind_ok, Go.make16, Go.len_make16, wrapOne]
  simp only [scryptSaltSize] at hm ⊢
  cases hd : draw 16 tape with
  | none =>
    rw [hd] at hm
    subst hm
    simp only [tapeRead_none E.eRand hd, Go.bind_ok, Go.some_bne_none, if_true]
    exact ⟨_, rfl, rfl, rfl, rfl⟩
  | some bt =>
    obtain ⟨salt, t⟩ := bt
    rw [hd] at hm
    simp only at hm
    subst hm
    simp only
    cases hd2 : draw 16 t with
    | none =>
      simp only [tapeRead_none E.eRand hd2, Go.bind_ok, Go.some_bne_none, if_true]
      exact ⟨_, rfl, rfl, rfl, rfl⟩
    | some bt2 =>
      obtain ⟨lab, t'⟩ := bt2
      simp only [tapeRead_some E.eRand hd2, Go.bind_ok, Go.none_bne_none, Bool.false_eq_true, if_false,
        Go.writeAt_fresh 16 lab (draw_length hd2), hex_eq]
      exact ⟨_, rfl, rfl⟩

end GoTie
end AgeModel
