/-
  Proofs.GoTiePluginCodec — plugin/encode.go: EncodeIdentity, ParseIdentity, EncodeRecipient,
  ParseRecipient as translated are the model's.
-/
import Proofs.GoTieCodec
import Proofs.GoTiePlugName
namespace AgeModel
namespace GoTie
open Extracted

/-- the Go error value `plugin.ParseIdentity` returns for each error class of the model; `Keys.parseIdentity` fails
    with no other class, so the last arm is never reached -/
def parseIdErr : Keys.Err → Option Go.Err
  | .bech32 _ => some ⟨"plugin.ParseIdentity", 0, []⟩
  | .badType => some ⟨"plugin.ParseIdentity", 1, []⟩
  | .badName => some ⟨"plugin.ParseIdentity", 2, []⟩
  | _ => some ⟨"unreachable", 0, []⟩

/-- likewise for `plugin.ParseRecipient` and `Keys.parseRecipient` -/
def parseRcErr : Keys.Err → Option Go.Err
  | .bech32 _ => some ⟨"plugin.ParseRecipient", 0, []⟩
  | .badType => some ⟨"plugin.ParseRecipient", 1, []⟩
  | .badName => some ⟨"plugin.ParseRecipient", 2, []⟩
  | _ => some ⟨"unreachable", 0, []⟩

theorem parseIdErr_ne (e : Keys.Err) : (parseIdErr e != none) = true := by
  cases e <;> rfl

theorem parseRcErr_ne (e : Keys.Err) : (parseRcErr e != none) = true := by
  cases e <;> rfl

theorem isAscii_of_validName (name : Bytes) (h : Keys.validPluginName name = true) :
    Go.isAscii name = true := by
  unfold Keys.validPluginName at h
  split at h
  · cases h
  · simp only [List.all_eq_true] at h
    simp only [Go.isAscii, List.all_eq_true, decide_eq_true_eq]
    exact fun b hb => lt_of_contains_ascii allowed_ascii (h b hb)


theorem encodeIdentity_tie (name data : Bytes) :
    plugin_EncodeIdentity name data = .ok (Keys.encodeIdentity name data) := by
  unfold plugin_EncodeIdentity Keys.encodeIdentity
  simp only [pure, Except.pure, validPluginName_tie, Go.bind_ok]
  by_cases hv : (!Keys.validPluginName name) = true
  · rw [if_pos hv, if_pos hv]
  rw [if_neg hv, if_neg hv]
  have hv' : Keys.validPluginName name = true := by simpa using hv
  rw [toUpper_ascii name (isAscii_of_validName name hv'), encode_tie, Go.bind_ok, encode_fst]
  rfl

theorem encodeRecipient_tie (name data : Bytes) :
    plugin_EncodeRecipient name data = .ok (Keys.encodeRecipient name data) := by
  unfold plugin_EncodeRecipient Keys.encodeRecipient
  simp only [pure, Except.pure, validPluginName_tie, Go.bind_ok]
  by_cases hv : (!Keys.validPluginName name) = true
  · rw [if_pos hv, if_pos hv]
  rw [if_neg hv, if_neg hv]
  have hv' : Keys.validPluginName name = true := by simpa using hv
  rw [toLower_ascii name (isAscii_of_validName name hv'), encode_tie, Go.bind_ok, encode_fst]
  rfl


theorem hasBadByte_trimPrefix (s p : Bytes) (h : Bech32.hasBadByte s = false) :
    Bech32.hasBadByte (Go.strings_TrimPrefix s p) = false := by
  unfold Go.strings_TrimPrefix
  split
  · exact hasBadByte_drop _ _ h
  · exact h

theorem hasBadByte_trimSuffix (s p : Bytes) (h : Bech32.hasBadByte s = false) :
    Bech32.hasBadByte (Go.strings_TrimSuffix s p) = false := by
  unfold Go.strings_TrimSuffix
  split
  · exact hasBadByte_take _ _ h
  · exact h

theorem parseIdentity_tie (s : Bytes) :
    plugin_ParseIdentity s = .ok (match Keys.parseIdentity s with
      | .ok (n, d) => (n, d, none)
      | .error e => ([], [], parseIdErr e)) := by
  unfold plugin_ParseIdentity Keys.parseIdentity
  simp only [pure, Except.pure, validPluginName_tie, decode_tie, Go.bind_ok]
  cases hd : Bech32.decode s with
  | error e =>
    simp only []
    rw [if_pos (decErr_ne_none e)]
    rfl
  | ok r =>
    obtain ⟨hrp, data⟩ := r
    simp only []
    rw [if_neg (by decide)]
    obtain ⟨D, d5, hs, hbs, _⟩ := Bech32.decode_ok hd
    have hbh : Bech32.hasBadByte hrp = false := by
      rw [hs, Bech32.hasBadByte_append] at hbs
      simpa using (Bool.or_eq_false_iff.mp hbs).1
    rw [toLower_ascii _ (isAscii_of_noBad _ (hasBadByte_trimSuffix _ _ (hasBadByte_trimPrefix _ _ hbh)))]
    by_cases h1 : (!Keys.hasPrefix hrp Keys.pfxPlugin || !Keys.hasSuffix hrp Keys.dash) = true
    · rw [if_pos h1]; exact (if_pos h1).trans rfl
    · rw [if_neg h1]; refine (if_neg h1).trans ?_
      by_cases h2 : (!Keys.validPluginName (Bech32.toLower
          (Keys.trimSuffix (Keys.trimPrefix hrp Keys.pfxPlugin) Keys.dash))) = true
      · rw [if_pos h2]; exact (if_pos h2).trans rfl
      · rw [if_neg h2]; exact (if_neg h2).trans rfl

theorem parseRecipient_tie (s : Bytes) :
    plugin_ParseRecipient s = .ok (match Keys.parseRecipient s with
      | .ok (n, d) => (n, d, none)
      | .error e => ([], [], parseRcErr e)) := by
  unfold plugin_ParseRecipient Keys.parseRecipient
  simp only [pure, Except.pure, validPluginName_tie, decode_tie, Go.bind_ok]
  cases hd : Bech32.decode s with
  | error e =>
    simp only []
    rw [if_pos (decErr_ne_none e)]
    rfl
  | ok r =>
    obtain ⟨hrp, data⟩ := r
    simp only []
    rw [if_neg (by decide)]
    by_cases h1 : (!Keys.hasPrefix hrp Keys.pfxAge1) = true
    · rw [if_pos h1]; exact (if_pos h1).trans rfl
    · rw [if_neg h1]; refine (if_neg h1).trans ?_
      by_cases h2 : (!Keys.validPluginName (Keys.trimPrefix hrp Keys.pfxAge1)) = true
      · rw [if_pos h2]; exact (if_pos h2).trans rfl
      · rw [if_neg h2]; exact (if_neg h2).trans rfl

end GoTie
end AgeModel
