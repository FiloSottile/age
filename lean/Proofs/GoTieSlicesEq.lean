/-
  Proofs.GoTieSlicesEq — age.slicesEqual as translated is list equality
-/
import AgeModel.GoSem
import AgeModel.Extracted.Funcs
import Proofs.GoBuf
namespace AgeModel
namespace GoTie
open Extracted

theorem slicesEqual_loop (s1 s2 : List Bytes) : ∀ (is : List Nat),
    (∀ i ∈ is, i < s1.length ∧ i < s2.length) →
    age_slicesEqual_loop1 s1 s2 (is.map Int.ofNat) =
      .ok (if is.all (fun i => s1[i]? == s2[i]?) then .next () else .ret false)
  | [], _ => rfl
  | i :: rest, h => by
    have ⟨h1, h2⟩ := h i (List.mem_cons_self ..)
    rw [List.map_cons, age_slicesEqual_loop1, Go.idx_ofNat s1 i h1, Go.idx_ofNat s2 i h2,
      slicesEqual_loop s1 s2 rest (fun j hj => h j (List.mem_cons_of_mem _ hj)),
      List.all_cons, List.getElem?_eq_getElem h1, List.getElem?_eq_getElem h2]
    by_cases he : s1[i] = s2[i]
    · simp only [he, bind, Except.bind, bne_self_eq_false, BEq.rfl, Bool.true_and, Bool.false_eq_true, if_false]
    · have hb : (s1[i] != s2[i]) = true := bne_iff_ne.mpr he
      have hb' : (some s1[i] == some s2[i]) = false := beq_eq_false_iff_ne.mpr fun e => he (Option.some.inj e)
      simp only [hb, hb', bind, Except.bind, if_true, Bool.false_and, Bool.false_eq_true, if_false]
      rfl

theorem rangeUp_0 (n : Nat) : Go.rangeUp 0 (Int.ofNat n) = (List.range n).map Int.ofNat := by
  simp [Go.rangeUp]

theorem slicesEqual_tie (a b : List Bytes) : age_slicesEqual a b = .ok (decide (a = b)) := by
  by_cases hl : a.length = b.length
  · have hl' : (Go.len a != Go.len b) = false := Go.len_bne_of_eq hl
    have hloop := slicesEqual_loop a b (List.range a.length)
      (fun i hi => by have := List.mem_range.mp hi; omega)
    rw [age_slicesEqual, hl']
    simp only [Go.len, rangeUp_0, hloop, bind, Except.bind, pure, Except.pure,
      Bool.false_eq_true, if_false]
    by_cases hab : a = b
    · subst hab
      simp
    · have : (List.range a.length).all (fun i => a[i]? == b[i]?) = false := by
        rw [Bool.eq_false_iff]
        intro hall
        apply hab
        apply List.ext_getElem?
        intro i
        by_cases hi : i < a.length
        · have := List.all_eq_true.mp hall i (List.mem_range.mpr hi)
          simpa using this
        · rw [List.getElem?_eq_none (by omega), List.getElem?_eq_none (by omega)]
      simp [this, hab]
  · have hl' : (Go.len a != Go.len b) = true := Go.len_bne_of_ne hl
    have hab : a ≠ b := fun h => hl (by rw [h])
    simp [age_slicesEqual, hl', hab, pure, Except.pure]

end GoTie
end AgeModel
