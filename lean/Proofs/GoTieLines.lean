/-
  Lines and stanza values: `bufio.Reader.ReadBytes('\n')` as GoSem has it is the model's
  `Format.takeLine`, and `strings.TrimSuffix` of the line end is the model's trimming (what the header
  parser and the armor reader both do to a line). Of the translation only the type `format_Stanza`
  is used, no translated function.
-/
import AgeModel.GoSem
import AgeModel.Format
import AgeModel.Armor
import AgeModel.Extracted.Funcs
import Proofs.FormatLines
namespace AgeModel
namespace GoTie
open Extracted

def toGoFStanza (s : Format.Stanza) : format_Stanza := ⟨s.type, s.args, s.body⟩

/-- what is assumed of `format.DecodeString` -/
def DecodeIsModel (D : Bytes → Go.M (Bytes × Option Go.Err)) (eD : Go.Err) : Prop :=
  ∀ a, D a = .ok (match Format.decodeString a with
                   | some b => (b, none)
                   | none => ([], some eD))

theorem cutAfter_takeLine : ∀ rd : Bytes,
    Go.cutAfter 10 rd = (Format.takeLine rd).map (fun p => (p.1 ++ [10], p.2))
  | [] => rfl
  | c :: cs => by
    have ih := cutAfter_takeLine cs
    by_cases hc : c = 10
    · subst hc; rfl
    · simp only [Go.cutAfter, Format.takeLine, Format.nl, hc, if_false, ih]
      cases Format.takeLine cs with
      | none => rfl
      | some p => rfl

theorem readBytes_some (rd l rest : Bytes) (h : Format.takeLine rd = some (l, rest)) :
    Go.bufio_ReadBytes rd 10 = (l ++ [Format.nl], none, rest) := by
  simp only [Go.bufio_ReadBytes, cutAfter_takeLine, h, Option.map]; rfl

theorem readBytes_none (rd : Bytes) (h : Format.takeLine rd = none) :
    Go.bufio_ReadBytes rd 10 = (rd, Go.ioEOF, []) := by
  simp only [Go.bufio_ReadBytes, cutAfter_takeLine, h, Option.map]

theorem trimSuffix_nl (l : Bytes) : Go.strings_TrimSuffix (l ++ [Format.nl]) [10] = l := by
  have : ([10] : List UInt8).isSuffixOf (l ++ [Format.nl]) = true := by
    simp [Format.nl]
  simp only [Go.strings_TrimSuffix, this, if_true, List.length_append, List.length_cons,
    List.length_nil, Nat.add_sub_cancel, List.take_left']

theorem takeLine_none_no_nl : ∀ (rd : Bytes), Format.takeLine rd = none → (10:UInt8) ∉ rd
  | [], _ => by simp
  | c :: cs, h => by
    by_cases hc : c = Format.nl
    · simp [Format.takeLine, hc] at h
    · simp only [Format.takeLine, hc, if_false] at h
      cases h' : Format.takeLine cs with
      | none =>
        have := takeLine_none_no_nl cs h'
        intro hm
        rcases List.mem_cons.mp hm with e | e
        · exact hc e.symm
        · exact this e
      | some q => rw [h'] at h; cases h

theorem trimSuffix_no_nl (l : Bytes) (h : (10:UInt8) ∉ l) : Go.strings_TrimSuffix l [10] = l := by
  unfold Go.strings_TrimSuffix
  split
  · rename_i hs
    have := List.isSuffixOf_iff_suffix.mp hs
    exact absurd (this.subset (List.mem_singleton.mpr rfl)) h
  · rfl

theorem trimSuffix_cr (l : Bytes) : Go.strings_TrimSuffix l [13] = Armor.trimCR l := by
  rcases List.eq_nil_or_concat l with rfl | ⟨L, b, rfl⟩
  · rfl
  · rw [List.concat_eq_append]
    unfold Go.strings_TrimSuffix Armor.trimCR
    rw [List.getLast?_concat]
    by_cases hb : b = Format.cr
    · subst hb
      have : ([13] : List UInt8).isSuffixOf (L ++ [Format.cr]) = true := by simp [Format.cr]
      simp only [this, if_true, List.length_append, List.length_cons, List.length_nil, Nat.add_sub_cancel,
        List.take_left', List.dropLast_concat]
    · have : ¬ ([13] : List UInt8).isSuffixOf (L ++ [b]) = true := by
        intro hs
        have := List.isSuffixOf_iff_suffix.mp hs
        simp at this
        exact hb this.symm
      simp only [this, if_false, hb, Bool.false_eq_true]

end GoTie
end AgeModel
