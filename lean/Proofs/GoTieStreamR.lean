/-
  Proofs.GoTieStreamR — stream.Reader as it stands in the source.

  `(*Reader).Read` and `(*Reader).readChunk` (internal/stream/stream.go) are TRANSLATED on
  every run (AgeModel/Extracted/Funcs.lean). The struct's `unread` is a VIEW into its own
  `buf` (two indices; harness/cmd/extract/funcs_views.go), `in` is a local view, `io.ReadFull` and `copy`
  write through to `buf`; the source is a `Go.Src` (bytes, then a clean end or an error); the
  AEAD is abstract (`aead_Open`, `aead_Overhead` are parameters). The theorem is a SIMULATION:
  whenever the Go state and the state of the model's Reader machine (AgeModel/Stream.lean)
  are related by `RRel`, one `Read(p)` of the translated code and one `Reader.read` of the
  model return the same count, the same bytes (in the caller's buffer), corresponding errors,
  and related states again. By induction over calls, every theorem of Props/C02, C12, C13, C14
  about `Reader.read` / `Reader.trace` is a theorem about the source text (for a source that
  ends cleanly or with an error after its bytes; C = 65536, tag 16, fewer than 2^88 chunks).
-/
import Proofs.GoTieNonce
import Proofs.GoBuf
import Proofs.GoTieStreamEnv
namespace AgeModel
namespace GoTie
set_option linter.ambiguousOpen false
open Extracted Stream

/-- the last arm takes the outcomes a Reader never reports (`.closed`, `.dstErr` are the Writer's; `.panic`,
    `.fuel` are excluded by the hypotheses of `reader_read_tie`): no state is related to a model state holding one -/
def rdErr : Outcome → Option Go.Err
  | .eof => Go.io_EOF
  | .truncated => Go.io_ErrUnexpectedEOF
  | .emptyLast => some ⟨"stream.(*Reader).readChunk", 0, []⟩
  | .authFail => some ⟨"stream.(*Reader).readChunk", 1, []⟩
  | .trailing => some ⟨"stream.(*Reader).Read", 0, []⟩
  | .srcErr => Go.io_srcErr
  | _ => some ⟨"unreachable", 0, []⟩

/-- the two ways a source error reaches the caller: as it is (from readChunk) or wrapped (the probe after the end) -/
def rdErrRel (g : Option Go.Err) : Option Outcome → Prop
  | none => g = none
  | some .srcErr => g = Go.io_srcErr ∨ g = some ⟨"stream.(*Reader).Read", 1, []⟩
  | some o => g = rdErr o

structure RRel {α : Type} (r : stream_Reader α) (m : Reader) : Prop where
  buflen : r.buf.length = 65552
  bounds : 0 ≤ r.unread_lo ∧ r.unread_lo ≤ r.unread_hi ∧ r.unread_hi ≤ 65552
  unread : m.unread = (r.buf.take r.unread_hi.toNat).drop r.unread_lo.toNat
  srcData : r.src.data = m.src.data
  srcFail : r.src.fail = m.src.fail
  err : rdErrRel r.err m.err
  /-- while no error has been recorded the nonce is that of the next chunk, flag clear -/
  nonce : m.err = none → r.nonce = Stream.nonce m.ctr false

theorem slice_wz (b d : Bytes) (h : d.length ≤ b.length) :
    Go.slice (d ++ b.drop d.length) 0 (Int.ofNat d.length) = .ok d := by
  rw [Go.slice_upto _ _ (by rw [Go.wz_length b d h]; exact h), Go.wz_take]

theorem readFull_eq (s : Go.Src) (n : Nat) :
    Go.io_ReadFull s (Int.ofNat n) =
      (s.data.take n,
        if (s.data.take n).length = n then none
        else if s.fail then Go.io_srcErr
        else if (s.data.take n).length = 0 then Go.io_EOF
        else Go.io_ErrUnexpectedEOF,
        ⟨s.data.drop n, s.fail⟩) := by
  unfold Go.io_ReadFull
  dsimp only
  rw [show (Int.ofNat n).toNat = n from rfl]
  by_cases h1 : (s.data.take n).length = n
  · rw [if_pos h1, if_pos h1]
  · rw [if_neg h1, if_neg h1]
    by_cases h2 : s.fail = true
    · rw [if_pos h2, if_pos h2]
    · rw [if_neg h2, if_neg h2]
      by_cases h3 : (s.data.take n).length = 0
      · rw [if_pos h3, if_pos h3]
      · rw [if_neg h3, if_neg h3]

variable {α : Type} {A : AEAD} {k : Bytes}

/-! The tail of the translated `readChunk` (open the chunk, a second time with the last-chunk flag if need
be; then bump the nonce and make the plaintext the unread view) is reached from two places. `rcOpen` and
`rcFinish` are that tail, written out by hand; `readChunk_eq` holds by unfolding alone, and each piece has
its own lemma about what it returns. -/

/-- from `if err != nil { return …"failed to decrypt…" }` to the end -/
def rcFinish (r : stream_Reader α) (last : Bool) (err : Option Go.Err) (out : Bytes) :
    Go.M (Bool × Option Go.Err × stream_Reader α) :=
  if err != none then pure (false, rdErr .authFail, r)
  else do
    let r := { r with nonce := (← stream_incNonce r.nonce) }
    let t10 ← Go.reslice 0 (Go.len r.buf) 0 (Go.len r.buf)
    let t9 : Int := min (t10.2 - t10.1) (Go.len out)
    let r := { r with buf := Go.writeAt r.buf t10.1 (out.take t9.toNat) }
    let t11 ← Go.reslice 0 (Go.len r.buf) 0 t9
    pure (last, none, { r with unread_lo := t11.1, unread_hi := t11.2 })

/-- from `outBuf := make([]byte, 0, ChunkSize)` on, `buf[lo:hi]` being `in` -/
def rcOpen (open_ : α → Bytes → Bytes → Bytes → Go.M (Bytes × Option Go.Err)) (r : stream_Reader α) (last : Bool)
    (lo hi : Int) : Go.M (Bool × Option Go.Err × stream_Reader α) := do
  let outBuf ← Go.makeList (0 : UInt8) 0
  let t5 ← open_ r.a r.nonce (← Go.slice r.buf lo hi) []
  if t5.2 != none && !last then
    let r := { r with nonce := (← stream_setLastChunkFlag r.nonce) }
    let t7 ← open_ r.a r.nonce (← Go.slice r.buf lo hi) []
    rcFinish r true t7.2 (if t7.2 == none then outBuf ++ t7.1 else [])
  else rcFinish r last t5.2 (if t5.2 == none then outBuf ++ t5.1 else [])

theorem readChunk_eq (over : α → Go.M Int) (open_ : α → Bytes → Bytes → Bytes → Go.M (Bytes × Option Go.Err))
    (r : stream_Reader α) :
    stream_Reader_readChunk over open_ r =
      (if r.unread_hi - r.unread_lo != 0 then throw (Go.Fault.panic 0)
      else do
        let t1 ← Go.reslice 0 (Go.len r.buf) 0 (Go.len r.buf)
        let t2 := Go.io_ReadFull r.src (t1.2 - t1.1)
        let r := { r with src := t2.2.2, buf := Go.writeAt r.buf t1.1 t2.1 }
        if t2.2.1 == Go.io_EOF then pure (false, Go.io_ErrUnexpectedEOF, r)
        else if t2.2.1 == Go.io_ErrUnexpectedEOF then do
          if (← (if !(← stream_nonceIsZero r.nonce) then (do pure (Go.len t2.1 == (← over r.a))) else pure false)) then
            pure (false, rdErr .emptyLast, r)
          else
            let t3 ← Go.reslice t1.1 (Go.len r.buf) 0 (Go.len t2.1)
            rcOpen open_ { r with nonce := (← stream_setLastChunkFlag r.nonce) } true t3.1 t3.2
        else if t2.2.1 != none then pure (false, t2.2.1, r)
        else rcOpen open_ r false t1.1 t1.2) :=
  rfl

theorem rcFinish_ok (a : α) (src : Go.Src) (lo hi : Int) (X p : Bytes) (err : Option Go.Err) (ctr : Nat)
    (l last : Bool) (hp : p.length ≤ X.length) (hctr : ctr + 1 < 2 ^ 88) :
    rcFinish ⟨a, src, lo, hi, X, err, nonce ctr l⟩ last none p =
      .ok (last, none, ⟨a, src, 0, Int.ofNat p.length, p ++ X.drop p.length, err, nonce (ctr + 1) l⟩) := by
  have h1 : Go.reslice 0 (Go.len X) 0 (Go.len X) = .ok (0, Go.len X) :=
    Go.reslice_zero _ _ (Int.natCast_nonneg _) (Int.le_refl _)
  have h2 : min (Go.len X - 0) (Go.len p) = Int.ofNat p.length := by
    simp only [Go.len, Int.ofNat_eq_natCast]; omega
  have h3 : Go.reslice 0 (Go.len (p ++ X.drop p.length)) 0 (Int.ofNat p.length) = .ok (0, Int.ofNat p.length) :=
    Go.reslice_zero _ _ (Int.natCast_nonneg _) (by simp only [Go.len, Go.wz_length X p hp, Int.ofNat_eq_natCast]; omega)
  have ht : p.take (Int.ofNat p.length).toNat = p := List.take_length
  simp only [rcFinish, bne_self_eq_false, Bool.false_eq_true, if_false, incNonce_tie ctr l hctr, Go.bind_ok,
    h1, h2, ht, Go.writeAt_zero, h3, pure, Except.pure]

theorem rcOpen_eq (E : AeadEnv α A k) (a : α) (src : Go.Src) (ulo uhi : Int) (X : Bytes) (err : Option Go.Err)
    (ctr : Nat) (l : Bool) (lo hi : Int) (c : Bytes) (hs : Go.slice X lo hi = .ok c) :
    rcOpen E.open_ ⟨a, src, ulo, uhi, X, err, nonce ctr l⟩ l lo hi =
      match A.openF k (nonce ctr l) c with
      | some p => rcFinish ⟨a, src, ulo, uhi, X, err, nonce ctr l⟩ l none p
      | none =>
        if l then .ok (false, rdErr .authFail, ⟨a, src, ulo, uhi, X, err, nonce ctr l⟩)
        else match A.openF k (nonce ctr true) c with
          | some p => rcFinish ⟨a, src, ulo, uhi, X, err, nonce ctr true⟩ true none p
          | none => .ok (false, rdErr .authFail, ⟨a, src, ulo, uhi, X, err, nonce ctr true⟩) := by
  have e0 : Go.makeList (0 : UInt8) 0 = .ok [] := rfl
  simp only [rcOpen, e0, hs, E.hOpen, setLastChunkFlag_tie, Go.bind_ok, List.nil_append]
  cases A.openF k (nonce ctr l) c with
  | some p => rfl
  | none =>
    cases l with
    | true => rfl
    | false => cases A.openF k (nonce ctr true) c <;> rfl

theorem readChunk_head (E : AeadEnv α A k) (a : α) (src src' : Go.Src) (lo : Int) (buf got : Bytes)
    (err e : Option Go.Err) (ctr : Nat) (hbuf : buf.length = 65552) (hctr : ctr + 1 < 2 ^ 88)
    (hrf : Go.io_ReadFull src 65552 = (got, e, src')) (hgot : got.length ≤ 65552) :
    stream_Reader_readChunk E.over E.open_ ⟨a, src, lo, lo, buf, err, nonce ctr false⟩ =
      let r1 : Bytes → stream_Reader α := fun nc => ⟨a, src', lo, lo, got ++ buf.drop got.length, err, nc⟩
      if e == Go.io_EOF then .ok (false, Go.io_ErrUnexpectedEOF, r1 (nonce ctr false))
      else if e == Go.io_ErrUnexpectedEOF then
        if ctr ≠ 0 ∧ got.length = 16 then
          .ok (false, rdErr .emptyLast, r1 (nonce ctr false))
        else rcOpen E.open_ (r1 (nonce ctr true)) true 0 (Int.ofNat got.length)
      else if e != none then .ok (false, e, r1 (nonce ctr false))
      else rcOpen E.open_ (r1 (nonce ctr false)) false 0 65552 := by
  have hlen : Go.len buf = 65552 := by simp only [Go.len, hbuf]; rfl
  have h1 : Go.reslice 0 65552 0 65552 = .ok (0, 65552) := rfl
  have h2 : Go.reslice 0 (Go.len (got ++ buf.drop got.length)) 0 (Go.len got) = .ok (0, Int.ofNat got.length) :=
    Go.reslice_zero _ _ (Int.natCast_nonneg _)
      (by simp only [Go.len, Go.wz_length buf got (by omega), Int.ofNat_eq_natCast]; omega)
  have hz : stream_nonceIsZero (nonce ctr false) = .ok (decide (ctr = 0)) := by
    rw [nonceIsZero_tie ctr false (by omega)]; simp only [and_true]
  rw [readChunk_eq]
  simp only [Int.sub_self, bne_self_eq_false, Bool.false_eq_true, if_false, hlen, h1, Int.sub_zero, hrf, Go.writeAt_zero,
    Go.bind_ok, hz, E.hOver, setLastChunkFlag_tie, h2]
  by_cases hc : ctr = 0
  · simp only [decide_eq_true hc, Bool.not_true, Bool.false_eq_true, if_false, pure, Except.pure, Go.bind_ok,
      not_not_intro hc, false_and]
  · have h16 : (Go.len got == 16) = decide (got.length = 16) := by
      apply Bool.eq_iff_iff.mpr
      rw [beq_iff_eq, decide_eq_true_iff]
      simp only [Go.len, Int.ofNat_eq_natCast]; omega
    simp only [hc, decide_false, Bool.not_false, if_true, pure, Except.pure, Go.bind_ok, h16, ne_eq, not_false_eq_true,
      true_and, decide_eq_true_iff]

/-- what `readChunk` leaves behind, against the model's `readChunk` (started with nothing unread, no error) -/
def RCPost {α : Type} (res : Bool × Option Go.Err × stream_Reader α) :
    Reader × Except Outcome Bool → Prop
  | (m1, .error o) => res.2.1 ≠ none ∧ rdErrRel res.2.1 (some o) ∧
      RRel { res.2.2 with err := res.2.1 } { m1 with err := some o }
  | (m1, .ok l) => res.1 = l ∧ res.2.1 = none ∧ m1.err = none ∧ m1.unread.length ≤ 65552 ∧
      ∃ a src buf, buf.length = 65552 ∧ buf.take m1.unread.length = m1.unread ∧
        src.data = m1.src.data ∧ src.fail = m1.src.fail ∧
        res.2.2 = ⟨a, src, 0, Int.ofNat m1.unread.length, buf, none, nonce m1.ctr l⟩

theorem post_ok (a : α) (src : Go.Src) (X p : Bytes) (ctr taken : Nat) (l : Bool)
    (hX : X.length = 65552) (hp : p.length + 16 ≤ 65552) :
    RCPost (l, none, (⟨a, src, 0, Int.ofNat p.length, p ++ X.drop p.length, none, nonce (ctr + 1) l⟩ : stream_Reader α))
      (⟨p, none, ctr + 1, ⟨src.data, src.fail⟩, taken⟩, .ok l) := by
  refine ⟨rfl, rfl, rfl, ?_, a, src, _, ?_, ?_, rfl, rfl, rfl⟩
  · show p.length ≤ 65552; omega
  · rw [Go.wz_length X p (by omega), hX]
  · exact Go.wz_take X p

theorem post_err (a : α) (src : Go.Src) (lo : Int) (X : Bytes) (e : Option Go.Err) (nc : Bytes) (o : Outcome)
    (ctr taken : Nat) (hX : X.length = 65552) (hlo : 0 ≤ lo ∧ lo ≤ 65552) (hne : e ≠ none)
    (he : rdErrRel e (some o)) :
    RCPost (false, e, (⟨a, src, lo, lo, X, none, nc⟩ : stream_Reader α))
      (⟨[], none, ctr, ⟨src.data, src.fail⟩, taken⟩, .error o) := by
  refine ⟨hne, he, hX, ⟨hlo.1, Int.le_refl _, hlo.2⟩, ?_, rfl, rfl, he, ?_⟩
  · show [] = (X.take lo.toNat).drop lo.toNat
    rw [List.drop_of_length_le]
    rw [List.length_take]; omega
  · intro h; cases h

theorem open_tie (E : AeadEnv α A k) (a : α) (src : Go.Src) (lo hi : Int) (X c : Bytes) (ctr taken : Nat) (l : Bool)
    (hX : X.length = 65552) (hlo : 0 ≤ lo ∧ lo ≤ 65552) (hctr : ctr + 1 < 2 ^ 88)
    (hs : Go.slice X 0 hi = .ok c) (hc : c.length ≤ 65552) :
    ∃ res, rcOpen E.open_ ⟨a, src, lo, lo, X, none, nonce ctr l⟩ l 0 hi = .ok res ∧
      RCPost res
        (match (match A.openF k (nonce ctr l) c with
            | some out => some (out, l)
            | none =>
              if l then none
              else match A.openF k (nonce ctr true) c with
                | some out => some (out, true)
                | none => none : Option (Bytes × Bool)) with
          | none => (⟨[], none, ctr, ⟨src.data, src.fail⟩, taken⟩, .error .authFail)
          | some (out, last) => (⟨out, none, ctr + 1, ⟨src.data, src.fail⟩, taken⟩, .ok last)) := by
  have fin : ∀ (p : Bytes) (l' : Bool), A.openF k (nonce ctr l') c = some p →
      ∃ res, rcFinish ⟨a, src, lo, lo, X, none, nonce ctr l'⟩ l' none p = .ok res ∧
        RCPost res (⟨p, none, ctr + 1, ⟨src.data, src.fail⟩, taken⟩, .ok l') := by
    intro p l' ho
    have hp := E.hOpenLen _ _ _ ho
    exact ⟨_, rcFinish_ok a src lo lo X p none ctr l' l' (by omega) hctr,
      post_ok a src X p ctr taken l' hX (by omega)⟩
  have bad : ∀ l', RCPost (false, rdErr .authFail,
        (⟨a, src, lo, lo, X, none, nonce ctr l'⟩ : stream_Reader α))
      (⟨[], none, ctr, ⟨src.data, src.fail⟩, taken⟩, .error .authFail) := by
    intro l'
    exact post_err a src lo X _ _ _ ctr taken hX hlo (by decide) rfl
  rw [rcOpen_eq E a src lo lo X none ctr l 0 hi c hs]
  cases ho : A.openF k (nonce ctr l) c with
  | some p => exact fin p l ho
  | none =>
    cases l with
    | true => exact ⟨_, rfl, bad true⟩
    | false =>
      simp only [Bool.false_eq_true, if_false]
      cases ho2 : A.openF k (nonce ctr true) c with
      | some p => exact fin p true ho2
      | none => exact ⟨_, rfl, bad true⟩

theorem readChunk_tie (E : AeadEnv α A k) (a : α) (data : Bytes) (fail : Bool) (lo : Int) (buf : Bytes)
    (ctr taken : Nat) (hbuf : buf.length = 65552) (hlo : 0 ≤ lo ∧ lo ≤ 65552) (hctr : ctr + 1 < 2 ^ 88) :
    ∃ res, stream_Reader_readChunk E.over E.open_ ⟨a, ⟨data, fail⟩, lo, lo, buf, none, nonce ctr false⟩ = .ok res ∧
      RCPost res (Reader.readChunk A 65536 (2 ^ 88) k ⟨[], none, ctr, ⟨data, fail⟩, taken⟩) := by
  have hL : ¬ (ctr + 1 ≥ 2 ^ 88) := by omega
  have hle : (data.take 65552).length ≤ 65552 := by rw [List.length_take]; omega
  rw [readChunk_head E a ⟨data, fail⟩ _ lo buf _ none _ ctr hbuf hctr (readFull_eq _ 65552) hle]
  simp only [Reader.readChunk, List.length_nil, ne_eq, not_true, if_false, E.hT, Nat.reduceAdd, hL]
  generalize data.take 65552 = got at hle ⊢
  generalize data.drop 65552 = rest
  have hX : (got ++ buf.drop got.length).length = 65552 := by rw [Go.wz_length buf _ (by omega)]; exact hbuf
  have hs := slice_wz buf got (by omega)
  have stop : ∀ (e : Option Go.Err) (o : Outcome), e ≠ none → rdErrRel e (some o) →
      RCPost (false, e, (⟨a, ⟨rest, fail⟩, lo, lo, got ++ buf.drop got.length, none, nonce ctr false⟩ : stream_Reader α))
        (⟨[], none, ctr, ⟨rest, fail⟩, taken + 65552⟩, .error o) := by
    intro e o hne he
    exact post_err a ⟨rest, fail⟩ lo _ e _ o ctr _ hX hlo hne he
  have e1 : (none == Go.io_EOF) = false := rfl
  have e2 : (none == Go.io_ErrUnexpectedEOF) = false := rfl
  have e3 : (Go.io_srcErr == Go.io_EOF) = false := by decide
  have e4 : (Go.io_srcErr == Go.io_ErrUnexpectedEOF) = false := by decide
  have e6 : (Go.io_ErrUnexpectedEOF == Go.io_EOF) = false := by decide
  generalize he : (if got.length = 65552 then none else if fail = true then Go.io_srcErr
    else if got.length = 0 then Go.io_EOF else Go.io_ErrUnexpectedEOF) = e
  by_cases hn : got.length = 65552
  · have hlt : ¬ got.length < 65552 := by omega
    have hn0 : ¬ got.length = 0 := by omega
    rw [if_pos hn] at he
    subst he
    simp only [e1, e2, bne_self_eq_false, hlt, hn0, false_and, if_false, decide_false, Bool.false_eq_true]
    rw [show (65552 : Int) = Int.ofNat got.length by rw [hn]; rfl]
    exact open_tie E a ⟨rest, fail⟩ lo _ _ _ ctr _ false hX hlo hctr hs hle
  · have hlt : got.length < 65552 := by omega
    rw [if_neg hn] at he
    cases fail with
    | true =>
      subst he
      simp only [if_true, e3, e4, show (Go.io_srcErr != none) = true from Go.some_bne_none _, hlt, and_self, Bool.false_eq_true, if_false]
      exact ⟨_, rfl, stop _ .srcErr (by decide) (.inl rfl)⟩
    | false =>
      rw [if_neg Bool.false_ne_true] at he
      by_cases hn0 : got.length = 0
      · rw [if_pos hn0] at he
        subst he
        simp only [beq_self_eq_true, if_true, Bool.false_eq_true, and_false, if_false, if_pos hn0]
        exact ⟨_, rfl, stop _ .truncated (by decide) rfl⟩
      · rw [if_neg hn0] at he
        subst he
        simp only [Bool.false_eq_true, e6, beq_self_eq_true, if_true, and_false, if_false, hn0, hlt, true_and,
          decide_true]
        by_cases hc : ¬ ctr = 0 ∧ got.length = 16
        · rw [if_pos hc, if_pos hc]
          exact ⟨_, rfl, stop _ .emptyLast (by decide) rfl⟩
        · rw [if_neg hc, if_neg hc]
          exact open_tie E a ⟨rest, false⟩ lo _ _ _ ctr _ true hX hlo hctr hs hle

theorem take_len_take (u : Bytes) (n : Nat) : u.take (Int.ofNat (u.take n).length).toNat = u.take n := by
  simp only [Int.ofNat_eq_natCast, Int.toNat_natCast, List.length_take]
  by_cases h : n ≤ u.length
  · rw [Nat.min_eq_left h]
  · rw [Nat.min_eq_right (by omega), List.take_length, List.take_of_length_le (by omega)]

/-! `Read` likewise: `rdCopy` is the copy into the caller's buffer (it occurs twice), `rdProbe` the probe after the
last chunk; both take what follows as an argument, so that `Read_eq` holds by unfolding alone. -/

variable {β : Type}

/-- `n := copy(p, r.unread); r.unread = r.unread[n:]`, then `next` -/
def rdCopy (r : stream_Reader α) (p : Bytes) (next : Int → stream_Reader α → Bytes → Go.M β) : Go.M β := do
  let t1 ← Go.slice r.buf r.unread_lo r.unread_hi
  let t2 : Int := min (Go.len p) (Go.len t1)
  let t3 ← Go.reslice r.unread_lo (Go.len r.buf) t2 (r.unread_hi - r.unread_lo)
  next t2 { r with unread_lo := t3.1, unread_hi := t3.2 } (Go.writeAt p 0 (t1.take t2.toNat))

/-- the one-byte read after the last chunk, which settles `r.err`; then `next` -/
def rdProbe (r : stream_Reader α) (next : stream_Reader α → Go.M β) : Go.M β := do
  let probe ← Go.makeList (0 : UInt8) 1
  let t8 := Go.io_ReadFull r.src (Go.len probe)
  let r := { r with src := t8.2.2 }
  if decide (Go.len t8.1 > 0) then next { r with err := rdErr .trailing }
  else if t8.2.1 != Go.io_EOF then next { r with err := some ⟨"stream.(*Reader).Read", 1, []⟩ }
  else next { r with err := Go.io_EOF }

theorem Read_eq (over : α → Go.M Int) (open_ : α → Bytes → Bytes → Bytes → Go.M (Bytes × Option Go.Err))
    (r : stream_Reader α) (p : Bytes) :
    stream_Reader_Read over open_ r p =
      (if decide (r.unread_hi - r.unread_lo > 0) then rdCopy r p fun n r p => pure (n, none, r, p)
      else if r.err != none then pure (0, r.err, r, p)
      else if Go.len p == 0 then pure (0, none, r, p)
      else do
        let t4 ← stream_Reader_readChunk over open_ r
        if t4.2.1 != none then pure (0, t4.2.1, { t4.2.2 with err := t4.2.1 }, p)
        else rdCopy t4.2.2 p fun n r p =>
          if t4.1 then rdProbe r fun r => pure (n, none, r, p) else pure (n, none, r, p)) :=
  rfl

theorem consume (buf u p : Bytes) (lo hi : Int) (hbuf : buf.length = 65552)
    (hb : 0 ≤ lo ∧ lo ≤ hi ∧ hi ≤ 65552) (hu : u = (buf.take hi.toNat).drop lo.toNat) :
    Go.slice buf lo hi = .ok u ∧ Int.ofNat u.length = hi - lo ∧
    min (Go.len p) (Go.len u) = Int.ofNat (u.take p.length).length ∧
    ∃ lo' hi', Go.reslice lo (Go.len buf) (Int.ofNat (u.take p.length).length) (hi - lo) = .ok (lo', hi') ∧
      (0 ≤ lo' ∧ lo' ≤ hi' ∧ hi' ≤ 65552) ∧ u.drop p.length = (buf.take hi'.toNat).drop lo'.toNat := by
  have h := Go.view_consume buf u p lo hi (by rw [hbuf]; exact hb) hu
  rwa [hbuf] at h

theorem rdCopy_eq (r : stream_Reader α) (u p : Bytes) (hbuf : r.buf.length = 65552)
    (hb : 0 ≤ r.unread_lo ∧ r.unread_lo ≤ r.unread_hi ∧ r.unread_hi ≤ 65552)
    (hu : u = (r.buf.take r.unread_hi.toNat).drop r.unread_lo.toNat) :
    ∃ lo' hi', (0 ≤ lo' ∧ lo' ≤ hi' ∧ hi' ≤ 65552) ∧ u.drop p.length = (r.buf.take hi'.toNat).drop lo'.toNat ∧
      ∀ (β : Type) (next : Int → stream_Reader α → Bytes → Go.M β),
        rdCopy r p next =
          next (Int.ofNat (u.take p.length).length) { r with unread_lo := lo', unread_hi := hi' }
            (u.take p.length ++ p.drop (u.take p.length).length) := by
  obtain ⟨c1, c2, c3, lo', hi', c4, c5, c6⟩ := consume r.buf u p r.unread_lo r.unread_hi hbuf hb hu
  refine ⟨lo', hi', c5, c6, fun β next => ?_⟩
  simp only [rdCopy, c1, Go.bind_ok, c3, take_len_take, Go.writeAt_zero, c4]

theorem probe_tie (a : α) (sd : Bytes) (sf : Bool) (lo hi : Int) (buf nc u : Bytes) (ctr taken : Nat)
    (hbuf : buf.length = 65552) (hb : 0 ≤ lo ∧ lo ≤ hi ∧ hi ≤ 65552) (hu : u = (buf.take hi.toNat).drop lo.toNat) :
    ∃ g', RRel g' (Reader.probe ⟨u, none, ctr, ⟨sd, sf⟩, taken⟩) ∧
      ∀ (β : Type) (next : stream_Reader α → Go.M β), rdProbe ⟨a, ⟨sd, sf⟩, lo, hi, buf, none, nc⟩ next = next g' := by
  have hmk : Go.makeList (0 : UInt8) (1 : Int) = .ok [0] := rfl
  cases sd with
  | nil =>
    have q1 : decide (Go.len ([] : Bytes) > 0) = false := by decide
    cases sf with
    | true =>
      have hrf : Go.io_ReadFull ⟨[], true⟩ (Go.len ([0] : Bytes)) = ([], Go.io_srcErr, ⟨[], true⟩) := by
        simp [Go.io_ReadFull, Go.len]
      have q3 : (Go.io_srcErr != Go.io_EOF) = true := by decide
      refine ⟨⟨a, ⟨[], true⟩, lo, hi, buf, some ⟨"stream.(*Reader).Read", 1, []⟩, nc⟩,
        ⟨hbuf, hb, hu, rfl, rfl, .inr rfl, fun h => by cases h⟩, fun β next => ?_⟩
      simp only [rdProbe, hmk, Go.bind_ok, hrf, q1, q3, Bool.false_eq_true, if_false, if_true]
    | false =>
      have hrf : Go.io_ReadFull ⟨[], false⟩ (Go.len ([0] : Bytes)) = ([], Go.io_EOF, ⟨[], false⟩) := by
        simp [Go.io_ReadFull, Go.len]
      refine ⟨⟨a, ⟨[], false⟩, lo, hi, buf, Go.io_EOF, nc⟩,
        ⟨hbuf, hb, hu, rfl, rfl, rfl, fun h => by cases h⟩, fun β next => ?_⟩
      simp only [rdProbe, hmk, Go.bind_ok, hrf, q1, bne_self_eq_false, Bool.false_eq_true, if_false]
  | cons x rest =>
    have hrf : Go.io_ReadFull ⟨x :: rest, sf⟩ (Go.len ([0] : Bytes)) = ([x], none, ⟨rest, sf⟩) := by
      simp [Go.io_ReadFull, Go.len]
    have q4 : decide (Go.len ([x] : Bytes) > 0) = true := by simp [Go.len]
    refine ⟨⟨a, ⟨rest, sf⟩, lo, hi, buf, rdErr .trailing, nc⟩,
      ⟨hbuf, hb, hu, rfl, rfl, rfl, fun h => by cases h⟩, fun β next => ?_⟩
    simp only [rdProbe, hmk, Go.bind_ok, hrf, q4, if_true]

/-- the conclusion of `reader_read_tie`, under a name for the lemmas about the branches of `Read` -/
def ReadSim (E : AeadEnv α A k) (r : stream_Reader α) (m : Reader) (p : Bytes) : Prop :=
  ∃ res, stream_Reader_Read E.over E.open_ r p = .ok res ∧
    let mr := m.read A 65536 (2 ^ 88) k p.length
    res.1 = Int.ofNat mr.2.1.length ∧ rdErrRel res.2.1 mr.2.2 ∧ RRel res.2.2.1 mr.1 ∧
    res.2.2.2 = mr.2.1 ++ p.drop mr.2.1.length

theorem read_unread (E : AeadEnv α A k) (r : stream_Reader α) (m : Reader) (p : Bytes) (h : RRel r m)
    (hpos : m.unread.length > 0) : ReadSim E r m p := by
  obtain ⟨hbl, hb, hu, hsd, hsf, herr, hnc⟩ := h
  obtain ⟨lo', hi', c5, c6, hcp⟩ := rdCopy_eq r m.unread p hbl hb hu
  have hgt : decide (r.unread_hi - r.unread_lo > 0) = true := by
    have c2 := Go.view_len r.buf r.unread_lo r.unread_hi (by rw [hbl]; exact hb)
    rw [← hu] at c2
    apply decide_eq_true; simp only [Int.ofNat_eq_natCast] at c2; omega
  refine ⟨_, by
    simp only [Read_eq, hgt, if_true, hcp, pure, Except.pure]
    exact rfl, ?_⟩
  simp only [Reader.read, hpos, if_true]
  exact ⟨trivial, rfl, ⟨hbl, c5, c6, hsd, hsf, herr, hnc⟩, trivial⟩

theorem rdErrRel_ne (g : Option Go.Err) (o : Outcome) (h : rdErrRel g (some o)) : (g != none) = true := by
  cases o <;> first
    | (rcases h with h | h <;> (rw [h]; decide))
    | (rw [show g = _ from h]; rfl)

theorem view_empty (buf u : Bytes) (lo hi : Int) (hbuf : buf.length = 65552)
    (hb : 0 ≤ lo ∧ lo ≤ hi ∧ hi ≤ 65552) (hu : u = (buf.take hi.toNat).drop lo.toNat) (h0 : ¬ u.length > 0) :
    hi = lo ∧ u = [] := by
  have hl := Go.view_len buf lo hi (by rw [hbuf]; exact hb)
  rw [← hu] at hl
  simp only [Int.ofNat_eq_natCast] at hl
  exact ⟨by omega, List.eq_nil_of_length_eq_zero (by omega)⟩

theorem read_idle (E : AeadEnv α A k) (r : stream_Reader α) (m : Reader) (p : Bytes) (h : RRel r m)
    (hpos : ¬ m.unread.length > 0) (hi : m.err ≠ none ∨ p.length = 0) : ReadSim E r m p := by
  have herr := h.err
  have hgt : decide (r.unread_hi - r.unread_lo > 0) = false := by
    rw [(view_empty r.buf m.unread r.unread_lo r.unread_hi h.buflen h.bounds h.unread hpos).1]
    apply decide_eq_false; omega
  cases hme : m.err with
  | some o =>
    rw [hme] at herr
    refine ⟨(0, r.err, r, p), by
      simp only [Read_eq, hgt, Bool.false_eq_true, if_false, rdErrRel_ne r.err o herr, if_true, pure, Except.pure], ?_⟩
    simp only [Reader.read, hpos, if_false, hme]
    exact ⟨rfl, herr, h, rfl⟩
  | none =>
    rw [hme] at herr
    have hp : p.length = 0 := hi.resolve_left (fun hne => hne hme)
    have hp' : (Go.len p == 0) = true := by
      rw [Go.len_beq_zero]; exact List.isEmpty_iff_length_eq_zero.mpr hp
    refine ⟨(0, none, r, p), by
      simp only [Read_eq, hgt, Bool.false_eq_true, if_false, show r.err = none from herr, bne_self_eq_false, hp',
        if_true, pure, Except.pure], ?_⟩
    simp only [Reader.read, hpos, if_false, hme, hp, if_true]
    exact ⟨rfl, rfl, h, rfl⟩

/-- `hgo`, `hbl`, `hmu`, `hmul` are the `.ok` branch of `RCPost` unpacked (`mu` the model's `unread`, `mc` its
    counter) -/
theorem read_chunk_ok (E : AeadEnv α A k) (r : stream_Reader α) (p : Bytes) (l : Bool) (a' : α) (sd : Bytes)
    (sf : Bool) (buf' mu : Bytes) (mc mt : Nat)
    (hr1 : decide (r.unread_hi - r.unread_lo > 0) = false) (hr2 : r.err = none) (hp : (Go.len p == 0) = false)
    (hgo : stream_Reader_readChunk E.over E.open_ r =
      .ok (l, none, ⟨a', ⟨sd, sf⟩, 0, Int.ofNat mu.length, buf', none, nonce mc l⟩))
    (hbl : buf'.length = 65552) (hmu : buf'.take mu.length = mu) (hmul : mu.length ≤ 65552) :
    ∃ res, stream_Reader_Read E.over E.open_ r p = .ok res ∧
      let m2 : Reader := ⟨mu.drop p.length, none, mc, ⟨sd, sf⟩, mt⟩
      res.1 = Int.ofNat (mu.take p.length).length ∧ res.2.1 = none ∧
      RRel res.2.2.1 (if l then m2.probe else m2) ∧
      res.2.2.2 = mu.take p.length ++ p.drop (mu.take p.length).length := by
  have hb : (0 : Int) ≤ 0 ∧ 0 ≤ Int.ofNat mu.length ∧ Int.ofNat mu.length ≤ 65552 := by
    simp only [Int.ofNat_eq_natCast]; omega
  have hu : mu = (buf'.take (Int.ofNat mu.length).toNat).drop (0 : Int).toNat := by
    simp only [Int.ofNat_eq_natCast, Int.toNat_natCast, Int.toNat_zero, List.drop_zero, hmu]
  obtain ⟨lo', hi', c5, c6, hcp⟩ :=
    rdCopy_eq ⟨a', ⟨sd, sf⟩, 0, Int.ofNat mu.length, buf', none, nonce mc l⟩ mu p hbl hb hu
  cases l with
  | false =>
    refine ⟨_, by
      simp only [Read_eq, hr1, hr2, hp, hgo, Go.bind_ok, bne_self_eq_false, Bool.false_eq_true, if_false, hcp, pure,
        Except.pure]
      exact rfl, ?_⟩
    exact ⟨rfl, rfl, ⟨hbl, c5, c6, rfl, rfl, rfl, fun _ => rfl⟩, rfl⟩
  | true =>
    obtain ⟨g', hrel, hpr⟩ := probe_tie a' sd sf lo' hi' buf' (nonce mc true) (mu.drop p.length) mc mt hbl c5 c6
    refine ⟨_, by
      simp only [Read_eq, hr1, hr2, hp, hgo, Go.bind_ok, bne_self_eq_false, Bool.false_eq_true, if_false, hcp, if_true,
        hpr, pure, Except.pure]
      exact rfl, ?_⟩
    exact ⟨rfl, rfl, hrel, rfl⟩

theorem read_chunk_err (E : AeadEnv α A k) (r r' : stream_Reader α) (p : Bytes) (l : Bool) (e : Option Go.Err)
    (hr1 : decide (r.unread_hi - r.unread_lo > 0) = false) (hr2 : r.err = none) (hp : (Go.len p == 0) = false)
    (hgo : stream_Reader_readChunk E.over E.open_ r = .ok (l, e, r')) (he : e ≠ none) :
    stream_Reader_Read E.over E.open_ r p = .ok (0, e, { r' with err := e }, p) := by
  have he' : (e != none) = true := bne_iff_ne.mpr he
  simp only [Read_eq, hr1, Bool.false_eq_true, if_false, hr2, bne_self_eq_false, hp, hgo,
    Go.bind_ok, he', if_true, pure, Except.pure]

theorem m_read_chunk (m : Reader) (n : Nat) (hu : m.unread = []) (he : m.err = none) (hn : n ≠ 0) :
    m.read A 65536 (2 ^ 88) k n =
      match m.readChunk A 65536 (2 ^ 88) k with
      | (r1, .error e) => ({ r1 with err := some e }, [], some e)
      | (r1, .ok last) =>
        (if last then ({ r1 with unread := r1.unread.drop n } : Reader).probe
          else { r1 with unread := r1.unread.drop n }, r1.unread.take n, none) := by
  unfold Reader.read
  rw [hu, he]
  simp only [List.length_nil, Nat.lt_irrefl, gt_iff_lt, if_false, hn]
  rfl

theorem read_chunk (E : AeadEnv α A k) (r : stream_Reader α) (m : Reader) (p : Bytes) (h : RRel r m)
    (hctr : m.ctr + 1 < 2 ^ 88) (hpos : ¬ m.unread.length > 0) (hme : m.err = none) (hp : p.length ≠ 0) :
    ReadSim E r m p := by
  obtain ⟨a, ⟨data, fail⟩, lo, hi, buf, err, nc⟩ := r
  obtain ⟨u, merr, ctr, ⟨md, mf⟩, taken⟩ := m
  obtain ⟨hbl, hb, hu, hsd, hsf, herr, hnc⟩ := h
  dsimp only at hbl hb hu hsd hsf herr hnc hme hctr hpos
  obtain ⟨e1, e2⟩ := view_empty buf u lo hi hbl hb hu hpos
  subst hme
  have herr' : err = none := herr
  subst e1 e2 herr' hsd hsf
  unfold ReadSim
  rw [hnc rfl]
  have hr1 : decide (hi - hi > 0) = false := by apply decide_eq_false; omega
  have hp' : (Go.len p == 0) = false := by
    rw [Go.len_beq_zero, Bool.eq_false_iff]; exact fun h => hp (List.isEmpty_iff_length_eq_zero.mp h)
  obtain ⟨⟨l, e, r'⟩, hgo, hpost⟩ := readChunk_tie (A := A) (k := k) E a data fail hi buf ctr taken hbl
    ⟨hb.1, hb.2.2⟩ hctr
  rw [m_read_chunk _ _ rfl rfl hp]
  generalize Reader.readChunk A 65536 (2 ^ 88) k ⟨[], none, ctr, ⟨data, fail⟩, taken⟩ = mr at hpost
  obtain ⟨m1, x⟩ := mr
  cases x with
  | error o =>
    obtain ⟨h1, h2, h3⟩ := hpost
    exact ⟨_, read_chunk_err E _ r' p l e hr1 rfl hp' hgo h1, rfl, h2, h3, rfl⟩
  | ok l' =>
    obtain ⟨h1, h2, h3, h4, a', ⟨sd, sf⟩, buf', h5, h6, h7, h8, h9⟩ := hpost
    obtain ⟨mu, me, mc, ⟨md, mf⟩, mt⟩ := m1
    dsimp only at h1 h2 h3 h4 h5 h6 h7 h8 h9
    subst h1 h2 h3 h7 h8 h9
    obtain ⟨res, g1, g2, g3, g4, g5⟩ := read_chunk_ok E _ p l a' sd sf buf' mu mc mt hr1 rfl hp' hgo h5 h6 h4
    refine ⟨res, g1, g2, ?_, ?_, g5⟩
    · rw [g3]; rfl
    · cases l <;> exact g4

theorem reader_new_rel {α : Type} (a : α) (data : Bytes) (fail : Bool) :
    RRel (⟨a, ⟨data, fail⟩, 0, 0, List.replicate 65552 0, none, List.replicate 12 0⟩ : stream_Reader α)
      (Reader.new ⟨data, fail⟩) := by
  refine ⟨List.length_replicate, ⟨Int.le_refl 0, Int.le_refl 0, (by decide : (0 : Int) ≤ 65552)⟩, ?_, rfl, rfl, rfl, fun _ => ?_⟩
  rotate_left
  · exact nonce_zero.symm
  show [] = ((List.replicate 65552 (0 : UInt8)).take (0 : Int).toNat).drop (0 : Int).toNat
  rw [Int.toNat_zero, List.take_zero, List.drop_zero]

/-- ONE Read: same count, same bytes in the caller's buffer, corresponding error, related states -/
theorem reader_read_tie {α : Type} (A : AEAD) (k : Bytes) (E : AeadEnv α A k)
    (r : stream_Reader α) (m : Reader) (h : RRel r m) (hctr : m.ctr + 1 < 2 ^ 88) (p : Bytes) :
    ∃ res, stream_Reader_Read E.over E.open_ r p = .ok res ∧
      let mr := m.read A 65536 (2 ^ 88) k p.length
      res.1 = Int.ofNat mr.2.1.length ∧
      rdErrRel res.2.1 mr.2.2 ∧
      RRel res.2.2.1 mr.1 ∧
      res.2.2.2 = mr.2.1 ++ p.drop mr.2.1.length := by
  by_cases hpos : m.unread.length > 0
  · exact read_unread E r m p h hpos
  · by_cases hi : m.err ≠ none ∨ p.length = 0
    · exact read_idle E r m p h hpos hi
    · have hi := not_or.mp hi
      exact read_chunk E r m p h hctr hpos (Classical.not_not.mp hi.1) hi.2

end GoTie
end AgeModel
