/-
  Proofs.GoTiePluginUI — `(*ClientUI).handle` (plugin/client.go), as it stands in the source.

  Translated on every run: the `switch` on the command (`msg`, `request-secret` / `request-public`,
  `confirm`, anything else), the nil tests of the three callbacks (fields that may be nil: `Option`
  in the translation; calling a nil callback would panic and the theorem shows it is not reached),
  the argument-count and base64 checks of `confirm`, and which reply is written for which outcome.
  `writeStanza` / `writeStanzaWithBody` append one stanza to the transcript (as in `PluginEnv`),
  `format.DecodeString` is the model's `dec`. For callbacks WITHOUT hidden state — given as pure
  functions — `handle_tie` says the translated `handle` is the model's `UI.handle`: same reply
  (`ok` / `fail` / `ok` with the value / `ok yes|no`), same fatal cases, `(false, nil)` with nothing
  written for an unknown command. (Callbacks with state are what the abstract `Hd` of `PluginEnv`
  stands for in the client ties; their sequencing is exercised by the correspondence.)
-/
import Proofs.GoTiePluginBase
namespace AgeModel
namespace GoTie
open Extracted Plugin

/-- the callbacks, as pure functions: shown? / the value or failure / the choice or failure -/
structure PureUI where
  display : Option (Bytes → Bool)
  request : Option (Bytes → Bool → Option Bytes)
  confirm : Option (Bytes → Bytes → Bytes → Option Bool)

def PureUI.model (u : PureUI) : UI Unit where
  display := u.display.map fun f _ b => ((), f b)
  request := u.request.map fun f _ b s => ((), f b s)
  confirm := u.confirm.map fun f _ b y n => ((), f b y n)

def PureUI.go (u : PureUI) (eU : Go.Err) : plugin_ClientUI where
  DisplayMessage := u.display.map fun f _ m => .ok (if f m then none else some eU)
  RequestValue := u.request.map fun f _ m s => .ok (match f m s with | some v => (v, none) | none => ([], some eU))
  Confirm := u.confirm.map fun f _ m y n => .ok (match f m y n with | some c => (c, none) | none => (false, some eU))
  WaitTimer := none

structure UIEnv (χ : Type) where
  absC : χ → List Plugin.Stanza
  W : χ → Bytes → List Bytes → Go.M (Option Go.Err × χ)
  hW : ∀ c (t : String) (args : List String), ∃ c', W c (bs t) (args.map bs) = .ok (none, c') ∧ absC c' = absC c ++ [⟨t, args, []⟩]
  WB : χ → Bytes → Bytes → Go.M (Option Go.Err × χ)
  hWB : ∀ c (t : String) (body : Bytes), ∃ c', WB c (bs t) body = .ok (none, c') ∧ absC c' = absC c ++ [⟨t, [], body⟩]
  dec : String → Option Bytes
  D : Bytes → Go.M (Bytes × Option Go.Err)
  eD : Go.Err
  hD : ∀ y, D (bs y) = .ok (match dec y with | some b => (b, none) | none => ([], some eD))

namespace PluginUI

variable {χ : Type}

theorem idx0 {α} (a : α) (l : List α) : Go.idx (a :: l) 0 = .ok a := idx_zero a l
theorem idx1 {α} (a b : α) (l : List α) : Go.idx (a :: b :: l) 1 = .ok b := rfl
theorem len_eq_one {α} (l : List α) : Go.len l = 1 ↔ l.length = 1 := by rw [len_eq]; omega
theorem len_eq_two {α} (l : List α) : Go.len l = 2 ↔ l.length = 2 := by rw [len_eq]; omega

/-- `return true, writeStanza(conn, t, args…)` appends that stanza and does not fail -/
theorem replies (E : UIEnv χ) (conn : χ) (t : String) (args : List String) :
    ∃ out, ((fun a => (true, a.1, a.2)) <$> E.W conn (bs t) (args.map bs)) = .ok out ∧
      out.1 = true ∧ out.2.1 = none ∧ E.absC out.2.2 = E.absC conn ++ [⟨t, args, []⟩] := by
  obtain ⟨c', hW, hA⟩ := E.hW conn t args
  exact ⟨_, by rw [hW]; rfl, rfl, rfl, hA⟩

theorem repliesBody (E : UIEnv χ) (conn : χ) (t : String) (body : Bytes) :
    ∃ out, ((fun a => (true, a.1, a.2)) <$> E.WB conn (bs t) body) = .ok out ∧
      out.1 = true ∧ out.2.1 = none ∧ E.absC out.2.2 = E.absC conn ++ [⟨t, [], body⟩] := by
  obtain ⟨c', hW, hA⟩ := E.hWB conn t body
  exact ⟨_, by rw [hW]; rfl, rfl, rfl, hA⟩

/-- what the Go callback `Confirm` of `PureUI.go` returns when the pure callback answers `r` -/
def confirmAnswer (eU : Go.Err) : Option Bool → Bool × Option Go.Err
  | some c => (c, none)
  | none => (false, some eU)

theorem confirm_reply (E : UIEnv χ) (eU : Go.Err) (conn : χ) (r : Option Bool) :
    ∃ out,
      (if ¬ (confirmAnswer eU r).2 = none then (fun a => (true, a.1, a.2)) <$> E.W conn (bs "fail") []
        else if (!(confirmAnswer eU r).1) = true then (fun a => (true, a.1, a.2)) <$> E.W conn (bs "ok") [bs "no"]
        else (fun a => (true, a.1, a.2)) <$> E.W conn (bs "ok") [bs "yes"]) = .ok out ∧
      match (match r with | none => .reply () failS | some c => .reply () (okChoice c) : Handled Unit) with
      | .reply _ r => out.1 = true ∧ out.2.1 = none ∧ E.absC out.2.2 = E.absC conn ++ [r]
      | .fatal => out.1 = true ∧ out.2.1 ≠ none ∧ E.absC out.2.2 = E.absC conn
      | .unknown => out.1 = false ∧ out.2.1 = none ∧ E.absC out.2.2 = E.absC conn := by
  rcases r with _ | _ | _
  · exact replies E conn "fail" []
  · exact replies E conn "ok" ["no"]
  · exact replies E conn "ok" ["yes"]

end PluginUI

theorem handle_tie {χ : Type} (E : UIEnv χ) (u : PureUI) (eU : Go.Err) (name : Bytes) (conn : χ) (m : Plugin.Stanza) :
    ∃ out, plugin_ClientUI_handle E.W E.WB E.D (u.go eU) name conn (goFS m) = .ok out ∧
      match u.model.handle E.dec () m with
      | .reply _ r => out.1 = true ∧ out.2.1 = none ∧ E.absC out.2.2 = E.absC conn ++ [r]
      | .fatal => out.1 = true ∧ out.2.1 ≠ none ∧ E.absC out.2.2 = E.absC conn
      | .unknown => out.1 = false ∧ out.2.1 = none ∧ E.absC out.2.2 = E.absC conn := by
  open PluginUI in
  obtain ⟨ty, args, body⟩ := m
  -- both sides unfolded once; then, branch by branch of the `switch`, both are cut down to the branch (`rw`, one
  -- pass each) before the callback's answer is examined
  simp only [plugin_ClientUI_handle, UI.handle, PureUI.go, PureUI.model, goFS, ↓words, beq_iff_eq, bs_inj,
    Bool.or_eq_true, bne_iff_ne, ne_eq, Bool.and_eq_true,
    Option.isNone_iff_eq_none, Option.map_eq_none_iff, bind_pure_comp, len_eq_one, len_eq_two, List.length_map]
  by_cases t1 : ty = "msg"
  · rw [if_pos t1, if_pos t1]
    cases u.display with
    | none => exact replies E conn "fail" []
    | some f =>
      simp only [Option.map_some, reduceCtorEq, if_false, Go.bind_ok]
      by_cases hf : f body = true
      · simp only [if_pos hf, not_true_eq_false, if_false]
        exact replies E conn "ok" []
      · simp only [if_neg hf, reduceCtorEq, not_false_eq_true, if_true]
        exact replies E conn "fail" []
  rw [if_neg t1, if_neg t1]
  by_cases t2 : ty = "request-secret" ∨ ty = "request-public"
  · rw [if_pos t2, if_pos t2]
    cases u.request with
    | none => exact replies E conn "fail" []
    | some f =>
      simp only [Option.map_some, reduceCtorEq, if_false, Go.bind_ok, bs_beq]
      cases f body (decide (ty = "request-secret")) with
      | none => exact replies E conn "fail" []
      | some v => exact repliesBody E conn "ok" v
  rw [if_neg t2, if_neg t2]
  by_cases t3 : ty = "confirm"
  · rw [if_pos t3, if_pos t3]
    match args with
    | [] => exact ⟨_, if_pos (by decide), by rw [if_pos (by decide)]; exact ⟨rfl, by simp, rfl⟩⟩
    | a :: b :: c :: l =>
      have hc : ¬ (a :: b :: c :: l).length = 1 ∧ ¬ (a :: b :: c :: l).length = 2 := by
        simp only [List.length_cons]; omega
      exact ⟨_, if_pos hc, by rw [if_pos hc]; exact ⟨rfl, by simp, rfl⟩⟩
    | [y] =>
      have hc : ¬ (¬ [y].length = 1 ∧ ¬ [y].length = 2) := by simp
      have h2 : ¬ [y].length = 2 := by simp
      rw [if_neg hc, if_neg hc]
      cases u.confirm with
      | none => exact replies E conn "fail" []
      | some f =>
        simp only [Option.map_some, reduceCtorEq, if_false, List.map_cons, List.map_nil, idx0, Go.bind_ok, E.hD, if_neg h2]
        cases E.dec y with
        | none => exact ⟨_, rfl, rfl, by simp, rfl⟩
        | some yes =>
          simp only [not_true_eq_false, if_false]
          exact confirm_reply E eU conn (f body yes [])
    | [y, n] =>
      have hc : ¬ (¬ [y, n].length = 1 ∧ ¬ [y, n].length = 2) := by simp
      have h2 : [y, n].length = 2 := rfl
      rw [if_neg hc, if_neg hc]
      cases u.confirm with
      | none => exact replies E conn "fail" []
      | some f =>
        simp only [Option.map_some, reduceCtorEq, if_false, List.map_cons, List.map_nil, idx0, idx1, Go.bind_ok, E.hD,
          if_pos h2]
        cases E.dec y with
        | none => exact ⟨_, rfl, rfl, by simp, rfl⟩
        | some yes =>
          simp only [not_true_eq_false, if_false]
          cases E.dec n with
          | none => exact ⟨_, rfl, rfl, by simp, rfl⟩
          | some no =>
            simp only [not_true_eq_false, if_false]
            exact confirm_reply E eU conn (f body yes no)
  · rw [if_neg t3, if_neg t3]
    exact ⟨_, rfl, rfl, rfl, rfl⟩

end GoTie
end AgeModel
