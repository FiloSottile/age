/-
  Proofs.GoTieScryptCtor — the passphrase constructors and the work-factor setters of scrypt.go,
  translated on every run: the passphrase stored is the string given, byte for byte (nothing is
  trimmed, folded or normalised), the empty passphrase is the only one refused, the defaults are 18
  and 22, and the setters accept exactly 1 … 30 (anything else reaches their panic).
-/
import AgeModel.GoSem
import AgeModel.Extracted.Funcs
import Proofs.GoBuf
namespace AgeModel
namespace GoTie
open Extracted

theorem newScryptRecipient_tie (pw : Bytes) :
    age_NewScryptRecipient pw =
      .ok (if pw = [] then (⟨[], 0⟩, some ⟨"age.NewScryptRecipient", 0, []⟩) else (⟨pw, 18⟩, none)) := by
  rw [age_NewScryptRecipient, Go.len_beq_zero]
  cases pw <;> rfl

theorem newScryptIdentity_tie (pw : Bytes) :
    age_NewScryptIdentity pw =
      .ok (if pw = [] then (⟨[], 0⟩, some ⟨"age.NewScryptIdentity", 0, []⟩) else (⟨pw, 22⟩, none)) := by
  rw [age_NewScryptIdentity, Go.len_beq_zero]
  cases pw <;> rfl

/-- the setters' test `logN > 30 || logN < 1` -/
theorem outside_1_30 (n : Int) : (decide (n > 30) || decide (n < 1)) = true ↔ ¬ (1 ≤ n ∧ n ≤ 30) := by
  simp only [Bool.or_eq_true, decide_eq_true_eq]
  omega

theorem setWorkFactor_tie (r : age_ScryptRecipient) (logN : Int) :
    age_ScryptRecipient_SetWorkFactor r logN =
      if 1 ≤ logN ∧ logN ≤ 30 then .ok { r with workFactor := logN } else .error (.panic 0) := by
  unfold age_ScryptRecipient_SetWorkFactor
  by_cases h : 1 ≤ logN ∧ logN ≤ 30
  · rw [if_pos h, if_neg (mt (outside_1_30 logN).mp (not_not_intro h))]
    rfl
  · rw [if_neg h, if_pos ((outside_1_30 logN).mpr h)]
    rfl

theorem setMaxWorkFactor_tie (i : age_ScryptIdentity) (logN : Int) :
    age_ScryptIdentity_SetMaxWorkFactor i logN =
      if 1 ≤ logN ∧ logN ≤ 30 then .ok { i with maxWorkFactor := logN } else .error (.panic 0) := by
  unfold age_ScryptIdentity_SetMaxWorkFactor
  by_cases h : 1 ≤ logN ∧ logN ≤ 30
  · rw [if_pos h, if_neg (mt (outside_1_30 logN).mp (not_not_intro h))]
    rfl
  · rw [if_neg h, if_pos ((outside_1_30 logN).mpr h)]
    rfl

end GoTie
end AgeModel
