/-
  Proofs.StreamWriterTop — per-call and whole-run statements about the Writer.
-/
import Proofs.StreamWriter
namespace AgeModel
namespace Stream

variable {S : DstSpec}

/-- invariant between calls of a writer that has reported no error:
    `pt` is everything successfully written so far -/
def WInv (A : AEAD) (C : Nat) (k : Bytes) (acc0 : Bytes) (w : Writer S) (pt : Bytes) : Prop :=
  w.err = none ∧ w.buf.length ≤ C ∧ w.ctr * C + w.buf.length = pt.length ∧
  ∀ q, w.dst.acc ++ enc A C k w.ctr (w.buf ++ q) = acc0 ++ enc A C k 0 (pt ++ q)

theorem WInv_new (A : AEAD) (C : Nat) (k : Bytes) (d : Dst S) :
    WInv A C k d.acc (Writer.new d) [] := by
  refine ⟨rfl, by simp [Writer.new], by simp [Writer.new], ?_⟩
  intro q; simp [Writer.new]

theorem write_spec (A : AEAD) (C L : Nat) (hC : 0 < C) (k acc0 : Bytes) (w : Writer S) (pt p : Bytes)
    (hinv : WInv A C k acc0 w pt) :
    match w.write A C L k p with
    | (w', n, none) => WInv A C k acc0 w' (pt ++ p) ∧ n = p.length
    | (w', n, some e) =>
        w'.err = some e ∧ n = 0 ∧
        ((e = .dstErr ∧ ¬ S.NeverFails) ∨ (e = .panic 3 ∧ (L - 1) * C ≤ pt.length + p.length)) := by
  obtain ⟨he, hb, hn, hq⟩ := hinv
  unfold Writer.write
  rw [he]
  by_cases hp : p.length = 0
  · cases List.eq_nil_of_length_eq_zero hp
    exact ⟨⟨he, hb, by rw [List.append_nil]; exact hn, by rw [List.append_nil]; exact hq⟩, rfl⟩
  · simp only [if_neg hp]
    have hf := fill_spec A C L hC k (pt.length + p.length) (fun q => acc0 ++ enc A C k 0 (pt ++ p ++ q)) (p.length + 2) w p
      ⟨hb, by omega, fun q => by show _ = acc0 ++ enc A C k 0 (pt ++ p ++ q); rw [hq (p ++ q), List.append_assoc]⟩
      (by omega) fun _ _ => by omega
    generalize w.fill A C L k p (p.length + 2) = rf at hf ⊢
    obtain ⟨w1, e⟩ := rf
    cases e with
    | some e => exact ⟨rfl, rfl, hf⟩
    | none =>
      obtain ⟨⟨g1, g2, g3⟩, g4⟩ := hf
      refine ⟨⟨g4.trans he, g1, by rw [List.length_append]; exact g2, fun q => ?_⟩, rfl⟩
      have := g3 q
      rw [List.nil_append] at this
      exact this

theorem write_ok (A : AEAD) (C L : Nat) (hC : 0 < C) (k acc0 : Bytes) (w w' : Writer S) (pt p : Bytes) (n : Nat)
    (hinv : WInv A C k acc0 w pt) (h : w.write A C L k p = (w', n, none)) :
    WInv A C k acc0 w' (pt ++ p) ∧ n = p.length := by
  have := write_spec A C L hC k acc0 w pt p hinv
  rwa [h] at this

theorem write_err (A : AEAD) (C L : Nat) (hC : 0 < C) (k acc0 : Bytes) (w w' : Writer S) (pt p : Bytes) (n : Nat) (e : Outcome)
    (hinv : WInv A C k acc0 w pt) (h : w.write A C L k p = (w', n, some e)) :
    w'.err = some e ∧ n = 0 ∧ (e = .dstErr ∨ (e = .panic 3 ∧ (L - 1) * C ≤ pt.length + p.length)) := by
  have := write_spec A C L hC k acc0 w pt p hinv
  rw [h] at this
  exact ⟨this.1, this.2.1, this.2.2.imp_left And.left⟩

theorem close_spec (A : AEAD) (C L : Nat) (k acc0 : Bytes) (w : Writer S) (pt : Bytes)
    (hinv : WInv A C k acc0 w pt) :
    match w.close A C L k with
    | (w', none) => w'.dst.acc = acc0 ++ encrypt A C k pt ∧ w'.err = some .closed
    | (w', some e) =>
        w'.err = some e ∧ ((e = .dstErr ∧ ¬ S.NeverFails) ∨ (e = .panic 3 ∧ (L - 1) * C ≤ pt.length)) := by
  obtain ⟨he, hb, hn, hq⟩ := hinv
  unfold Writer.close
  rw [he]
  have hfl := flush_spec A C L k w true
  generalize w.flush A C L k true = rf at hfl ⊢
  obtain ⟨w1, e⟩ := rf
  cases e with
  | some e =>
    refine ⟨rfl, ?_⟩
    rcases hfl with ⟨-, hl, -⟩ | ⟨he, hw⟩ | ⟨he, hL⟩
    · cases hl
    · exact Or.inl ⟨he, fun hS => by rw [Dst.write_neverFails hS] at hw; cases hw⟩
    · have : (L - 1) * C ≤ w.ctr * C := Nat.mul_le_mul_right C (by omega)
      exact Or.inr ⟨he, by omega⟩
  | none =>
    obtain ⟨-, -, -, -, f5⟩ := hfl
    refine ⟨?_, rfl⟩
    show w1.dst.acc = _
    have := hq []
    rw [List.append_nil, List.append_nil] at this
    rw [Dst.write_ok f5, ← enc_short A C k w.ctr w.buf hb, encrypt_eq_enc]
    exact this

theorem close_ok (A : AEAD) (C L : Nat) (k acc0 : Bytes) (w w' : Writer S) (pt : Bytes)
    (hinv : WInv A C k acc0 w pt) (h : w.close A C L k = (w', none)) :
    w'.dst.acc = acc0 ++ encrypt A C k pt ∧ w'.err = some .closed := by
  have := close_spec A C L k acc0 w pt hinv
  rwa [h] at this

theorem close_err (A : AEAD) (C L : Nat) (k acc0 : Bytes) (w w' : Writer S) (pt : Bytes) (e : Outcome)
    (hinv : WInv A C k acc0 w pt) (h : w.close A C L k = (w', some e)) :
    w'.err = some e ∧ (e = .dstErr ∨ (e = .panic 3 ∧ (L - 1) * C ≤ pt.length)) := by
  have := close_spec A C L k acc0 w pt hinv
  rw [h] at this
  exact ⟨this.1, this.2.imp_left And.left⟩

theorem run_writes (A : AEAD) (C L : Nat) (hC : 0 < C) (k acc0 : Bytes) :
    ∀ (segs : List Bytes) (w : Writer S) (pt : Bytes), WInv A C k acc0 w pt →
      ((∀ r ∈ (w.run A C L k (segs.map WOp.write)).2, r.2 = none) ∨
        (S.NeverFails ∧ pt.length + segs.flatten.length < (L - 1) * C)) →
      WInv A C k acc0 (w.run A C L k (segs.map WOp.write)).1 (pt ++ segs.flatten) ∧
      (w.run A C L k (segs.map WOp.write)).2 = segs.map fun p => (p.length, none) := by
  intro segs
  induction segs with
  | nil => intro w pt hinv _; exact ⟨by rw [List.flatten_nil, List.append_nil]; exact hinv, rfl⟩
  | cons p segs ih =>
    intro w pt hinv hok
    simp only [List.map_cons, Writer.run, Writer.step] at hok ⊢
    have hsp := write_spec A C L hC k acc0 w pt p hinv
    generalize w.write A C L k p = rw at hsp hok ⊢
    obtain ⟨w1, n, e⟩ := rw
    cases e with
    | some e =>
      exfalso
      rcases hok with hall | ⟨hS, hlen⟩
      · cases hall _ (List.mem_cons_self ..)
      · rw [List.flatten_cons, List.length_append] at hlen
        rcases hsp.2.2 with ⟨-, hne⟩ | ⟨-, hbig⟩
        · exact hne hS
        · omega
    | none =>
      obtain ⟨hinv1, rfl⟩ := hsp
      have := ih w1 (pt ++ p) hinv1 (hok.imp (fun hall r hr => hall r (List.mem_cons_of_mem _ hr))
        (fun h => ⟨h.1, by rw [List.length_append]; rw [List.flatten_cons, List.length_append] at h; omega⟩))
      rw [List.append_assoc] at this
      exact ⟨this.1, by rw [this.2]⟩

theorem Writer.run_append (A : AEAD) (C L : Nat) (k : Bytes) (w : Writer S) (ops₁ ops₂ : List WOp) :
    w.run A C L k (ops₁ ++ ops₂) =
      (((w.run A C L k ops₁).1.run A C L k ops₂).1, (w.run A C L k ops₁).2 ++ ((w.run A C L k ops₁).1.run A C L k ops₂).2) := by
  induction ops₁ generalizing w with
  | nil => rfl
  | cons op ops ih => simp only [List.cons_append, Writer.run, ih, List.cons_append]

theorem run_writes_close (A : AEAD) (C L : Nat) (hC : 0 < C) (k acc0 : Bytes) (segs : List Bytes) (w : Writer S)
    (pt : Bytes) (hinv : WInv A C k acc0 w pt)
    (hok : (∀ r ∈ (w.run A C L k (segs.map WOp.write ++ [WOp.close])).2, r.2 = none) ∨
      (S.NeverFails ∧ pt.length + segs.flatten.length < (L - 1) * C)) :
    (w.run A C L k (segs.map WOp.write ++ [WOp.close])).1.dst.acc = acc0 ++ encrypt A C k (pt ++ segs.flatten) ∧
    (w.run A C L k (segs.map WOp.write ++ [WOp.close])).2 = segs.map (fun p => (p.length, none)) ++ [(0, none)] := by
  rw [Writer.run_append] at hok ⊢
  obtain ⟨hinv', hres⟩ := run_writes A C L hC k acc0 segs w pt hinv
    (hok.imp_left fun hall r hr => hall r (List.mem_append_left _ hr))
  have hcl := close_spec A C L k acc0 _ _ hinv'
  simp only [Writer.run, Writer.step] at hok ⊢
  generalize (w.run A C L k (segs.map WOp.write)).1.close A C L k = rc at hcl hok ⊢
  obtain ⟨w2, e⟩ := rc
  cases e with
  | none => exact ⟨hcl.1, by rw [hres]⟩
  | some e =>
    exfalso
    rcases hok with hall | ⟨hS, hlen⟩
    · cases hall _ (List.mem_append_right _ (List.mem_singleton.mpr rfl))
    · rcases hcl.2 with ⟨-, hne⟩ | ⟨-, hbig⟩
      · exact hne hS
      · rw [List.length_append] at hbig; omega

theorem step_sticky (A : AEAD) (C L : Nat) (k : Bytes) (w : Writer S) (e : Outcome) (he : w.err = some e)
    (op : WOp) : w.step A C L k op = (w, (0, some e)) := by
  cases op with
  | write p => simp [Writer.step, Writer.write, he]
  | close => simp [Writer.step, Writer.close, he]

theorem run_sticky (A : AEAD) (C L : Nat) (k : Bytes) (w : Writer S) (e : Outcome) (he : w.err = some e) :
    ∀ ops : List WOp, w.run A C L k ops = (w, ops.map fun _ => (0, some e)) := by
  intro ops
  induction ops with
  | nil => rfl
  | cons op ops ih =>
    unfold Writer.run
    rw [step_sticky A C L k w e he op]
    simp only [ih, List.map_cons]

end Stream
end AgeModel
