/-
  Proofs.ArmorWriteTop — whole-run statements about the armored writer.
-/
import Proofs.ArmorWrite
import Proofs.StreamWriter
namespace AgeModel
namespace Armor
open Stream

variable {S : DstSpec}

/-- rewrites a call that cannot fail to its successful result -/
theorem eq_mk_snd {α β : Type} {p : α × β} {b : β} (h : p.2 = b) : p = (p.1, b) := by rw [← h]

def aopsOf (segs : List (Bytes × List Nat)) : List AOp := segs.map (fun x => AOp.write x.1 x.2) ++ [AOp.close]

theorem aopsOf_nil : aopsOf [] = [AOp.close] := rfl

theorem aopsOf_cons (x : Bytes × List Nat) (segs : List (Bytes × List Nat)) :
    aopsOf (x :: segs) = AOp.write x.1 x.2 :: aopsOf segs := rfl

theorem arun_ok (acc0 : Bytes) : ∀ (segs : List (Bytes × List Nat)) (a : AWriter S) (D : Bytes), AInv acc0 a D →
    (∀ r ∈ (a.run (aopsOf segs)).2, r = none) →
    (a.run (aopsOf segs)).1.dst.acc = acc0 ++ armor (D ++ (segs.map (·.1)).flatten) := by
  intro segs
  induction segs with
  | nil =>
    intro a D hinv hall
    simp only [aopsOf_nil, AWriter.run, AWriter.step, List.mem_singleton, forall_eq] at hall ⊢
    rw [aclose_ok acc0 a _ D hinv (eq_mk_snd hall), List.map_nil, List.flatten_nil, List.append_nil]
  | cons x segs ih =>
    intro a D hinv hall
    simp only [aopsOf_cons, AWriter.run, AWriter.step, List.mem_cons, forall_eq_or_imp] at hall ⊢
    have hw := eq_mk_snd hall.1
    rw [ih _ (D ++ x.1) (awrite_ok acc0 a _ D x.1 x.2 hinv hw) hall.2, List.map_cons, List.flatten_cons, List.append_assoc]

theorem ensureHeader_neverFails (hS : S.NeverFails) (a : AWriter S) : (a.ensureHeader).2 = true := by
  unfold AWriter.ensureHeader
  split
  · rfl
  · rw [eq_mk_snd (Dst.write_neverFails hS a.dst _)]

theorem emit_neverFails (hS : S.NeverFails) (a : AWriter S) (cs : Bytes) (segs : List Nat) : (a.emit cs segs).2 = true := by
  unfold AWriter.emit
  rw [eq_mk_snd (writeAll_neverFails hS _ a.dst)]

theorem awrite_neverFails (hS : S.NeverFails) (acc0 : Bytes) (a : AWriter S) (D p : Bytes) (segs : List Nat)
    (hinv : AInv acc0 a D) : (a.write p segs).2 = none := by
  have hh := eq_mk_snd (ensureHeader_neverFails hS a)
  have h1e := (ensureHeader_encErr hh).trans hinv.2.1
  unfold AWriter.write
  rw [hh]
  simp only [h1e, Bool.false_eq_true, if_false]
  rw [eq_mk_snd (emit_neverFails hS _ _ segs)]

theorem aclose_neverFails (hS : S.NeverFails) (acc0 : Bytes) (a : AWriter S) (D : Bytes)
    (hinv : AInv acc0 a D) : (a.close).2 = none := by
  have hh := eq_mk_snd (ensureHeader_neverFails hS ({ a with closed := true } : AWriter S))
  have h1e := (ensureHeader_encErr hh).trans hinv.2.1
  have h2 : ∀ a1 : AWriter S, (if a1.pending.isEmpty then (a1, true) else a1.emit (B64.encStd a1.pending) []).2 = true := by
    intro a1
    split
    · rfl
    · exact emit_neverFails hS a1 _ []
  unfold AWriter.close
  rw [if_neg (by rw [hinv.1]; decide), hh]
  simp only [h1e, Bool.false_eq_true, if_false]
  rw [eq_mk_snd (h2 _)]
  simp only [AWriter.writeFooter]
  rw [eq_mk_snd (Dst.write_neverFails hS _ _)]

theorem arun_neverFails (hS : S.NeverFails) (acc0 : Bytes) : ∀ (segs : List (Bytes × List Nat)) (a : AWriter S) (D : Bytes),
    AInv acc0 a D → ∀ r ∈ (a.run (aopsOf segs)).2, r = none := by
  intro segs
  induction segs with
  | nil =>
    intro a D hinv r hr
    simp only [aopsOf_nil, AWriter.run, AWriter.step, List.mem_singleton] at hr
    rw [hr]
    exact aclose_neverFails hS acc0 a D hinv
  | cons x segs ih =>
    intro a D hinv r hr
    have hw := eq_mk_snd (awrite_neverFails hS acc0 a D x.1 x.2 hinv)
    simp only [aopsOf_cons, AWriter.run, AWriter.step, List.mem_cons] at hr
    rw [hw] at hr
    rcases hr with rfl | hr
    · rfl
    · exact ih _ (D ++ x.1) (awrite_ok acc0 a _ D x.1 x.2 hinv hw) r hr

end Armor
end AgeModel
