/-
  Proofs.GoTieWitnessStream — instances of the assumption structures of the stream ties (the AEAD
  handle under one key, the destination), for the toy primitive suite with the 16-byte tag.
-/
import Proofs.ToyPrims
import Proofs.GoTieStreamR
import Proofs.GoTieStreamW
namespace AgeModel

namespace GoTie
set_option linter.ambiguousOpen false
open Extracted Stream

def AeadEnv.witness (k : Bytes) : AeadEnv Unit AEAD.toy16 k where
  over _ := .ok 16
  open_ _ n c _ := .ok (match AEAD.toy16.openF k n c with
                        | some p => (p, none)
                        | none => ([], some ⟨"chacha20poly1305: message authentication failed", 0, []⟩))
  seal_ _ n p _ := .ok (AEAD.toy16.sealF k n p)
  eAuth := ⟨"chacha20poly1305: message authentication failed", 0, []⟩
  hT := rfl
  hOver _ := rfl
  hOpen _ _ _ := rfl
  hSeal _ _ _ := rfl
  hOpenLen n c p h := by
    have := AEAD.toy16_correct.open_unique k n c p h
    rw [this, AEAD.toy16_correct.seal_len]; rfl
  hSealLen n p := AEAD.toy16_correct.seal_len k n p

def DstEnv.witness (S : DstSpec) : DstEnv (Dst S) S where
  write d b := .ok ((b.length : Int), (if (d.write b).2 then none else some ⟨"dst: write failed", 0, []⟩), (d.write b).1)
  absD := id
  eW := ⟨"dst: write failed", 0, []⟩
  hWrite _ _ := ⟨_, _, rfl, rfl⟩

end GoTie
end AgeModel
