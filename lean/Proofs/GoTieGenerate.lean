/-
  Proofs.GoTieGenerate — `age.GenerateX25519Identity` (x25519.go), translated on every run with
  crypto/rand as a tape: the secret key is EXACTLY the next 32 bytes of the random source, nothing
  else is drawn, and the public key is the scalar multiplication of that secret with the base point.
-/
import AgeModel.Extracted.Funcs
import Proofs.GoTieTape
import Proofs.GoTieKeys
namespace AgeModel
namespace GoTie
open Extracted

theorem generate_tie (eRand : Go.Err) (X : Bytes → Bytes → Go.M (Bytes × Option Go.Err)) (bp tape : Bytes) :
    age_GenerateX25519Identity (tapeRead eRand) X bp tape =
      match draw 32 tape with
      | none => .ok (⟨[], []⟩, some ⟨"age.GenerateX25519Identity", 0, []⟩, tape)
      | some (sk, t) =>
        match X sk bp with
        | .ok r => .ok (⟨sk, r.1⟩, none, t)
        | .error e => .error e := by
  unfold age_GenerateX25519Identity
  simp only [Go.make32, Go.len_make32, bind, Except.bind, pure, Except.pure]
  cases hd : draw 32 tape with
  | none =>
    simp only [tapeRead_none eRand hd]
    rfl
  | some st =>
    obtain ⟨sk, t⟩ := st
    have hl := draw_length hd
    simp only [tapeRead_some eRand hd, Go.writeAt_fresh 32 sk hl, keys_newIdentity, hl]
    cases X sk bp <;> rfl

end GoTie
end AgeModel
