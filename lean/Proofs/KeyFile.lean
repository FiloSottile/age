/-
  Helper lemmas for the key-file model: the scanner.
-/
import AgeModel.KeyFile
namespace AgeModel
namespace KeyFile

theorem rawLinesAux_append (l : Bytes) (h : 10 ∉ l) : ∀ cur rest : Bytes,
    rawLinesAux cur (l ++ rest) = rawLinesAux (l.reverse ++ cur) rest := by
  induction l with
  | nil => intro cur rest; rfl
  | cons c cs ih =>
    intro cur rest
    have hc : c ≠ 10 := fun e => h (e ▸ List.mem_cons_self)
    rw [List.cons_append, rawLinesAux, if_neg hc, ih (fun e => h (List.mem_cons_of_mem _ e)),
      List.reverse_cons, List.append_assoc]
    rfl

theorem rawLines_line (l rest : Bytes) (h : 10 ∉ l) :
    rawLines (l ++ 10 :: rest) = l :: rawLines rest := by
  rw [rawLines, rawLinesAux_append l h, rawLinesAux, if_pos rfl, List.append_nil, List.reverse_reverse]
  rfl

theorem rawLines_noNL (l : Bytes) (h : 10 ∉ l) : rawLines l = if l = [] then [] else [l] := by
  have := rawLinesAux_append l h [] []
  rw [List.append_nil, List.append_nil] at this
  rw [rawLines, this, rawLinesAux]
  simp only [List.reverse_eq_nil_iff, List.reverse_reverse]

theorem rawLines_joinLF (ls : List Bytes) (tail : Bytes) (h : ∀ l ∈ ls, 10 ∉ l) :
    rawLines (joinLF ls ++ tail) = ls ++ rawLines tail := by
  induction ls with
  | nil => rfl
  | cons l ls ih =>
    have : joinLF (l :: ls) ++ tail = l ++ 10 :: (joinLF ls ++ tail) := by simp [joinLF]
    rw [this, rawLines_line _ _ (h l List.mem_cons_self), ih (fun l' hl' => h l' (List.mem_cons_of_mem _ hl'))]
    rfl

theorem rawLines_joinLF_self (ls : List Bytes) (h : ∀ l ∈ ls, 10 ∉ l) : rawLines (joinLF ls) = ls := by
  have := rawLines_joinLF ls [] h
  rwa [List.append_nil, show rawLines [] = [] from rfl, List.append_nil] at this

theorem joinCRLF_eq (ls : List Bytes) : joinCRLF ls = joinLF (ls.map (· ++ [13])) := by
  simp [joinCRLF, joinLF, Function.comp_def]

theorem dropCR_snoc (l : Bytes) : dropCR (l ++ [13]) = l := by
  simp [dropCR]

theorem dropCR_id (l : Bytes) (h : l.getLast? ≠ some 13) : dropCR l = l :=
  if_neg h

theorem map_dropCR_id (ls : List Bytes) (h : ∀ l ∈ ls, l.getLast? ≠ some 13) : ls.map dropCR = ls := by
  rw [List.map_congr_left (g := id) fun l hl => dropCR_id l (h l hl), List.map_id]

theorem map_dropCR_snoc (ls : List Bytes) : (ls.map (· ++ [13])).map dropCR = ls := by
  rw [List.map_map]
  exact (List.map_congr_left fun l _ => dropCR_snoc l).trans (List.map_id ls)

theorem scanFrom_append (maxTok : Nat) (pre rs : List Bytes) (h : ∀ r ∈ pre, r.length < maxTok) :
    scanFrom maxTok (pre ++ rs) =
      ⟨pre.map dropCR ++ (scanFrom maxTok rs).lines, (scanFrom maxTok rs).err⟩ := by
  induction pre with
  | nil => rfl
  | cons p pre ih =>
    rw [List.cons_append, scanFrom, if_neg (Nat.not_le.mpr (h p List.mem_cons_self)),
      ih (fun r hr => h r (List.mem_cons_of_mem _ hr))]
    rfl

theorem scanFrom_short (maxTok : Nat) (rs : List Bytes) (h : ∀ r ∈ rs, r.length < maxTok) :
    scanFrom maxTok rs = ⟨rs.map dropCR, false⟩ := by
  have := scanFrom_append maxTok rs [] h
  rwa [List.append_nil, scanFrom, List.append_nil] at this

theorem scanFrom_long (maxTok : Nat) (pre : List Bytes) (r : Bytes) (post : List Bytes)
    (h : ∀ r ∈ pre, r.length < maxTok) (hr : maxTok ≤ r.length) :
    scanFrom maxTok (pre ++ r :: post) = ⟨pre.map dropCR, true⟩ := by
  rw [scanFrom_append maxTok pre _ h, scanFrom, if_pos hr, List.append_nil]

end KeyFile
end AgeModel
