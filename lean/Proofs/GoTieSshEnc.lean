/-
  Proofs.GoTieSshEnc — when the passphrase-protected SSH identity asks for its passphrase, and what
  it keeps, as it stands in the source.

  `(*EncryptedSSHIdentity).Unwrap` (agessh/encrypted_keys.go) is TRANSLATED on every run, except its
  middle — decrypting and parsing the key file, the type switch over `crypto` key types — which stands
  in the translation as ONE abstract step (`funcSpec.regions`; here the parameter `Rg`) that either
  hands on the decrypted identity with its public half or makes `Unwrap` return. `ssh.PublicKey.Type`,
  `sshFingerprint`, the cached identity's `Unwrap` and the callback are parameters too. With a key
  cached the call is delegated and the callback not touched; with nothing cached the callback is
  invoked EXACTLY when the model's `SshEnc.scanStanzas` ends in a match (`encssh_prompt_tie`).
-/
import AgeModel.GoSem
import AgeModel.SshEnc
import AgeModel.Extracted.Funcs
import Proofs.GoBuf
namespace AgeModel
namespace GoTie
open Extracted

def toGoSshStanza (s : SshEnc.Stanza) : age_Stanza := ⟨s.type, s.args, s.body⟩

theorem encssh_loop {R π ρ ι : Type} (cfg : SshEnc.Config R) (i : agessh_EncryptedSSHIdentity π ρ ι)
    (Ty : π → Go.M Bytes) (hTy : Ty i.pubKey = .ok cfg.keyType)
    (Fp : π → Go.M Bytes) (hFp : Fp i.pubKey = .ok cfg.tag) :
    ∀ (ss : List SshEnc.Stanza) (m : Bool),
      agessh_EncryptedSSHIdentity_Unwrap_loop1 Ty Fp i (ss.map toGoSshStanza) m =
        .ok (match SshEnc.scanStanzas cfg ss with
          | .matched => .next true
          | .noMatch => .next m
          | .malformed => .ret ([], some ⟨"agessh.(*EncryptedSSHIdentity).Unwrap", 0, []⟩, i)) := by
  intro ss
  induction ss with
  | nil => intro m; rfl
  | cons s ss ih =>
    intro m
    obtain ⟨ty, args, body⟩ := s
    simp only [List.map_cons, toGoSshStanza, agessh_EncryptedSSHIdentity_Unwrap_loop1, hTy, hFp, Go.bind_ok, pure, Except.pure, SshEnc.scanStanzas]
    by_cases ht : ty = cfg.keyType
    · subst ht
      simp only [bne_self_eq_false, Bool.false_eq_true, if_false, ne_eq, not_true_eq_false]
      cases args with
      | nil => simp [Go.len]
      | cons a as =>
        have hl : decide (Go.len (a :: as) < (1 : Int)) = false :=
          decide_eq_false (Int.not_lt.mpr (Go.len_cons_pos a as))
        have hi : Go.idx (a :: as) (0 : Int) = .ok a := rfl
        simp only [hl, Bool.false_eq_true, if_false, hi, Go.bind_ok]
        by_cases ha : a = cfg.tag
        · subst ha
          simp only [bne_self_eq_false, Bool.false_eq_true, if_false, not_true_eq_false]
        · have hb : (a != cfg.tag) = true := by simp [ha]
          simp only [hb, if_true, ha, not_false_eq_true, ih m]
    · have hb : (ty != cfg.keyType) = true := by simp [ht]
      simp only [hb, if_true, ne_eq, ht, not_false_eq_true, ih m]

/-- `Unwrap` from the return of the callback on: the region `Rg`, then the key's public half is compared (`CPK`, `Eq`) with
    the DECLARED public key; only if they are equal is the decrypted identity remembered, and then it answers the header -/
def encsshAfterPrompt {π ρ ι κ ξ : Type} (U : ι → List age_Stanza → Go.M (Bytes × Option Go.Err))
    (Rg : agessh_EncryptedSSHIdentity π ρ ι → Option Go.Err → Bytes → Go.M (Go.Loop (ξ × ι) (Bytes × Option Go.Err)))
    (CPK : π → Go.M κ) (impl : π → Bool) (Eq : ξ → κ → Go.M Bool)
    (i : agessh_EncryptedSSHIdentity π ρ ι) (stanzas : List age_Stanza) (pw : Bytes × Option Go.Err) :
    Go.M (Bytes × Option Go.Err × agessh_EncryptedSSHIdentity π ρ ι) :=
  if (pw.2 != none) = true then .ok ([], some ⟨"agessh.(*EncryptedSSHIdentity).Unwrap", 1, []⟩, i)
  else do
    let r ← Rg i pw.2 pw.1
    match r with
    | .ret v => pure (v.1, v.2, i)                          -- any failure: NOTHING is remembered
    | .next (pk, d) =>
      if impl i.pubKey = false then .error (.panic 9998)
      else do
        let exp ← CPK i.pubKey
        let same ← Eq pk exp
        if same = false then pure ([], some ⟨"agessh.(*EncryptedSSHIdentity).Unwrap", 2, []⟩, i)   -- mismatch: nothing remembered
        else do
          let u ← U d stanzas
          pure (u.1, u.2, { i with decrypted := d })

theorem encssh_prompt_tie {R π ρ ι κ ξ : Type} (cfg : SshEnc.Config R) (key : π)
    (Ty : π → Go.M Bytes) (hTy : Ty key = .ok cfg.keyType)
    (Fp : π → Go.M Bytes) (hFp : Fp key = .ok cfg.tag)
    (isNil : ι → Bool) (U : ι → List age_Stanza → Go.M (Bytes × Option Go.Err))
    (Rg : agessh_EncryptedSSHIdentity π ρ ι → Option Go.Err → Bytes → Go.M (Go.Loop (ξ × ι) (Bytes × Option Go.Err)))
    (nilX : ξ) (nilI : ι) (CPK : π → Go.M κ) (impl : π → Bool) (Eq : ξ → κ → Go.M Bool)
    (cb : Go.M (Bytes × Option Go.Err)) (rcp : ρ) (pem : Bytes) (dec : ι) (stanzas : List SshEnc.Stanza) :
    agessh_EncryptedSSHIdentity_Unwrap isNil U Ty Fp Rg nilX nilI CPK impl Eq ⟨key, rcp, pem, cb, dec⟩ (stanzas.map toGoSshStanza) =
      if isNil dec = false then
        (U dec (stanzas.map toGoSshStanza)).map (fun r => (r.1, r.2, ⟨key, rcp, pem, cb, dec⟩))
      else match SshEnc.scanStanzas cfg stanzas with
        | .malformed => .ok ([], some ⟨"agessh.(*EncryptedSSHIdentity).Unwrap", 0, []⟩, ⟨key, rcp, pem, cb, dec⟩)
        | .noMatch => .ok ([], age_ErrIncorrectIdentity, ⟨key, rcp, pem, cb, dec⟩)
        | .matched => cb >>= encsshAfterPrompt U Rg CPK impl Eq ⟨key, rcp, pem, cb, dec⟩ (stanzas.map toGoSshStanza) := by
  have hl := encssh_loop cfg (⟨key, rcp, pem, cb, dec⟩ : agessh_EncryptedSSHIdentity π ρ ι) Ty hTy Fp hFp stanzas false
  simp only [agessh_EncryptedSSHIdentity_Unwrap, hl, Go.bind_ok]
  cases hn : isNil dec with
  | false =>
    simp only [Bool.not_false, if_true]
    cases U dec (stanzas.map toGoSshStanza) <;> rfl
  | true =>
    simp only [Bool.not_true, Bool.false_eq_true, if_false]
    cases SshEnc.scanStanzas cfg stanzas with
    | malformed => rfl
    | noMatch => rfl
    | matched =>
      simp only [Bool.not_true, Bool.false_eq_true, if_false]
      -- from here on code and `encsshAfterPrompt` make the same calls in the same order
      refine bind_congr fun pw => ?_
      rw [encsshAfterPrompt]
      refine ite_congr rfl (fun _ => rfl) fun _ => bind_congr fun r => ?_
      cases r with
      | ret v => rfl
      | next pd =>
        obtain ⟨pk, d⟩ := pd
        cases hi : impl key with
        | false => rfl
        | true =>
          simp only [pure, Except.pure, if_true, Go.bind_ok, Bool.true_eq_false, if_false]
          refine bind_congr fun exp => ?_
          refine bind_congr fun same => ?_
          cases same <;> rfl

/-- no prompt without a match: a callback that faults when called is never reached (nor is the key file touched) -/
theorem encssh_no_prompt {R π ρ ι κ ξ : Type} (cfg : SshEnc.Config R) (key : π)
    (Ty : π → Go.M Bytes) (hTy : Ty key = .ok cfg.keyType)
    (Fp : π → Go.M Bytes) (hFp : Fp key = .ok cfg.tag)
    (isNil : ι → Bool) (U : ι → List age_Stanza → Go.M (Bytes × Option Go.Err)) (nilX : ξ) (nilI : ι)
    (CPK : π → Go.M κ) (impl : π → Bool) (Eq : ξ → κ → Go.M Bool)
    (rcp : ρ) (pem : Bytes) (dec : ι) (hdec : isNil dec = true) (stanzas : List SshEnc.Stanza)
    (h : SshEnc.scanStanzas cfg stanzas ≠ .matched) :
    ∃ res, agessh_EncryptedSSHIdentity_Unwrap isNil U Ty Fp (fun _ _ _ => .error (.panic 98)) nilX nilI CPK impl Eq
        ⟨key, rcp, pem, .error (.panic 99), dec⟩ (stanzas.map toGoSshStanza) = .ok res ∧
      res.2.1 ≠ none ∧ res.2.2 = ⟨key, rcp, pem, .error (.panic 99), dec⟩ := by
  rw [encssh_prompt_tie cfg key Ty hTy Fp hFp isNil U _ nilX nilI CPK impl Eq _ rcp pem dec stanzas]
  simp only [hdec, Bool.true_eq_false, if_false]
  cases hs : SshEnc.scanStanzas cfg stanzas with
  | malformed => exact ⟨_, rfl, by simp, rfl⟩
  | noMatch => exact ⟨_, rfl, by simp [age_ErrIncorrectIdentity], rfl⟩
  | matched => exact absurd hs h

/-- NO HISTORY unless the key was validated: whenever the identity handed back differs from the one handed in, the prompt
    succeeded, the key file gave an identity `d` whose public half was found EQUAL to the declared public key, and the only
    change is that `d` is remembered — the identity that answered the header -/
theorem encssh_no_history {R π ρ ι κ ξ : Type} (cfg : SshEnc.Config R) (key : π)
    (Ty : π → Go.M Bytes) (hTy : Ty key = .ok cfg.keyType)
    (Fp : π → Go.M Bytes) (hFp : Fp key = .ok cfg.tag)
    (isNil : ι → Bool) (U : ι → List age_Stanza → Go.M (Bytes × Option Go.Err))
    (Rg : agessh_EncryptedSSHIdentity π ρ ι → Option Go.Err → Bytes → Go.M (Go.Loop (ξ × ι) (Bytes × Option Go.Err)))
    (nilX : ξ) (nilI : ι) (CPK : π → Go.M κ) (impl : π → Bool) (Eq : ξ → κ → Go.M Bool)
    (cb : Go.M (Bytes × Option Go.Err)) (rcp : ρ) (pem : Bytes) (dec : ι) (hdec : isNil dec = true) (stanzas : List SshEnc.Stanza)
    (res : Bytes × Option Go.Err × agessh_EncryptedSSHIdentity π ρ ι)
    (hres : agessh_EncryptedSSHIdentity_Unwrap isNil U Ty Fp Rg nilX nilI CPK impl Eq ⟨key, rcp, pem, cb, dec⟩ (stanzas.map toGoSshStanza) = .ok res)
    (hchg : res.2.2 ≠ ⟨key, rcp, pem, cb, dec⟩) :
    ∃ pw pk d exp, cb = .ok (pw, none) ∧ Rg ⟨key, rcp, pem, cb, dec⟩ none pw = .ok (.next (pk, d)) ∧
      CPK key = .ok exp ∧ Eq pk exp = .ok true ∧
      res.2.2 = ⟨key, rcp, pem, cb, d⟩ ∧ U d (stanzas.map toGoSshStanza) = .ok (res.1, res.2.1) := by
  rw [encssh_prompt_tie cfg key Ty hTy Fp hFp isNil U Rg nilX nilI CPK impl Eq cb rcp pem dec stanzas,
    if_neg (by rw [hdec]; decide)] at hres
  cases hs : SshEnc.scanStanzas cfg stanzas with
  | malformed => rw [hs] at hres; cases hres; exact absurd rfl hchg
  | noMatch => rw [hs] at hres; cases hres; exact absurd rfl hchg
  | matched =>
    rw [hs] at hres
    obtain ⟨⟨p, pe⟩, hcb, h⟩ := Go.step_bind_ok.mp hres
    rw [encsshAfterPrompt] at h
    cases pe with
    | some x => cases h; exact absurd rfl hchg
    | none =>
      obtain ⟨r, hr, h⟩ := Go.step_bind_ok.mp h
      cases r with
      | ret v => cases h; exact absurd rfl hchg
      | next pd =>
        obtain ⟨pk, d⟩ := pd
        obtain ⟨exp, hc, h⟩ := Go.step_bind_ok.mp (Go.step_exit_ok.mp h).2
        obtain ⟨same, he, h⟩ := Go.step_bind_ok.mp h
        cases same with
        | false => cases h; exact absurd rfl hchg
        | true =>
          obtain ⟨u, hu, h⟩ := Go.step_bind_ok.mp h
          cases h
          exact ⟨p, pk, d, exp, hcb, hr, hc, he, rfl, hu⟩

end GoTie
end AgeModel
