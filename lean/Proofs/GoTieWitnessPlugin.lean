/-
  Proofs.GoTieWitnessPlugin — instances of the assumption structures of the plugin client ties (the connection
  and UI, the plugin process), for any UI, decoder and script.
-/
import Proofs.GoTiePluginUI
import Proofs.GoTiePluginBase
import AgeModel.B64
namespace AgeModel
namespace GoTie
open Extracted

/-- the string whose UTF-8 bytes these are (the empty string when they are not UTF-8): a COMPUTABLE left
    inverse of `bs` -/
def unbs (b : Bytes) : String :=
  match String.fromUTF8? b.toByteArray with
  | some s => s
  | none => ""

theorem toByteArray_toList (a : ByteArray) : a.toList.toByteArray = a := by
  rw [byteArray_toList]
  apply ByteArray.ext
  simp

theorem unbs_bs (s : String) : unbs (bs s) = s := by
  simp only [unbs, bs, String.toUTF8_eq_toByteArray, toByteArray_toList, String.fromUTF8?, s.isValidUTF8, dif_pos]
  exact String.toByteArray_inj.mp rfl

theorem map_unbs_bs (l : List String) : (l.map bs).map unbs = l := by
  simp [List.map_map, Function.comp_def, unbs_bs]

/-- left inverse of `goFS` -/
def unFS (f : format_Stanza) : Plugin.Stanza := ⟨unbs f.Type_, f.Args.map unbs, f.Body⟩

theorem unFS_goFS (m : Plugin.Stanza) : unFS (goFS m) = m := by
  obtain ⟨t, a, b⟩ := m
  simp only [unFS, goFS, unbs_bs, map_unbs_bs]

/-- the plugin connection is the list of stanzas written; `format.DecodeString` is the model's strict raw
    base64 on the bytes of the string -/
def UIEnv.witness : UIEnv (List Plugin.Stanza) where
  absC c := c
  W c t args := .ok (none, c ++ [⟨unbs t, args.map unbs, []⟩])
  hW c t args := ⟨c ++ [⟨t, args, []⟩], by rw [unbs_bs, map_unbs_bs], rfl⟩
  WB c t body := .ok (none, c ++ [⟨unbs t, [], body⟩])
  hWB c t body := ⟨c ++ [⟨t, [], body⟩], by rw [unbs_bs], rfl⟩
  dec y := B64.decRaw (bs y)
  D b := .ok (match B64.decRaw b with | some v => (v, none) | none => ([], some ⟨"format.DecodeString", 0, []⟩))
  eD := ⟨"format.DecodeString", 0, []⟩
  hD _ := rfl

/-- a plugin environment for ANY UI, decoder, script and starting UI state -/
def PluginEnv.witness {S : Type} (ui : Plugin.UI S) (dec : String → Option Bytes) (script : Plugin.Conv) (st0 : S) :
    PluginEnv S (List Plugin.Stanza × Plugin.End) Unit (List Plugin.Stanza × S) where
  ui := ui
  dec := dec
  absC c := c.1
  uiOf c := c.2
  absS sr := sr
  u := ()
  name := bs "age-plugin-witness"
  c0 := ([], st0)
  st0 := st0
  script := script
  eEnd e := match e with
    | .eof => ⟨"io.ErrUnexpectedEOF", 0, []⟩
    | .malformed => ⟨"format.ReadStanza", 0, []⟩
  eH := ⟨"plugin.(*ClientUI).handle", 0, []⟩
  Open _ _ := .ok (([], st0), none)
  hOpen _ := rfl
  h0 := ⟨rfl, rfl⟩
  W c t args := .ok (none, (c.1 ++ [⟨unbs t, args.map unbs, []⟩], c.2))
  hW c t args := ⟨(c.1 ++ [⟨t, args, []⟩], c.2), by rw [unbs_bs, map_unbs_bs], rfl, rfl⟩
  WB c t body := .ok (none, (c.1 ++ [⟨unbs t, [], body⟩], c.2))
  hWB c t body := ⟨(c.1 ++ [⟨t, [], body⟩], c.2), by rw [unbs_bs], rfl, rfl⟩
  M f c := .ok (none, (c.1 ++ [unFS f], c.2))
  hM c m := ⟨(c.1 ++ [m], c.2), by rw [unFS_goFS], rfl, rfl⟩
  Close _ := .ok none
  hClose _ := ⟨none, rfl⟩
  New _ := .ok (script.msgs, script.fin)
  hNew _ := ⟨(script.msgs, script.fin), rfl, rfl⟩
  rem sr := sr.1.length
  hRem _ := rfl
  Rd _ _ sr := match sr with
    | ([], e) => .ok (⟨[], [], []⟩, some (match e with
        | .eof => ⟨"io.ErrUnexpectedEOF", 0, []⟩
        | .malformed => ⟨"format.ReadStanza", 0, []⟩), ([], e))
    | (m :: rest, e) => .ok (goFS m, none, (rest, e))
  hRd sr := by
    obtain ⟨l, e⟩ := sr
    cases l with
    | nil => exact ⟨_, rfl, rfl⟩
    | cons m rest => exact ⟨_, rfl, rfl, rfl, rfl⟩
  Hd _ _ c f := match ui.handle dec c.2 (unFS f) with
    | .reply st r => .ok (true, none, (c.1 ++ [r], st))
    | .fatal => .ok (true, some ⟨"plugin.(*ClientUI).handle", 0, []⟩, c)
    | .unknown => .ok (false, none, c)
  hHd c m := by
    rw [unFS_goFS]
    cases h : ui.handle dec c.2 m with
    | reply st r => exact ⟨_, rfl, rfl, rfl, rfl, rfl⟩
    | fatal => exact ⟨_, rfl, rfl, rfl, rfl, rfl⟩
    | unknown => exact ⟨_, rfl, rfl, rfl, rfl, rfl⟩

end GoTie
end AgeModel
