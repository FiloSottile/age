/-
  Proofs.ArmorReaderTop — per-call refinement of the armored reader machine.
-/
import Proofs.ArmorReader
namespace AgeModel
namespace Armor
open Format (nl cr sp)

theorem readLeading_len (W : Nat) (fail : Bool) : ∀ (fuel : Nat) (t : Bytes) (removed : Nat) (rest : Bytes),
    readLeading W fail fuel t removed = some rest → rest.length < t.length := by
  intro fuel
  induction fuel with
  | zero => intro t removed rest h; simp [readLeading] at h
  | succ fuel ih =>
    intro t removed rest h
    unfold readLeading at h
    cases hg : getLine fail t with
    | none => simp [hg] at h
    | some p =>
      obtain ⟨line, r⟩ := p
      simp only [hg] at h
      have hl := getLine_len' hg
      split at h
      · split at h
        · simp at h
        · have := ih r _ rest h; omega
      · split at h
        · simp only [Option.some.injEq] at h; subst h; exact hl
        · simp at h

theorem take_drop_owed (b x : Bytes) (y : AOut) (n : Nat) : (b ++ x, y) = (b.take n ++ (b.drop n ++ x), y) := by
  rw [← List.append_assoc, List.take_append_drop]

theorem read1_spec (W : Nat) (fail : Bool) (r : AReader) (n : Nat) (hn : 0 < n) :
    match r.read1 W fail n with
    | (r', out, none) =>
        r.denote W fail = (out ++ (r'.denote W fail).1, (r'.denote W fail).2) ∧ r'.nu W fail < r.nu W fail
    | (r', out, some e) => out = [] ∧ r.denote W fail = ([], e) ∧ r'.err = some e ∧ r'.unread = [] := by
  unfold AReader.read1
  by_cases hu : r.unread.length > 0
  · -- buffered bytes are handed out; what is owed beyond the buffer does not move
    rw [if_pos hu]
    dsimp only
    rw [AReader.nu, AReader.nu, denote_eq, denote_eq W fail { r with unread := _ }]
    refine ⟨take_drop_owed _ _ _ n, ?_⟩
    show (r.unread.drop n ++ (r.owed W fail).1).length + _ < (r.unread ++ (r.owed W fail).1).length + _
    simp only [List.length_append, List.length_drop]
    omega
  · have hu0 : r.unread = [] := List.eq_nil_of_length_eq_zero (by omega)
    have hden : r.denote W fail = r.owed W fail := by rw [denote_eq, hu0]; rfl
    rw [if_neg hu]
    cases he : r.err with
    | some e => exact ⟨rfl, by rw [hden, AReader.owed, he], he, hu0⟩
    | none =>
      dsimp only
      cases hlead : (if r.started = true then some r.rest else readLeading W fail (r.rest.length + 1) r.rest 0) with
      | none => exact ⟨rfl, by rw [hden]; simp only [AReader.owed, he, hlead], rfl, hu0⟩
      | some rest =>
        dsimp only
        have hrestlen : rest.length + (if r.started then 0 else 1) ≤ r.rest.length := by
          by_cases hs : r.started = true
          · simp only [hs, if_true, Option.some.injEq] at hlead; subst hlead; simp [hs]
          · have hs' : r.started = false := (Bool.not_eq_true _).mp hs
            simp only [hs', Bool.false_eq_true, if_false] at hlead
            have := readLeading_len W fail _ _ _ _ hlead
            simp [hs']; omega
        have hnu : r.nu W fail = (body W fail rest).1.length + (r.rest.length + (if r.started then 0 else 1) + 1) := by
          rw [AReader.nu, hden]; simp only [AReader.owed, he, hlead, if_true]
        replace hden : r.denote W fail = body W fail rest := by rw [hden]; simp only [AReader.owed, he, hlead]
        -- one body line is read: `read1` and `body_unfold` branch alike
        rw [hden, body_unfold]
        cases hg : getLine fail rest with
        | none => exact ⟨rfl, rfl, rfl, hu0⟩
        | some p =>
          obtain ⟨line, rest1⟩ := p
          dsimp only
          have hl1 := getLine_len' hg
          cases hc : classifyLine line with
          | bad => exact ⟨rfl, rfl, rfl, hu0⟩
          | footer => exact ⟨rfl, rfl, rfl, hu0⟩
          | data b =>
            dsimp only
            by_cases hshort : b.length < 48
            · rw [if_pos hshort, if_pos hshort]
              cases hg2 : getLine fail rest1 with
              | none => exact ⟨rfl, rfl, rfl, hu0⟩
              | some p2 =>
                obtain ⟨l2, rest2⟩ := p2
                dsimp only
                by_cases hf : l2 = footer
                · rw [if_pos hf, if_pos hf]
                  dsimp only
                  rw [hnu, AReader.nu, denote_eq, body_data_last hg hc hshort (hf ▸ hg2)]
                  simp only [AReader.owed]
                  refine ⟨by rw [List.append_nil, List.take_append_drop], ?_⟩
                  simp only [List.length_append, List.length_drop, List.length_nil, reduceCtorEq, if_false]
                  omega
                · rw [if_neg hf, if_neg hf]
                  exact ⟨rfl, rfl, rfl, hu0⟩
            · rw [if_neg hshort, if_neg hshort]
              dsimp only
              rw [hnu, AReader.nu, denote_eq, body_data_more hg hc hshort]
              simp only [AReader.owed, if_true]
              refine ⟨take_drop_owed _ _ _ n, ?_⟩
              simp only [List.length_append, List.length_drop]
              omega

theorem adrain_spec (W : Nat) (fail : Bool) : ∀ (sizes : List Nat) (r : AReader), (∀ s ∈ sizes, 0 < s) →
    match r.drain W fail sizes with
    | (r', out, none) =>
        r.denote W fail = (out ++ (r'.denote W fail).1, (r'.denote W fail).2) ∧ r'.nu W fail + sizes.length ≤ r.nu W fail
    | (r', out, some e) => r.denote W fail = (out, e) ∧ r'.err = some e ∧ r'.unread = [] := by
  intro sizes
  induction sizes with
  | nil => intro r _; simp [AReader.drain]
  | cons n ns ih =>
    intro r hpos
    unfold AReader.drain
    have hrs := read1_spec W fail r n (hpos n (by simp))
    generalize hrd : r.read1 W fail n = res at hrs
    obtain ⟨r1, out, e⟩ := res
    cases e with
    | some e =>
      simp only at hrs ⊢
      obtain ⟨h1, h2, h3, h4⟩ := hrs
      subst h1
      exact ⟨h2, h3, h4⟩
    | none =>
      simp only at hrs ⊢
      obtain ⟨h1, h3⟩ := hrs
      have ih' := ih r1 (fun s hs => hpos s (by simp [hs]))
      generalize hdr : r1.drain W fail ns = res2 at ih'
      obtain ⟨r2, out2, e2⟩ := res2
      cases e2 with
      | some e2 =>
        simp only at ih' ⊢
        obtain ⟨g1, g2, g3⟩ := ih'
        exact ⟨by rw [h1, g1], g2, g3⟩
      | none =>
        simp only at ih' ⊢
        obtain ⟨g1, g2⟩ := ih'
        exact ⟨by rw [h1, g1]; simp, by simp only [List.length_cons]; omega⟩

end Armor
end AgeModel
