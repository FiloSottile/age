/-
  Proofs.GoTieSsh — the ssh-ed25519 recipient and identity, as they stand in the source.

  `(*Ed25519Recipient).Wrap`, `(*Ed25519Identity).unwrap` / `.Unwrap` and agessh's own copy of
  `multiUnwrap` are TRANSLATED from agessh/agessh.go on every run; the primitives are parameters
  (`SshEnv`). The stanza written is the model's `wrapSshEd` (the error of the second scalar
  multiplication is DROPPED as in the source); `unwrap` answers what the model's `unwrapSshEd` answers
  for every stanza — in particular a malformed argument is reported BEFORE the tag is compared, and a
  failed decryption is fatal, not "incorrect identity".
-/
import AgeModel.GoSem
import AgeModel.Recipients
import AgeModel.File
import AgeModel.Extracted.Funcs
import Proofs.GoTieNative
namespace AgeModel
namespace GoTie
open Extracted

/-- `π` is `ssh.PublicKey`; `Mar` = its `Marshal` (`wire` the bytes), `Fp` = `sshFingerprint`,
    `OpenS` = agessh's two-argument `aeadDecrypt(key, ciphertext)` (`eO` its error). -/
structure SshEnv (P : Prims) (κ π : Type) extends NativeEnv P κ where
  wire : π → Bytes
  Mar : π → Go.M Bytes
  hMar : ∀ k, Mar k = .ok (wire k)
  Fp : π → Go.M Bytes
  hFp : ∀ k, Fp k = .ok (sshTag P (wire k))
  OpenS : Bytes → Bytes → Go.M (Bytes × Option Go.Err)
  eO : Go.Err
  hOpen : ∀ k ct, OpenS k ct = .ok (match P.wrapOpen k ct with
                                    | some fk => (fk, none)
                                    | none => ([], some eO))

theorem agessh_multiUnwrap_eq (is : Option Go.Err → Option Go.Err → Go.M Bool)
    (u : age_Stanza → Go.M (Bytes × Option Go.Err)) (ss : List age_Stanza) :
    agessh_multiUnwrap is u ss = age_multiUnwrap is u ss := by
  have loop : agessh_multiUnwrap_loop1 is u ss = age_multiUnwrap_loop1 is u ss := by
    induction ss with
    | nil => rfl
    | cons s ss ih => rw [agessh_multiUnwrap_loop1, age_multiUnwrap_loop1, ih]
  rw [agessh_multiUnwrap, age_multiUnwrap, loop]

theorem slice_full {α : Type} (a : List α) : Go.slice a 0 (Go.len a) = .ok a :=
  Go.slice_tail a 0 (Int.le_refl 0) (Int.natCast_nonneg _)

theorem sshEd_wrap_tie (P : Prims) {κ π : Type} (E : SshEnv P κ π) (key : π) (mont fk tape : Bytes) :
    ∃ res, agessh_Ed25519Recipient_Wrap (tapeRead E.eRand) E.X P.basepoint E.H E.Mar E.R E.Fp E.Enc E.Seal ⟨key, mont⟩ fk tape = .ok res ∧
      match wrapOne P (.sshEd (E.wire key) mont) fk tape with
      | .error () => res = ([], some E.eRand, tape)
      | .ok (some (ss, ls), t) => res = (ss.map toGoStanza, none, t) ∧ ls = []
      | .ok (none, t) => res = ([], some E.eX, t) := by
  unfold agessh_Ed25519Recipient_Wrap
  simp only [← ed25519Label.eq_1, Go.make32, Go.make0, Go.bind_ok, Go.len_make32, wrapOne]
  cases hd : draw 32 tape with
  | none =>
    simp only [tapeRead_none E.eRand hd, Go.bind_ok, Go.some_bne_none, if_true]
    exact ⟨_, rfl, rfl⟩
  | some bt =>
    obtain ⟨eph, t⟩ := bt
    simp only [tapeRead_some E.eRand hd, Go.bind_ok, Go.writeAt_fresh 32 eph (draw_length hd), Go.none_bne_none, Bool.false_eq_true, if_false, E.hX eph P.basepoint, E.hX eph mont, wrapSshEd]
    cases h1 : P.x25519 eph P.basepoint with
    | none =>
      exact ⟨_, rfl, rfl⟩
    | some ourPub =>
      cases h2 : P.x25519 eph mont with
      | none =>
        exact ⟨_, rfl, rfl⟩
      | some shared =>
        obtain ⟨kt, kt', hHt, hRt⟩ := E.hHR' [] (E.wire key) ed25519Label
        simp only [Go.none_bne_none, Bool.false_eq_true, if_false, E.hMar, Go.bind_ok, hHt, hRt,
          Go.writeAt_fresh 32 _ (E.hLen _ _ _)]
        obtain ⟨e3, hX3⟩ := E.X_value (P.hkdf [] (E.wire key) ed25519Label 32) shared
        obtain ⟨k, k', hH, hR⟩ := E.hHR' ((P.x25519 (P.hkdf [] (E.wire key) ed25519Label 32) shared).getD []) (ourPub ++ mont) ed25519Label
        simp only [hX3, Go.none_bne_none, Bool.false_eq_true, if_false, E.hEnc, E.hFp, Go.bind_ok, List.nil_append, hH, hR,
          Go.writeAt_fresh 32 _ (E.hLen _ _ _), E.hSeal, slice_full]
        exact ⟨_, rfl, rfl, rfl⟩

theorem sshEd_unwrap_tie (P : Prims) {κ π : Type} (E : SshEnv P κ π) (key : π) (sk : Bytes) (s : Format.Stanza) :
    ∃ r, agessh_Ed25519Identity_unwrap E.D E.Fp E.X E.H E.Mar E.R E.OpenS ⟨sk, (P.x25519 sk P.basepoint).getD [], key⟩ (toGoStanza s) = .ok r ∧
      resClass r = unwrapSshEd P (E.wire key) sk s := by
  obtain ⟨ty, args, body⟩ := s
  rw [toGoStanza]
  unfold agessh_Ed25519Identity_unwrap unwrapSshEd
  simp only [← ed25519Label.eq_1]
  by_cases ht : ty = tSshEd
  · refine tie_if_neg (fun h => bne_iff_ne.mp h ht) (not_not_intro ht) ?_
    rcases args with _ | ⟨tag, _ | ⟨a, _ | ⟨x, rest⟩⟩⟩
    · exact ⟨_, rfl, resClass_site 0⟩
    · exact ⟨_, rfl, resClass_site 0⟩
    · have hl : (Go.len [tag, a] != 2) = false := rfl
      have h0 : Go.idx [tag, a] 0 = .ok tag := rfl
      have h1 : Go.idx [tag, a] 1 = .ok a := rfl
      simp only [hl, Bool.false_eq_true, if_false, h0, h1, E.hD, E.hFp, Go.bind_ok]
      cases hdec : Format.decodeString a with
      | none =>
        exact ⟨_, rfl, resClass_site 1⟩
      | some pk =>
        refine run_if_neg Bool.false_ne_true ?_
        by_cases hpk : pk.length = 32
        · refine tie_if_neg (Bool.eq_false_iff.mp (Go.len_bne_of_eq hpk)) (not_not_intro hpk) ?_
          by_cases htag : tag = sshTag P (E.wire key)
          · refine tie_if_neg (fun h => bne_iff_ne.mp h htag) (not_not_intro htag) ?_
            simp only [E.hX sk pk, Go.bind_ok]
            cases hx : P.x25519 sk pk with
            | none =>
              exact ⟨_, rfl, resClass_site 3⟩
            | some shared =>
              obtain ⟨kt, kt', hHt, hRt⟩ := E.hHR' [] (E.wire key) ed25519Label
              simp only [Go.none_bne_none, Bool.false_eq_true, if_false, Go.make32, Go.make0, Go.len_make32, E.hMar, Go.bind_ok, hHt, hRt,
                Go.writeAt_fresh 32 _ (E.hLen _ _ _)]
              obtain ⟨e3, hX3⟩ := E.X_value (P.hkdf [] (E.wire key) ed25519Label 32) shared
              obtain ⟨k, k', hH, hR⟩ := E.hHR' ((P.x25519 (P.hkdf [] (E.wire key) ed25519Label 32) shared).getD []) (pk ++ (P.x25519 sk P.basepoint).getD []) ed25519Label
              simp only [hX3, Go.none_bne_none, Bool.false_eq_true, if_false, Go.bind_ok, List.nil_append, hH, hR,
                Go.writeAt_fresh 32 _ (E.hLen _ _ _), E.hOpen]
              cases P.wrapOpen (P.hkdf ((P.x25519 (P.hkdf [] (E.wire key) ed25519Label 32) shared).getD []) (pk ++ (P.x25519 sk P.basepoint).getD []) ed25519Label 32) body with
              | some fk =>
                exact ⟨_, rfl, resClass_of_none rfl⟩
              | none =>
                exact ⟨_, rfl, resClass_site 4⟩
          · exact ⟨_, if_pos (bne_iff_ne.mpr htag), resClass_incorrect.trans (if_pos htag).symm⟩
        · exact ⟨_, if_pos (Go.len_bne_of_ne hpk), (resClass_site 2).trans (if_pos hpk).symm⟩
    · exact ⟨_, if_pos (Go.len_bne_of_ne (by simp only [List.length_cons]; omega)), resClass_site 0⟩
  · exact ⟨_, if_pos (bne_iff_ne.mpr ht), resClass_incorrect.trans (if_pos ht).symm⟩

theorem sshEd_Unwrap_tie (P : Prims) {κ π : Type} (E : SshEnv P κ π) (key : π) (sk : Bytes) (ss : List Format.Stanza) :
    ∃ r, agessh_Ed25519Identity_Unwrap errorsIsEq E.D E.Fp E.X E.H E.Mar E.R E.OpenS ⟨sk, (P.x25519 sk P.basepoint).getD [], key⟩ (ss.map toGoStanza) = .ok r ∧
      resClass r = (Identity.unwrapLog P (.sshEd (E.wire key) sk) ss).1 := by
  obtain ⟨r, hr, hcl⟩ := multiUnwrap_of_unwrap (sshEd_unwrap_tie P E key sk) ss
  exact ⟨r, by rw [agessh_Ed25519Identity_Unwrap, agessh_multiUnwrap_eq, hr]; rfl, hcl⟩

end GoTie
end AgeModel
