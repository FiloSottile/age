/-
  Proofs.Bech32Keys — lemmas about the key-string layer (AgeModel/Keys.lean)
  used by Props/C09.lean and Props/C17.lean.
-/
import Proofs.Bech32Codec
import AgeModel.Keys
namespace AgeModel
namespace Keys
open Bech32

deriving instance DecidableEq for Except

theorem mem_iff_toNat_mem (c : UInt8) (l : Bytes) : c ∈ l ↔ c.toNat ∈ l.map UInt8.toNat := by
  simp only [List.mem_map, UInt8.toNat_inj, exists_eq_right]

theorem mem_range'_succ {s n m : Nat} : m ∈ List.range' s (n + 1) ↔ s ≤ m ∧ m ≤ s + n := by
  rw [List.mem_range'_1]; omega

theorem allowed_toNat : allowed.map UInt8.toNat =
    List.range' 0x61 26 ++ List.range' 0x41 26 ++ List.range' 0x30 10 ++ [0x2b, 0x2d, 0x2e, 0x5f] := by
  rfl

theorem allowed_iff_toNat (c : UInt8) : allowed.contains c = true ↔
    ((97 ≤ c.toNat ∧ c.toNat ≤ 122) ∨ (65 ≤ c.toNat ∧ c.toNat ≤ 90) ∨ (48 ≤ c.toNat ∧ c.toNat ≤ 57) ∨
     c.toNat = 43 ∨ c.toNat = 45 ∨ c.toNat = 46 ∨ c.toNat = 95) := by
  rw [List.contains_iff_mem, mem_iff_toNat_mem, allowed_toNat]
  simp only [List.mem_append, mem_range'_succ, List.mem_cons, List.not_mem_nil, or_false, Nat.reduceAdd, or_assoc]

theorem allowed_iff (c : UInt8) : allowed.contains c = true ↔
    ((0x61 ≤ c ∧ c ≤ 0x7a) ∨ (0x41 ≤ c ∧ c ≤ 0x5a) ∨ (0x30 ≤ c ∧ c ≤ 0x39) ∨
     c = 0x2b ∨ c = 0x2d ∨ c = 0x2e ∨ c = 0x5f) := by
  simp only [allowed_iff_toNat, UInt8.le_iff_toNat_le, ← UInt8.toNat_inj, UInt8.reduceToNat]

/-- the digit `1`, the Bech32 separator, *is* allowed -/
theorem allowed_printable {c : UInt8} (h : allowed.contains c = true) : badByte c = false ∧ c ≠ 0x2f ∧ c ≠ 0x5c := by
  rw [allowed_iff_toNat] at h
  simp only [badByte, UInt8.lt_iff_toNat_lt, GT.gt, ← UInt8.toNat_inj, UInt8.reduceToNat, ne_eq,
    Bool.or_eq_false_iff, decide_eq_false_iff_not]
  omega

theorem allowed_lowerByte {c : UInt8} (h : allowed.contains c = true) : allowed.contains (lowerByte c) = true := by
  rw [allowed_iff_toNat] at h ⊢
  rcases lowerByte_cases c with ⟨_, _, e⟩ | ⟨_, e⟩
  · rw [e]; omega
  · rw [e]; exact h

theorem allowed_upperByte {c : UInt8} (h : allowed.contains c = true) : allowed.contains (upperByte c) = true := by
  rw [allowed_iff_toNat] at h ⊢
  rcases upperByte_cases c with ⟨_, _, e⟩ | ⟨_, e⟩
  · omega
  · rw [e]; exact h

theorem validPluginName_iff (n : Bytes) :
    validPluginName n = true ↔ n ≠ [] ∧ ∀ c ∈ n, allowed.contains c = true := by
  unfold validPluginName
  by_cases h : n = []
  · simp [h]
  · simp only [h, if_false, List.all_eq_true, ne_eq, not_false_eq_true, true_and]

theorem valid_noBad {n : Bytes} (h : validPluginName n = true) : hasBadByte n = false := by
  simp only [hasBadByte, List.any_eq_false, Bool.not_eq_true]
  exact fun c hc => (allowed_printable (((validPluginName_iff n).mp h).2 c hc)).1

theorem valid_noSep {n : Bytes} (h : validPluginName n = true) : (0x2f : UInt8) ∉ n ∧ (0x5c : UInt8) ∉ n := by
  have hall := ((validPluginName_iff n).mp h).2
  exact ⟨fun hc => (allowed_printable (hall _ hc)).2.1 rfl, fun hc => (allowed_printable (hall _ hc)).2.2 rfl⟩

theorem valid_map {f : UInt8 → UInt8} (hf : ∀ {c}, allowed.contains c = true → allowed.contains (f c) = true)
    {n : Bytes} (h : validPluginName n = true) : validPluginName (n.map f) = true := by
  obtain ⟨hne, hall⟩ := (validPluginName_iff n).mp h
  refine (validPluginName_iff _).mpr ⟨fun he => hne (List.map_eq_nil_iff.mp he), fun c hc => ?_⟩
  obtain ⟨d, hd, rfl⟩ := List.mem_map.mp hc
  exact hf (hall d hd)

theorem valid_toLower {n : Bytes} (h : validPluginName n = true) : validPluginName (toLower n) = true :=
  valid_map allowed_lowerByte h

theorem valid_toUpper {n : Bytes} (h : validPluginName n = true) : validPluginName (toUpper n) = true :=
  valid_map allowed_upperByte h

theorem map_eq_self {f : UInt8 → UInt8} {s : Bytes} (h : s.map f = s) : ∀ c ∈ s, f c = c :=
  List.map_inj_left.mp (h.trans (List.map_id s).symm)

theorem hasPrefix_iff (s p : Bytes) : hasPrefix s p = true ↔ ∃ t, p ++ t = s :=
  List.isPrefixOf_iff_prefix

theorem hasSuffix_iff (s p : Bytes) : hasSuffix s p = true ↔ ∃ t, t ++ p = s :=
  List.isSuffixOf_iff_suffix

theorem hasPrefix_append (p t : Bytes) : hasPrefix (p ++ t) p = true := (hasPrefix_iff _ _).mpr ⟨t, rfl⟩

theorem hasSuffix_append (t p : Bytes) : hasSuffix (t ++ p) p = true := (hasSuffix_iff _ _).mpr ⟨t, rfl⟩

theorem trimPrefix_append (p t : Bytes) : trimPrefix (p ++ t) p = t := by
  rw [trimPrefix, if_pos (hasPrefix_append p t), List.drop_left]

theorem trimSuffix_append (t p : Bytes) : trimSuffix (t ++ p) p = t := by
  rw [trimSuffix, if_pos (hasSuffix_append t p), List.length_append, Nat.add_sub_cancel, List.take_left]

theorem hasPrefix_of_decode {s hrp data p : Bytes} (h : decode s = .ok (hrp, data)) (hp : ∃ t, hrp ++ [0x31] = p ++ t) :
    hasPrefix s p = true := by
  obtain ⟨D, _, d1, _⟩ := decode_ok h
  obtain ⟨t, ht⟩ := hp
  exact (hasPrefix_iff _ _).mpr ⟨t ++ D, by rw [d1, ← List.append_assoc, ← ht, List.append_assoc]; rfl⟩

theorem validHrp_age : ValidHrp hrpAge := ⟨by decide, by decide, Or.inr (by decide)⟩

theorem validHrp_secret : ValidHrp hrpSecret := ⟨by decide, by decide, Or.inl (by decide)⟩

theorem hrpSecret_upper : toLower hrpSecret ≠ hrpSecret := by decide

theorem validHrp_recipient {name : Bytes} (hv : validPluginName name = true) : ValidHrp (pfxAge1 ++ toLower name) := by
  refine ⟨by simp [pfxAge1], ?_, Or.inr ?_⟩
  · rw [hasBadByte_append, valid_noBad (valid_toLower hv)]; rfl
  · rw [toLower_append, toLower_idem]; rfl

theorem validHrp_identity {name : Bytes} (hv : validPluginName name = true) :
    ValidHrp (pfxPlugin ++ toUpper name ++ dash) := by
  refine ⟨by simp [dash], ?_, Or.inl ?_⟩
  · rw [hasBadByte_append, hasBadByte_append, valid_noBad (valid_toUpper hv)]; rfl
  · rw [toUpper_append, toUpper_append, toUpper_idem]; rfl

theorem identityHrp_upper (X : Bytes) : toLower (pfxPlugin ++ X ++ dash) ≠ pfxPlugin ++ X ++ dash :=
  fun hl => (by decide : toLower pfxPlugin ≠ pfxPlugin) (lower_left (lower_left hl))

theorem hasPrefix_identityHrp (X : Bytes) : hasPrefix (pfxPlugin ++ X ++ dash) pfxPlugin = true := by
  rw [List.append_assoc]
  exact hasPrefix_append _ _

theorem trim_identityHrp (X : Bytes) : trimSuffix (trimPrefix (pfxPlugin ++ X ++ dash) pfxPlugin) dash = X := by
  rw [List.append_assoc, trimPrefix_append, trimSuffix_append]

theorem encodeOrEmpty_of_ok {hrp data s : Bytes} (h : encode hrp data = .ok s) : encodeOrEmpty hrp data = s := by
  simp only [encodeOrEmpty, h]

theorem decode_encodeOrEmpty {hrp : Bytes} (h : ValidHrp hrp) (data : Bytes) :
    decode (encodeOrEmpty hrp data) = .ok (hrp, data) := by
  obtain ⟨s, hs, hd⟩ := encode_roundtrip h data
  rw [encodeOrEmpty_of_ok hs]
  exact hd

theorem encodeOrEmpty_upper {hrp : Bytes} (h : ValidHrp hrp) (hn : toLower hrp ≠ hrp) (data : Bytes) :
    toUpper (encodeOrEmpty hrp data) = encodeOrEmpty hrp data := by
  obtain ⟨_, _, h8, _⟩ := encode_spec hrp data
  rw [encodeOrEmpty_of_ok (h8 h), if_neg hn, toUpper_idem]

theorem encodeOrEmpty_ne_nil {hrp : Bytes} (h : ValidHrp hrp) (data : Bytes) : encodeOrEmpty hrp data ≠ [] := by
  intro he
  have hd := decode_encodeOrEmpty h data
  rw [he, show decode [] = .error .badSeparator from rfl] at hd
  cases hd

/-- `ParseX25519Recipient` and `ParseX25519Identity` are one function of the expected HRP: the model's `parseX25519Recipient` is
    `parseNative hrpAge` and `parseX25519Identity` is `parseNative hrpSecret`, by unfolding -/
def parseNative (H s : Bytes) : Except Err Bytes :=
  match decode s with
  | .error e => .error (.bech32 e)
  | .ok (t, k) =>
    if t ≠ H then .error .badType
    else if k.length ≠ 32 then .error .badLength
    else .ok k

theorem parseNative_ok_iff (H s k : Bytes) : parseNative H s = .ok k ↔ decode s = .ok (H, k) ∧ k.length = 32 := by
  unfold parseNative
  cases decode s with
  | error e => simp
  | ok r =>
    obtain ⟨t, k'⟩ := r
    by_cases ht : t = H
    · by_cases hl : k'.length = 32
      · simp only [ht, hl, ne_eq, not_true_eq_false, if_false, Except.ok.injEq, Prod.mk.injEq, true_and]
        exact ⟨fun e => ⟨e, e ▸ hl⟩, And.left⟩
      · simp only [ht, hl, ne_eq, not_true_eq_false, not_false_eq_true, if_false, if_true, Except.ok.injEq,
          Prod.mk.injEq, true_and, reduceCtorEq, false_iff]
        exact fun e => hl (e.1 ▸ e.2)
    · simp [ht]

theorem parseX25519Recipient_ok {s k : Bytes} (h : parseX25519Recipient s = .ok k) :
    decode s = .ok (hrpAge, k) ∧ k.length = 32 :=
  (parseNative_ok_iff hrpAge s k).mp h

theorem parseX25519Identity_ok {s k : Bytes} (h : parseX25519Identity s = .ok k) :
    decode s = .ok (hrpSecret, k) ∧ k.length = 32 :=
  (parseNative_ok_iff hrpSecret s k).mp h

theorem parseNative_roundtrip {H : Bytes} (h : ValidHrp H) (k : Bytes) (hk : k.length = 32) :
    parseNative H (encodeOrEmpty H k) = .ok k :=
  (parseNative_ok_iff H _ k).mpr ⟨decode_encodeOrEmpty h k, hk⟩

theorem parseNative_badLength {H s data : Bytes} (hd : decode s = .ok (H, data)) (hl : data.length ≠ 32) :
    parseNative H s = .error .badLength := by
  simp only [parseNative, hd, ne_eq, not_true_eq_false, if_false, hl, not_false_eq_true, if_true]

theorem decode_recipientString (k : Bytes) :
    ∃ s, encode hrpAge k = .ok s ∧ recipientString k = s ∧ decode s = .ok (hrpAge, k) := by
  obtain ⟨s, hs, hd⟩ := encode_roundtrip validHrp_age k
  exact ⟨s, hs, encodeOrEmpty_of_ok hs, hd⟩

theorem identityString_eq (k : Bytes) : identityString k = encodeOrEmpty hrpSecret k :=
  encodeOrEmpty_upper validHrp_secret hrpSecret_upper k

theorem decode_identityString (k : Bytes) :
    ∃ s, encode hrpSecret k = .ok s ∧ identityString k = s ∧ decode s = .ok (hrpSecret, k) := by
  obtain ⟨s, hs, hd⟩ := encode_roundtrip validHrp_secret k
  exact ⟨s, hs, by rw [identityString_eq, encodeOrEmpty_of_ok hs], hd⟩

theorem decoded_lower {s hrp data : Bytes} (h : decode s = .ok (hrp, data)) {c : UInt8} (hc : c ∈ hrp)
    (hl : upperByte c ≠ c) : toLower s = s := by
  obtain ⟨D, d5, d1, _, d4, _⟩ := decode_ok h
  exact d4.resolve_right fun hu => hl (map_eq_self hu c (by rw [d1]; exact List.mem_append_left _ hc))

theorem decoded_upper {s hrp data : Bytes} (h : decode s = .ok (hrp, data)) {c : UInt8} (hc : c ∈ hrp)
    (hl : lowerByte c ≠ c) : toUpper s = s := by
  obtain ⟨D, d5, d1, _, d4, _⟩ := decode_ok h
  exact d4.resolve_left fun hu => hl (map_eq_self hu c (by rw [d1]; exact List.mem_append_left _ hc))

theorem printed_of_lower {s hrp data : Bytes} (h : decode s = .ok (hrp, data)) {c : UInt8} (hc : c ∈ hrp)
    (hl : upperByte c ≠ c) : encodeOrEmpty hrp data = s :=
  encodeOrEmpty_of_ok (encode_decode h fun _ => decoded_lower h hc hl)

theorem printed_of_upper {s hrp data : Bytes} (h : decode s = .ok (hrp, data)) (hn : toLower hrp ≠ hrp) :
    encodeOrEmpty hrp data = s :=
  encodeOrEmpty_of_ok (encode_decode h fun hl => absurd hl hn)

theorem decoded_length_32 {s hrp data : Bytes} (h : decode s = .ok (hrp, data)) (hl : data.length = 32) :
    s.length = hrp.length + 59 := by
  obtain ⟨D, d5, d1, _, _, d7, d8, _⟩ := decode_ok h
  have hlen := mapOpt_length _ _ _ d7
  simp only [List.length_append, createChecksum_length, toLower_length] at hlen
  obtain ⟨c1, c2⟩ := convertBits_5_8_length d5 data d8
  rw [d1]
  simp only [List.length_append, List.length_cons]
  omega

theorem parseNative_length {H s k : Bytes} (h : parseNative H s = .ok k) : s.length = H.length + 59 := by
  obtain ⟨hd, hk⟩ := (parseNative_ok_iff H s k).mp h
  exact decoded_length_32 hd hk

theorem parseRecipient_ok {s name data : Bytes} (h : parseRecipient s = .ok (name, data)) :
    decode s = .ok (pfxAge1 ++ name, data) ∧ validPluginName name = true := by
  unfold parseRecipient at h
  split at h
  · cases h
  rename_i hrp data' hd
  split at h
  · cases h
  rename_i hp
  simp only [] at h
  split at h
  · cases h
  rename_i hv
  cases h
  obtain ⟨t, rfl⟩ := (hasPrefix_iff _ _).mp (by simpa using hp)
  rw [trimPrefix_append] at hv ⊢
  exact ⟨hd, by simpa using hv⟩

theorem parseIdentity_ok {s name data : Bytes} (h : parseIdentity s = .ok (name, data)) :
    ∃ X, decode s = .ok (pfxPlugin ++ X ++ dash, data) ∧ name = toLower X ∧ validPluginName name = true := by
  unfold parseIdentity at h
  split at h
  · cases h
  rename_i hrp data' hd
  split at h
  · cases h
  rename_i hps
  simp only [] at h
  split at h
  · cases h
  rename_i hv
  cases h
  simp only [Bool.or_eq_true, Bool.not_eq_true', not_or, Bool.not_eq_false] at hps hv
  obtain ⟨t, rfl⟩ := (hasPrefix_iff _ _).mp hps.1
  obtain ⟨u, hu⟩ := (hasSuffix_iff _ _).mp hps.2
  rw [trimPrefix_append] at hv ⊢
  -- `t` is not empty (the name is valid), so the final '-' of the HRP is the final '-' of `t`
  rcases List.eq_nil_or_concat t with rfl | ⟨X, b, rfl⟩
  · exact absurd hv (by decide)
  · rw [List.concat_eq_append, ← List.append_assoc] at hu
    rw [List.concat_eq_append, (List.append_inj' hu.symm rfl).2, trimSuffix_append] at hv ⊢
    rw [List.concat_eq_append, (List.append_inj' hu.symm rfl).2, ← List.append_assoc] at hd
    exact ⟨X, hd, rfl, hv⟩

/-! ## vocabulary of the rejection theorems (Props/C09.lean) -/

/-- all four parsers (and hence `plugin.NewRecipient` / `NewIdentity`) reject `s`
    with a Bech32 error satisfying `P` -/
def RejectedWith (s : Bytes) (P : Bech32.Err → Prop) : Prop :=
  ∃ e, P e ∧ parseX25519Recipient s = .error (.bech32 e) ∧ parseX25519Identity s = .error (.bech32 e) ∧
    parseRecipient s = .error (.bech32 e) ∧ parseIdentity s = .error (.bech32 e) ∧
    newRecipient s = .error (.bech32 e) ∧ newIdentity s = .error (.bech32 e)

theorem rejected_of_decode {s : Bytes} {e : Bech32.Err} {P : Bech32.Err → Prop} (h : decode s = .error e) (hP : P e) :
    RejectedWith s P := by
  refine ⟨e, hP, ?_, ?_, ?_, ?_, ?_, ?_⟩ <;>
    simp only [parseX25519Recipient, parseX25519Identity, parseRecipient, parseIdentity, newRecipient, newIdentity, h]

theorem error_of_not_ok {α : Type} (r : Except Keys.Err α) (h : ∀ a, r ≠ .ok a) : ∃ e, r = .error e := by
  cases r with
  | ok a => exact absurd rfl (h a)
  | error e => exact ⟨e, rfl⟩

/-- the string made of HRP `H`, data symbols `d5` and their valid checksum -/
def Assembled (H d5 cs : Bytes) : Prop :=
  H ≠ [] ∧ hasBadByte H = false ∧ toLower H = H ∧ (∀ x ∈ d5, x.toNat < 32) ∧
    mapOpt charsetAt (d5 ++ createChecksum H d5) = some cs

theorem decode_of_assembled {H d5 cs : Bytes} (h : Assembled H d5 cs) :
    decode (H ++ 0x31 :: cs) =
      match convertBits d5 5 8 false with
      | .error e => .error e
      | .ok b => .ok (H, b) := by
  obtain ⟨h1, h2, h3, h4, h5⟩ := h
  obtain ⟨cs', c1, c2, c3, c4, c5⟩ := chars_of_syms _ (syms_checksum_lt h4 H)
  rw [h5] at c1; cases c1
  exact decode_assembled H cs d5 h1 h2 c3 c4 (Or.inl (by rw [toLower_append, toLower_cons, h3, c2]; rfl))
    (by rw [c2]; exact c5)

end Keys
end AgeModel
