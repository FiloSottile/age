/-
  Proofs.FormatTop — the stanza loop and `parse` as a whole.
-/
import Proofs.FormatParse
namespace AgeModel
namespace Format
open B64

theorem marshal_eq (h : Header) : marshal h = intro ++ marshalStanzas h.stanzas ++ footerLine h.mac := by
  simp [marshal, marshalNoMAC, footerLine]

theorem marshalStanzas_append : ∀ (a b : List Stanza), marshalStanzas (a ++ b) = marshalStanzas a ++ marshalStanzas b
  | [], b => by simp [marshalStanzas]
  | s :: a, b => by simp [marshalStanzas, marshalStanzas_append a b]

theorem readStanzas_canon : ∀ (fuel : Nat) (r : Bytes) (acc : List Stanza) (h : Header) (rest : Bytes),
    readStanzas fuel r acc = .ok (h, rest) →
    ∃ ss, h.stanzas = acc.reverse ++ ss ∧ (∀ s ∈ ss, s.WF) ∧ h.mac.length = 32 ∧
      r = marshalStanzas ss ++ footerLine h.mac ++ rest := by
  intro fuel
  induction fuel with
  | zero => intro r acc h rest hh; simp [readStanzas] at hh
  | succ fuel ih =>
    intro r acc h rest hh
    unfold readStanzas at hh
    split at hh
    · simp at hh
    · split at hh
      · split at hh
        · simp at hh
        · rename_i mac r' hf
          simp only [Except.ok.injEq, Prod.mk.injEq] at hh
          obtain ⟨rfl, rfl⟩ := hh
          obtain ⟨hr, hm⟩ := readFooter_canon hf
          exact ⟨[], by simp, by simp, hm, by simp [marshalStanzas, footerLine, hr]⟩
      · split at hh
        · simp at hh
        · rename_i s r' hs
          obtain ⟨hr, hwf⟩ := readStanza_canon hs
          obtain ⟨ss, h1, h2, h3, h4⟩ := ih r' (s :: acc) h rest hh
          refine ⟨s :: ss, by simp [h1], ?_, h3, ?_⟩
          · intro x hx
            simp only [List.mem_cons] at hx
            rcases hx with hx | hx
            · subst hx; exact hwf
            · exact h2 x hx
          · rw [hr, h4]; simp [marshalStanzas]

theorem footerLine_take3 (mac rest : Bytes) : (footerLine mac ++ rest).take 3 = footerPrefix ∧ 3 ≤ (footerLine mac ++ rest).length := by
  simp [footerLine, footerPrefix]

theorem readStanzas_marshal : ∀ (ss : List Stanza), (∀ s ∈ ss, s.WF) → ∀ (mac rest : Bytes), mac.length = 32 →
    ∀ (acc : List Stanza) (fuel : Nat), ss.length < fuel →
    readStanzas fuel (marshalStanzas ss ++ footerLine mac ++ rest) acc
      = .ok ({ stanzas := acc.reverse ++ ss, mac := mac }, rest) := by
  intro ss
  induction ss with
  | nil =>
    intro _ mac rest hm acc fuel hf
    match fuel with
    | 0 => omega
    | fuel+1 =>
      unfold readStanzas
      simp only [marshalStanzas, List.nil_append]
      have ⟨h3, hl⟩ := footerLine_take3 mac rest
      have hl' : ¬ (footerLine mac ++ rest).length < 3 := by omega
      simp only [hl', if_false, h3, if_true]
      rw [readFooter_marshal mac rest hm]
      simp
  | cons s ss ih =>
    intro hwf mac rest hm acc fuel hf
    match fuel with
    | 0 => simp at hf
    | fuel+1 =>
      unfold readStanzas
      have e : marshalStanzas (s :: ss) ++ footerLine mac ++ rest
          = marshalStanza s ++ (marshalStanzas ss ++ footerLine mac ++ rest) := by simp [marshalStanzas]
      rw [e]
      have ⟨h3, hl⟩ := marshalStanza_take3 s (marshalStanzas ss ++ footerLine mac ++ rest)
      have hl' : ¬ (marshalStanza s ++ (marshalStanzas ss ++ footerLine mac ++ rest)).length < 3 := by omega
      simp only [hl', if_false, h3]
      rw [readStanza_marshal s (hwf s (by simp))]
      dsimp only
      rw [ih (fun x hx => hwf x (by simp [hx])) mac rest hm (s :: acc) fuel (by simp at hf; omega)]
      simp

theorem marshalStanza_length_pos (s : Stanza) : 0 < (marshalStanza s).length := by
  simp [marshalStanza, stanzaPrefix]

theorem marshalStanzas_length : ∀ ss : List Stanza, ss.length ≤ (marshalStanzas ss).length
  | [] => by simp [marshalStanzas]
  | s :: ss => by
    have := marshalStanzas_length ss
    have := marshalStanza_length_pos s
    simp only [marshalStanzas, List.length_cons, List.length_append]; omega

/-- every accepted byte string is the canonical serialisation of the header it
    denotes, followed by exactly the unread remainder -/
theorem parse_canon {b rest : Bytes} {h : Header} (hp : parse b = .ok (h, rest)) :
    b = marshal h ++ rest ∧ h.WF := by
  unfold parse at hp
  split at hp
  · simp at hp
  · rename_i l r htl
    have ⟨hb, _⟩ := takeLine_eq htl
    split at hp
    · rename_i hi
      obtain ⟨ss, h1, h2, h3, h4⟩ := readStanzas_canon _ _ _ _ _ hp
      simp only [List.reverse_nil, List.nil_append] at h1
      refine ⟨?_, ?_, h3⟩
      · rw [marshal_eq, h1, hb, h4, ← hi]; simp
      · rw [h1]; exact h2
    · simp at hp

theorem intro_split : takeLine intro = some (intro.dropLast, []) := by decide

/-- every well-formed header serialises to bytes that parse back to it, leaving
    exactly what follows as the payload -/
theorem parse_marshal (h : Header) (hwf : h.WF) (rest : Bytes) :
    parse (marshal h ++ rest) = .ok (h, rest) := by
  obtain ⟨hs, hm⟩ := hwf
  unfold parse
  rw [marshal_eq]
  have hi : intro = intro.dropLast ++ [nl] := by decide
  have hnl : nl ∉ intro.dropLast := by decide
  have e : intro ++ marshalStanzas h.stanzas ++ footerLine h.mac ++ rest
      = intro.dropLast ++ nl :: (marshalStanzas h.stanzas ++ footerLine h.mac ++ rest) := by
    conv => lhs; rw [hi]
    simp
  rw [e, takeLine_app _ _ hnl]
  simp only [← hi, if_true]
  have hfuel : h.stanzas.length < (marshalStanzas h.stanzas ++ footerLine h.mac ++ rest).length + 1 := by
    have := marshalStanzas_length h.stanzas
    simp only [List.length_append]; omega
  rw [readStanzas_marshal h.stanzas hs h.mac rest hm [] _ hfuel]
  simp

/-- lets a concrete parser run be checked by kernel evaluation (`Option` has decidable equality here, `Except` has not) -/
theorem eq_ok_of_toOption {ε α : Type} {e : Except ε α} {v : α} (h : e.toOption = some v) : e = .ok v := by
  cases e with
  | error _ => cases h
  | ok a => cases h; rfl

end Format
end AgeModel
