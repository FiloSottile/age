/-
  Proofs.GoTieArmorR — the de-armoring reader, as it stands in the source.

  `(*armoredReader).Read` of armor/armor.go — with its two closures `getLine` and `drainTrailing`
  (translated as two more methods of the receiver) and `setErr` — is TRANSLATED on every run
  (AgeModel/Extracted/Funcs.lean): `unread` is a view into the struct's own `buf`, the
  `bufio.Reader` is the bytes it will deliver (a source that ends cleanly), `bytes.TrimSpace`
  emptiness is `Go.bytes_allSpace`, and `base64.StdEncoding.Strict().Decode` is a PARAMETER.
  `armor_read_tie` is a SIMULATION with the model's reader machine `Armor.AReader.read1`
  (W = 1024, non-failing source): from related states one `Read(p)` on each side copies the same
  bytes into the caller's buffer, reports corresponding errors (nil / io.EOF / *armor.Error) and
  leaves related states — so `Props.C08`'s reader theorems are about the reader in the source.
-/
import AgeModel.GoSem
import AgeModel.Armor
import AgeModel.Extracted.Funcs
import Proofs.GoTieLines
import Proofs.GoTieArmorSpace
import Proofs.GoBuf
import Proofs.ArmorRead
namespace AgeModel
namespace GoTie
open Extracted Armor

/-- what is assumed of `base64.StdEncoding.Strict().Decode(dst, line)`: it returns; when the line is
    strict canonical padded base64 it writes exactly the decoded bytes and reports nil; otherwise it
    reports an error that is not io.EOF, having written no more than `DecodedLen(len(line))` bytes -/
structure B64DecEnv where
  Dec : Bytes → Go.M (Bytes × Option Go.Err)
  eDec : Go.Err
  hDec : ∀ line, ∃ w, Dec line = .ok (w, match B64.decStd line with | some _ => none | none => some eDec) ∧
    w.length ≤ line.length / 4 * 3 ∧ (∀ b, B64.decStd line = some b → w = b)
  hne : some eDec ≠ Go.io_EOF

def aErrRel : Option AOut → Option Go.Err → Prop
  | none, g => g = none
  | some .eof, g => g = Go.io_EOF
  | some .err, g => g = some ⟨"armor.Error", 0, []⟩

structure ARel (g : armor_armoredReader) (m : AReader) : Prop where
  started : g.started = m.started
  buflen : g.buf.length = 48
  lo : 0 ≤ g.unread_lo
  lohi : g.unread_lo ≤ g.unread_hi
  hi : g.unread_hi ≤ 48
  unread : (g.buf.drop g.unread_lo.toNat).take (g.unread_hi - g.unread_lo).toNat = m.unread
  err : aErrRel m.err g.err
  rest : m.err = none → g.r = m.rest

/-- the five fields of `ARel` about the buffer, as one hypothesis the lemmas can pass on -/
structure View (buf : Bytes) (lo hi : Int) (u : Bytes) : Prop where
  buflen : buf.length = 48
  lo_nonneg : 0 ≤ lo
  lo_le_hi : lo ≤ hi
  hi_le : hi ≤ 48
  unread : (buf.drop lo.toNat).take (hi - lo).toNat = u

theorem View.length {buf : Bytes} {lo hi : Int} {u : Bytes} (h : View buf lo hi u) : u.length = (hi - lo).toNat := by
  obtain ⟨hbuf, h0, h1, h2, hu⟩ := h
  rw [← hu, List.length_take, List.length_drop, hbuf]; omega

theorem View.empty {buf : Bytes} (h : buf.length = 48) : View buf 0 0 [] :=
  ⟨h, Int.le_refl _, Int.le_refl _, by decide, rfl⟩

theorem View.front {buf b : Bytes} (hbuf : buf.length = 48) (hb : b.length ≤ 48) :
    View (b ++ buf.drop b.length) 0 (Go.len b) b :=
  ⟨by rw [Go.wz_length buf b (by omega)]; exact hbuf, Int.le_refl _, by simp only [Go.len, Int.ofNat_eq_natCast]; omega,
    by simp only [Go.len, Int.ofNat_eq_natCast]; omega, by simp [Go.len]⟩

theorem ARel.of_view {g : armor_armoredReader} {m : AReader} (hs : g.started = m.started)
    (hv : View g.buf g.unread_lo g.unread_hi m.unread) (he : aErrRel m.err g.err) (hr : m.err = none → g.r = m.rest) :
    ARel g m :=
  ⟨hs, hv.buflen, hv.lo_nonneg, hv.lo_le_hi, hv.hi_le, hv.unread, he, hr⟩

theorem takeLine_no_nl : ∀ (rd l rest : Bytes), Format.takeLine rd = some (l, rest) → (10:UInt8) ∉ l :=
  fun _ _ _ h => (Format.takeLine_eq h).2

def armorErr : Option Go.Err := some ⟨"armor.Error", 0, []⟩

theorem getLine_go (g : armor_armoredReader) :
    armor_armoredReader_Read_getLine g = .ok (match Armor.getLine false g.r with
      | none => ([], Go.io_ErrUnexpectedEOF, { g with r := [] })
      | some (line, rest) => (line, none, { g with r := rest })) := by
  cases hgr : g.r with
  | nil => simp only [armor_armoredReader_Read_getLine, hgr]; rfl
  | cons c cs =>
    simp only [Armor.getLine]
    cases ht : Format.takeLine (c :: cs) with
    | none =>
      simp only [armor_armoredReader_Read_getLine, hgr, readBytes_none _ ht]
      simp only [Go.ioEOF, Go.io_EOF, Go.len, trimSuffix_no_nl _ (takeLine_none_no_nl _ ht), trimSuffix_cr]
      rfl
    | some q =>
      simp only [armor_armoredReader_Read_getLine, hgr, readBytes_some _ _ _ ht]
      simp only [trimSuffix_nl, trimSuffix_cr]
      rfl

theorem setErr_eof (g : armor_armoredReader) :
    armor_armoredReader_setErr g Go.io_EOF = .ok (Go.io_EOF, { g with err := Go.io_EOF }) := rfl

theorem setErr_ne (g : armor_armoredReader) (e : Option Go.Err) (h : e ≠ Go.io_EOF) :
    armor_armoredReader_setErr g e = .ok (armorErr, { g with err := armorErr }) := by
  have : (e != Go.io_EOF) = true := by simpa using h
  simp only [armor_armoredReader_setErr, this, if_true]
  rfl

theorem drain_unfold (g : armor_armoredReader) :
    armor_armoredReader_Read_drainTrailing g = .ok (
      (if allSpace (g.r.take 1024) = true then
        (if (g.r.take 1024).length = 1024 then some (Go.Err.mk "armor.(*armoredReader).Read_drainTrailing" 1 []) else Go.io_EOF)
       else some (Go.Err.mk "armor.(*armoredReader).Read_drainTrailing" 0 [])), { g with r := g.r.drop 1024 }) := by
  simp only [armor_armoredReader_Read_drainTrailing, Go.io_ReadAllLimit, Go.none_bne_none, Bool.false_eq_true, if_false,
    allSpace_eq, Int.reduceToNat, Go.len]
  by_cases hs : allSpace (g.r.take 1024) = true
  · by_cases hl : (g.r.take 1024).length = 1024
    · simp only [hs, hl]; rfl
    · have : ¬ Int.ofNat (g.r.take 1024).length = 1024 := by simp only [Int.ofNat_eq_natCast]; omega
      simp only [hs, hl, if_false, if_true, beq_iff_eq, this, Bool.not_true, Bool.false_eq_true]; rfl
  · simp only [hs, Bool.not_false, Bool.not_eq_true] at hs ⊢
    simp only [if_true, Bool.false_eq_true, if_false]; rfl

theorem drain_go_ok (g : armor_armoredReader) (h : drainOK 1024 false g.r = true) :
    armor_armoredReader_Read_drainTrailing g = .ok (Go.io_EOF, { g with r := g.r.drop 1024 }) := by
  rw [drain_unfold]
  simp only [drainOK, Bool.false_eq_true, false_and, if_false, Bool.decide_and, Bool.and_eq_true, decide_eq_true_eq, ne_eq] at h
  simp only [h.1, if_true, h.2, if_false]

theorem drain_go_bad (g : armor_armoredReader) (h : drainOK 1024 false g.r = false) :
    ∃ e, armor_armoredReader_Read_drainTrailing g = .ok (e, { g with r := g.r.drop 1024 }) ∧ e ≠ Go.io_EOF := by
  rw [drain_unfold]
  refine ⟨_, rfl, ?_⟩
  by_cases hs : allSpace (g.r.take 1024) = true
  · by_cases hl : (g.r.take 1024).length = 1024
    · simp only [hs, hl, if_true]; decide
    · simp [drainOK, hs] at h
      simp at hl; omega
  · simp only [hs, Bool.false_eq_true, if_false]; decide

/-- `Read` has this pair of calls twice -/
theorem drain_setErr {β : Type} (g : armor_armoredReader) (k : Option Go.Err × armor_armoredReader → Go.M β) :
    (armor_armoredReader_Read_drainTrailing g >>= fun t => armor_armoredReader_setErr t.2 t.1 >>= k) =
      k ((if drainOK 1024 false g.r then Go.io_EOF else armorErr),
        { g with r := g.r.drop 1024, err := (if drainOK 1024 false g.r then Go.io_EOF else armorErr) }) := by
  cases hd : drainOK 1024 false g.r with
  | true => rw [drain_go_ok g hd, Go.bind_ok, setErr_eof, Go.bind_ok]; rfl
  | false =>
    obtain ⟨e, he, hne⟩ := drain_go_bad g hd
    rw [he, Go.bind_ok, setErr_ne _ _ hne, Go.bind_ok]; rfl

theorem leadLoop_started (p : Bytes) (fuel : Nat) (g : armor_armoredReader) (rw : Int) (h : g.started = true) :
    armor_armoredReader_Read_loop1 p (fuel + 1) g rw = .ok (.next (g, rw)) := by
  simp only [armor_armoredReader_Read_loop1, h, Bool.not_true, Bool.not_false, if_true]
  rfl

theorem armorErr_ne : armorErr ≠ none := by decide
theorem unexp_ne_none : (Go.io_ErrUnexpectedEOF != none) = true := Go.some_bne_none _
theorem unexp_ne_eof : Go.io_ErrUnexpectedEOF ≠ Go.io_EOF := by decide
theorem site_ne_eof (n : Nat) : (some (Go.Err.mk "armor.(*armoredReader).Read" n []) : Option Go.Err) ≠ Go.io_EOF := by
  intro h; injection h with h; injection h with h1 h2 h3; revert h1; decide

theorem hdr_eq : ([45, 45, 45, 45, 45, 66, 69, 71, 73, 78, 32, 65, 71, 69, 32, 69, 78, 67, 82, 89, 80, 84, 69, 68, 32, 70, 73, 76, 69, 45, 45, 45, 45, 45] : List UInt8) = Armor.header := rfl
theorem ftr_eq : ([45, 45, 45, 45, 45, 69, 78, 68, 32, 65, 71, 69, 32, 69, 78, 67, 82, 89, 80, 84, 69, 68, 32, 70, 73, 76, 69, 45, 45, 45, 45, 45] : List UInt8) = Armor.footer := rfl

theorem leadLoop_step (p : Bytes) (fuel : Nat) (r : Bytes) (lo hi : Int) (buf : Bytes) (err : Option Go.Err) (rw : Int) :
    armor_armoredReader_Read_loop1 p (fuel + 1) ⟨r, false, lo, hi, buf, err⟩ rw =
      match getLine false r with
      | none => .ok (.ret (0, armorErr, ⟨[], false, lo, hi, buf, armorErr⟩, p))
      | some (line, rest) =>
        if allSpace line = true then
          if decide (rw + (Go.len line + 1) > 1024) = true then
            .ok (.ret (0, armorErr, ⟨rest, false, lo, hi, buf, armorErr⟩, p))
          else armor_armoredReader_Read_loop1 p fuel ⟨rest, false, lo, hi, buf, err⟩ (rw + (Go.len line + 1))
        else if (line != header) = true then .ok (.ret (0, armorErr, ⟨rest, false, lo, hi, buf, armorErr⟩, p))
        else armor_armoredReader_Read_loop1 p fuel ⟨rest, true, lo, hi, buf, err⟩ rw := by
  cases hgl : getLine false r with
  | none =>
    simp only [armor_armoredReader_Read_loop1, Bool.not_false, Bool.not_true, Bool.false_eq_true, if_false,
      getLine_go, hgl, Go.bind_ok, unexp_ne_none, if_true, setErr_ne _ _ unexp_ne_eof, pure, Except.pure]
  | some q =>
    simp only [armor_armoredReader_Read_loop1, Bool.not_false, Bool.not_true, Bool.false_eq_true, if_false,
      getLine_go, hgl, Go.bind_ok, Go.none_bne_none, allSpace_eq, hdr_eq,
      setErr_ne _ _ (site_ne_eof 0), setErr_ne _ _ (site_ne_eof 1), pure, Except.pure]

theorem leadLoop_go (p : Bytes) (lo hi : Int) (buf : Bytes) (err : Option Go.Err) : ∀ (fuel : Nat) (r : Bytes) (rem : Nat), r.length < fuel →
    ∃ out, armor_armoredReader_Read_loop1 p fuel ⟨r, false, lo, hi, buf, err⟩ (Int.ofNat rem) = .ok out ∧
      match readLeading 1024 false fuel r rem with
      | some rest => ∃ rw, out = .next (⟨rest, true, lo, hi, buf, err⟩, rw)
      | none => ∃ r', out = .ret (0, armorErr, ⟨r', false, lo, hi, buf, armorErr⟩, p)
  | 0, r, rem, hf => by omega
  | fuel + 1, r, rem, hf => by
    rw [leadLoop_step]
    cases hgl : Armor.getLine false r with
    | none =>
      simp only [readLeading, hgl]
      exact ⟨_, rfl, _, rfl⟩
    | some q =>
      obtain ⟨line, rest⟩ := q
      have hlen := getLine_len' hgl
      simp only [readLeading, hgl]
      have he : Int.ofNat rem + (Go.len line + 1) = Int.ofNat (rem + line.length + 1) := by
        simp only [Go.len, Int.ofNat_eq_natCast]; omega
      have hd : decide (Int.ofNat rem + (Go.len line + 1) > 1024) = decide (rem + line.length + 1 > 1024) := by
        rw [he]; exact decide_eq_decide.mpr Int.ofNat_lt
      by_cases hsp : allSpace line = true
      · rw [if_pos hsp, if_pos hsp, hd]
        by_cases hw : rem + line.length + 1 > 1024
        · rw [if_pos (decide_eq_true hw), if_pos hw]
          exact ⟨_, rfl, _, rfl⟩
        · rw [if_neg (by simpa using hw), if_neg hw, he]
          exact leadLoop_go p lo hi buf err fuel rest (rem + line.length + 1) (by omega)
      · rw [if_neg hsp, if_neg hsp]
        by_cases hh : line = header
        · obtain ⟨f', rfl⟩ : ∃ f', fuel = f' + 1 := ⟨fuel - 1, by omega⟩
          rw [if_neg (by simpa using hh), if_pos hh, leadLoop_started p f' _ _ rfl]
          exact ⟨_, rfl, _, rfl⟩
        · rw [if_pos (by simpa using hh), if_neg hh]
          exact ⟨_, rfl, _, rfl⟩

/-! `copyOut` (the copy, reached from two places), `armorBody` (everything after the leading loop) and
`armorPeek` (its end: the look at the line after a short one) are the translated `Read`'s own text cut by
hand, local names such as `t__25` included; `read_unfold`, by `rfl`, is what validates the cut. -/

/-- the copy at both ends of `Read`: `n := copy(p, r.unread); r.unread = r.unread[n:]; return n, nil` -/
def copyOut (r : armor_armoredReader) (p : Bytes) : Go.M (Int × (Option Go.Err) × armor_armoredReader × (List UInt8)) := do
  let t__25 := (← Go.slice (r).buf (r).unread_lo (r).unread_hi)
  let t__26 : Int := min (Go.len p) (Go.len t__25)
  let t__27 ← Go.reslice (r).unread_lo (Go.len (r).buf) t__26 ((r).unread_hi - (r).unread_lo)
  return (t__26, none, { r with unread_lo := t__27.1, unread_hi := t__27.2 }, Go.writeAt p (0 : Int) (t__25.take t__26.toNat))

/-- the end of `Read`: after a line of fewer than 48 bytes the END line must follow; then the copy -/
def armorPeek (r : armor_armoredReader) (n_2 : Int) (p : (List UInt8)) : Go.M (Int × (Option Go.Err) × armor_armoredReader × (List UInt8)) := do
  let mut r := r
  if (decide (n_2 < (48 : Int))) then
    let t__20 := (← armor_armoredReader_Read_getLine r)
    r := t__20.2.2
    let mut line_3 : (List UInt8) := t__20.1
    let mut err_3 : (Option Go.Err) := t__20.2.1
    if (err_3 != none) then
      r := { r with unread_lo := (0 : Int), unread_hi := (0 : Int) }
      let t__21 := (← armor_armoredReader_setErr r err_3)
      r := t__21.2
      return ((0 : Int), t__21.1, r, p)
    if (line_3 != ([45, 45, 45, 45, 45, 69, 78, 68, 32, 65, 71, 69, 32, 69, 78, 67, 82, 89, 80, 84, 69, 68, 32, 70, 73, 76, 69, 45, 45, 45, 45, 45] : List UInt8)) then
      r := { r with unread_lo := (0 : Int), unread_hi := (0 : Int) }
      let t__22 := (← armor_armoredReader_setErr r (some (Go.Err.mk "armor.(*armoredReader).Read" 5 [])))
      r := t__22.2
      return ((0 : Int), t__22.1, r, p)
    let t__23 := (← armor_armoredReader_Read_drainTrailing r)
    r := t__23.2
    let t__24 := (← armor_armoredReader_setErr r t__23.1)
    r := t__24.2
    let _ := t__24.1
  copyOut r p

/-- `Read` after the leading loop -/
def armorBody (base64_StdStrict_Decode : (List UInt8) → Go.M ((List UInt8) × (Option Go.Err))) (r : armor_armoredReader) (p : (List UInt8)) : Go.M (Int × (Option Go.Err) × armor_armoredReader × (List UInt8)) := do
  let mut r := r
  let mut p := p
  let t__9 := (← armor_armoredReader_Read_getLine r)
  r := t__9.2.2
  let mut line_2 : (List UInt8) := t__9.1
  let mut err_2 : (Option Go.Err) := t__9.2.1
  if (err_2 != none) then
    let t__10 := (← armor_armoredReader_setErr r err_2)
    r := t__10.2
    return ((0 : Int), t__10.1, r, p)
  if (line_2 == ([45, 45, 45, 45, 45, 69, 78, 68, 32, 65, 71, 69, 32, 69, 78, 67, 82, 89, 80, 84, 69, 68, 32, 70, 73, 76, 69, 45, 45, 45, 45, 45] : List UInt8)) then
    let t__11 := (← armor_armoredReader_Read_drainTrailing r)
    r := t__11.2
    let t__12 := (← armor_armoredReader_setErr r t__11.1)
    r := t__12.2
    return ((0 : Int), t__12.1, r, p)
  if (decide ((Go.len line_2) > (64 : Int))) then
    let t__13 := (← armor_armoredReader_setErr r (some (Go.Err.mk "armor.(*armoredReader).Read" 2 [])))
    r := t__13.2
    return ((0 : Int), t__13.1, r, p)
  if ((Go.len line_2) == (0 : Int)) then
    let t__14 := (← armor_armoredReader_setErr r (some (Go.Err.mk "armor.(*armoredReader).Read" 3 [])))
    r := t__14.2
    return ((0 : Int), t__14.1, r, p)
  if (Go.bytes_ContainsAny line_2 ([13, 10] : List UInt8)) then
    let t__15 := (← armor_armoredReader_setErr r (some (Go.Err.mk "armor.(*armoredReader).Read" 4 [])))
    r := t__15.2
    return ((0 : Int), t__15.1, r, p)
  let t__16 ← Go.reslice (0 : Int) (Go.len (r).buf) (0 : Int) (Go.len (r).buf)
  r := { r with unread_lo := t__16.1, unread_hi := t__16.2 }
  let t__17 ← base64_StdStrict_Decode line_2
  if (Go.len t__17.1) > ((r).unread_hi - (r).unread_lo) then throw Go.Fault.index
  r := { r with buf := (Go.writeAt (r).buf (r).unread_lo t__17.1) }
  let mut n_2 : Int := (Go.len t__17.1)
  err_2 := t__17.2
  if (err_2 != none) then
    r := { r with unread_lo := (0 : Int), unread_hi := (0 : Int) }
    let t__18 := (← armor_armoredReader_setErr r err_2)
    r := t__18.2
    return ((0 : Int), t__18.1, r, p)
  let t__19 ← Go.reslice (r).unread_lo (Go.len (r).buf) (0 : Int) n_2
  r := { r with unread_lo := t__19.1, unread_hi := t__19.2 }
  armorPeek r n_2 p

theorem read_unfold (D : (List UInt8) → Go.M ((List UInt8) × (Option Go.Err))) (r : armor_armoredReader) (p : Bytes) :
    armor_armoredReader_Read D r p =
      (if (decide (((r).unread_hi - (r).unread_lo) > (0 : Int))) then copyOut r p
      else if ((r).err != none) then pure ((0 : Int), (r).err, r, p)
      else do
        let t__8 ← armor_armoredReader_Read_loop1 p ((Go.len (r).r).toNat + 1) r 0
        match t__8 with
        | .ret v__ => pure v__
        | .next (r', _) => armorBody D r' p) := by
  rfl

theorem toNat_ofNat' (n : Nat) : (Int.ofNat n).toNat = n := rfl

/-- the window as `ARel` writes it and as `Go.slice` has it -/
theorem view_iff {buf : Bytes} {lo hi : Int} {u : Bytes} (h0 : 0 ≤ lo) (h1 : lo ≤ hi) :
    (buf.drop lo.toNat).take (hi - lo).toNat = u ↔ u = (buf.take hi.toNat).drop lo.toNat := by
  rw [List.drop_take, show hi.toNat - lo.toNat = (hi - lo).toNat by omega]
  exact eq_comm

theorem copyOut_go (g : armor_armoredReader) (u p : Bytes) (hv : View g.buf g.unread_lo g.unread_hi u) :
    ∃ lo' hi', copyOut g p = .ok (Int.ofNat (u.take p.length).length, none, { g with unread_lo := lo', unread_hi := hi' },
        u.take p.length ++ p.drop (u.take p.length).length) ∧ View g.buf lo' hi' (u.drop p.length) := by
  obtain ⟨hbuf, h0, h1, h2, hu⟩ := hv
  obtain ⟨c1, -, c3, lo', hi', c4, c5, c6⟩ := Go.view_consume g.buf u p g.unread_lo g.unread_hi
    ⟨h0, h1, by rw [hbuf]; exact h2⟩ ((view_iff h0 h1).mp hu)
  have hn : (u.take p.length).length = min p.length u.length := List.length_take
  rw [hbuf] at c5
  rw [hn] at c3 c4
  refine ⟨lo', hi', ?_, hbuf, c5.1, c5.2.1, c5.2.2, (view_iff c5.1 c5.2.1).mpr c6⟩
  simp only [copyOut, c1, Go.bind_ok, c3, c4, pure, Except.pure, Go.writeAt_zero, toNat_ofNat', hn, ← List.take_eq_take_min]

theorem containsAny_eq (line : Bytes) :
    Go.bytes_ContainsAny line [13, 10] = line.any (fun c => c = Format.cr || c = Format.nl) := by
  unfold Go.bytes_ContainsAny
  congr 1
  funext c
  by_cases h1 : c = 13 <;> by_cases h2 : c = 10 <;> simp [h1, h2, Format.cr, Format.nl]

theorem ite_or3 {α : Type} {a b c : Prop} [Decidable a] [Decidable b] [Decidable c] {x y : α} (h : a ∨ b ∨ c) :
    (if a then x else if b then x else if c then x else y) = x := by
  by_cases ha : a
  · rw [if_pos ha]
  · rw [if_neg ha]
    by_cases hb : b
    · rw [if_pos hb]
    · rw [if_neg hb, if_pos ((h.resolve_left ha).resolve_left hb)]

/-- `r.unread = r.buf[:]` -/
theorem reslice_whole (buf : Bytes) : Go.reslice 0 (Go.len buf) 0 (Go.len buf) = .ok (0, Go.len buf) :=
  Go.reslice_zero _ _ (Int.natCast_nonneg _) (Int.le_refl _)

section
variable (D : Bytes → Go.M (Bytes × Option Go.Err)) (g : armor_armoredReader) (p : Bytes)

theorem body_none (hgl : getLine false g.r = none) :
    armorBody D g p = .ok (0, armorErr, { g with r := [], err := armorErr }, p) := by
  simp only [armorBody, getLine_go, hgl, Go.bind_ok, unexp_ne_none, if_true,
    setErr_ne _ _ unexp_ne_eof, pure, Except.pure]

theorem body_footer (rest1 : Bytes) (hgl : getLine false g.r = some (footer, rest1)) :
    armorBody D g p =
      .ok (0, (if drainOK 1024 false rest1 then Go.io_EOF else armorErr),
        { g with r := rest1.drop 1024, err := (if drainOK 1024 false rest1 then Go.io_EOF else armorErr) }, p) := by
  have hb : (footer == footer) = true := beq_self_eq_true _
  simp only [armorBody, getLine_go, hgl, Go.bind_ok, Go.none_bne_none, Bool.false_eq_true, if_false, ftr_eq, hb,
    if_true, drain_setErr, pure, Except.pure]

variable (line rest1 : Bytes) (hgl : getLine false g.r = some (line, rest1)) (hnf : (line == footer) = false)
include hgl hnf

theorem body_reject
    (h : decide (Go.len line > 64) = true ∨ (Go.len line == 0) = true ∨ Go.bytes_ContainsAny line [13, 10] = true) :
    armorBody D g p = .ok (0, armorErr, { g with r := rest1, err := armorErr }, p) := by
  simp only [armorBody, getLine_go, hgl, Go.bind_ok, Go.none_bne_none,
    Bool.false_eq_true, if_false, ftr_eq, hnf, setErr_ne _ _ (site_ne_eof 2), setErr_ne _ _ (site_ne_eof 3),
    setErr_ne _ _ (site_ne_eof 4), pure, Except.pure]
  exact ite_or3 h

variable (h64 : decide (Go.len line > 64) = false) (h0 : (Go.len line == 0) = false)
  (hca : Go.bytes_ContainsAny line [13, 10] = false) (hbuf : g.buf.length = 48)
include h64 h0 hca hbuf

theorem body_decerr (w : Bytes) (e : Go.Err) (hD : D line = .ok (w, some e)) (hw : w.length ≤ 48) (hne : some e ≠ Go.io_EOF) :
    armorBody D g p = .ok (0, armorErr,
      { g with r := rest1, unread_lo := 0, unread_hi := 0, buf := w ++ g.buf.drop w.length, err := armorErr }, p) := by
  have hg : ¬ (Go.len w > Go.len g.buf - 0) := by simp only [Go.len, hbuf, Int.ofNat_eq_natCast]; omega
  simp only [armorBody, getLine_go, hgl, Go.bind_ok, Go.none_bne_none,
    Bool.false_eq_true, if_false, ftr_eq, hnf, h64, h0, hca, reslice_whole g.buf, hD, hg, Go.writeAt_zero,
    Go.some_bne_none, if_true, setErr_ne _ _ hne, pure, Except.pure]

theorem body_data (b : Bytes) (hD : D line = .ok (b, none)) (hw : b.length ≤ 48) :
    armorBody D g p =
      armorPeek { g with r := rest1, unread_lo := 0, unread_hi := Go.len b, buf := b ++ g.buf.drop b.length } (Go.len b) p := by
  have hg : ¬ (Go.len b > Go.len g.buf - 0) := by simp only [Go.len, hbuf, Int.ofNat_eq_natCast]; omega
  have hrs : Go.reslice 0 (Go.len (b ++ g.buf.drop b.length)) 0 (Go.len b) = .ok (0, Go.len b) :=
    Go.reslice_zero _ _ (by simp only [Go.len, Int.ofNat_eq_natCast]; omega)
      (by simp only [Go.len, Go.wz_length g.buf b (by omega), Int.ofNat_eq_natCast]; omega)
  simp only [armorBody, getLine_go, hgl, Go.bind_ok, Go.none_bne_none,
    Bool.false_eq_true, if_false, ftr_eq, hnf, h64, h0, hca, reslice_whole g.buf, hD, hg, Go.writeAt_zero,
    hrs, pure, Except.pure]

end

theorem peek_full (g : armor_armoredReader) (n : Int) (p : Bytes) (h : decide (n < 48) = false) :
    armorPeek g n p = copyOut g p := by
  simp only [armorPeek, h, Bool.false_eq_true, if_false]

theorem peek_none (g : armor_armoredReader) (n : Int) (p : Bytes) (h : decide (n < 48) = true)
    (hgl : getLine false g.r = none) :
    armorPeek g n p = .ok (0, armorErr, { g with r := [], unread_lo := 0, unread_hi := 0, err := armorErr }, p) := by
  simp only [armorPeek, h, if_true, getLine_go, hgl, Go.bind_ok, unexp_ne_none,
    setErr_ne _ _ unexp_ne_eof, pure, Except.pure]

theorem peek_bad (g : armor_armoredReader) (n : Int) (p l2 rest2 : Bytes) (h : decide (n < 48) = true)
    (hgl : getLine false g.r = some (l2, rest2)) (hl2 : (l2 != footer) = true) :
    armorPeek g n p = .ok (0, armorErr, { g with r := rest2, unread_lo := 0, unread_hi := 0, err := armorErr }, p) := by
  simp only [armorPeek, h, if_true, getLine_go, hgl, Go.bind_ok, Go.none_bne_none,
    Bool.false_eq_true, if_false, ftr_eq, hl2, setErr_ne _ _ (site_ne_eof 5), pure, Except.pure]

theorem peek_footer (g : armor_armoredReader) (n : Int) (p rest2 : Bytes) (h : decide (n < 48) = true)
    (hgl : getLine false g.r = some (footer, rest2)) :
    armorPeek g n p =
      copyOut { g with r := rest2.drop 1024, err := (if drainOK 1024 false rest2 then Go.io_EOF else armorErr) } p := by
  have hl2 : (footer != footer) = false := bne_self_eq_false _
  simp only [armorPeek, h, if_true, getLine_go, hgl, Go.bind_ok, Go.none_bne_none, Bool.false_eq_true, if_false,
    ftr_eq, hl2, drain_setErr]

/-- what `armor_read_tie` says of one result -/
def Post (p : Bytes) (res : Int × Option Go.Err × armor_armoredReader × Bytes) (mr : AReader × Bytes × Option AOut) : Prop :=
  res.1 = Int.ofNat mr.2.1.length ∧ res.2.2.2 = mr.2.1 ++ p.drop mr.2.1.length ∧ aErrRel mr.2.2 res.2.1 ∧ ARel res.2.2.1 mr.1

theorem apost_err {p r' : Bytes} {st : Bool} {lo hi : Int} {buf t' : Bytes} {removed : Nat} {e : AOut} {ge : Option Go.Err}
    (hv : View buf lo hi []) (he : aErrRel (some e) ge) :
    Post p (0, ge, ⟨r', st, lo, hi, buf, ge⟩, p) (⟨st, [], some e, t', removed⟩, [], some e) :=
  ⟨rfl, rfl, he, .of_view rfl hv he fun h => by cases h⟩

theorem post_copy {p r' buf b t' : Bytes} {removed : Nat} {me : Option AOut} {ge : Option Go.Err}
    (hbuf : buf.length = 48) (hb : b.length ≤ 48) (he : aErrRel me ge) (hr : me = none → r' = t') :
    ∃ res, copyOut ⟨r', true, 0, Go.len b, b ++ buf.drop b.length, ge⟩ p = .ok res ∧
      Post p res (⟨true, b.drop p.length, me, t', removed⟩, b.take p.length, none) := by
  obtain ⟨lo', hi', hc, hv⟩ :=
    copyOut_go ⟨r', true, 0, Go.len b, b ++ buf.drop b.length, ge⟩ b p (View.front hbuf hb)
  exact ⟨_, hc, rfl, rfl, rfl, .of_view rfl hv he hr⟩

theorem aErrRel_drain (d : Bool) :
    aErrRel (some (if d = true then AOut.eof else AOut.err)) (if d = true then Go.io_EOF else armorErr) := by
  cases d <;> rfl

theorem body_tie (E : B64DecEnv) (r : Bytes) (lo hi : Int) (buf p : Bytes) (removed : Nat) (hv : View buf lo hi []) :
    ∃ res, armorBody E.Dec ⟨r, true, lo, hi, buf, none⟩ p = .ok res ∧
      Post p res ((⟨true, [], none, r, removed⟩ : AReader).read1 1024 false p.length) := by
  have hbuf := hv.buflen
  simp only [AReader.read1, List.length_nil, gt_iff_lt, Nat.lt_irrefl, if_false, if_true]
  cases hgl : getLine false r with
  | none =>
    exact ⟨_, body_none E.Dec _ p hgl, apost_err hv rfl⟩
  | some q =>
    obtain ⟨line, rest1⟩ := q
    simp only [classifyLine]
    by_cases hf : line = footer
    · subst hf
      rw [if_pos rfl]
      exact ⟨_, body_footer E.Dec _ p rest1 hgl,
        apost_err hv (aErrRel_drain _)⟩
    · have hnf : (line == footer) = false := by simpa using hf
      rw [if_neg hf]
      by_cases hbad : line.length > 64 ∨ line.length = 0 ∨ line.any (fun c => c = Format.cr || c = Format.nl) = true
      · rw [ite_or3 hbad]
        exact ⟨_, body_reject E.Dec _ p line rest1 hgl hnf
            (hbad.imp (fun h => (Go.decide_len_gt line 64).trans (decide_eq_true h))
              (Or.imp (fun h => (Go.len_beq_zero line).trans (List.isEmpty_iff_length_eq_zero.mpr h)) (containsAny_eq line).trans)),
          apost_err hv rfl⟩
      · have ⟨h64, hz, hca⟩ := not_or.mp hbad |>.imp id not_or.mp
        have g64 := (Go.decide_len_gt line 64).trans (decide_eq_false h64)
        have gz := (Go.len_beq_zero line).trans (Bool.eq_false_iff.mpr (mt List.isEmpty_iff_length_eq_zero.mp hz))
        have gca := (containsAny_eq line).trans (Bool.eq_false_iff.mpr hca)
        rw [if_neg h64, if_neg hz, if_neg hca]
        obtain ⟨w, hD, hwl, hwb⟩ := E.hDec line
        have hw48 : w.length ≤ 48 := by omega
        -- after an error past this point the decoded bytes are in the buffer and the window is empty
        have hv0 : View (w ++ buf.drop w.length) 0 0 [] := .empty (by rw [Go.wz_length buf w (by omega)]; exact hbuf)
        cases hdec : B64.decStd line with
        | none =>
          rw [hdec] at hD
          exact ⟨_, body_decerr E.Dec _ p line rest1 hgl hnf g64 gz gca hbuf w E.eDec hD hw48 E.hne, apost_err hv0 rfl⟩
        | some b =>
          have hwb' := hwb b hdec
          rw [hdec] at hD
          subst hwb'
          rw [body_data E.Dec ⟨r, true, lo, hi, buf, none⟩ p line rest1 hgl hnf g64 gz gca hbuf w hD hw48]
          dsimp only
          by_cases hshort : w.length < 48
          · rw [if_pos hshort]
            have hlt : decide (Go.len w < 48) = true := (Go.decide_len_lt w 48).trans (decide_eq_true hshort)
            cases hgl2 : getLine false rest1 with
            | none =>
              exact ⟨_, peek_none _ _ p hlt hgl2, apost_err hv0 rfl⟩
            | some q2 =>
              obtain ⟨l2, rest2⟩ := q2
              dsimp only
              by_cases hl2 : l2 = footer
              · subst hl2
                rw [if_pos rfl, peek_footer ⟨rest1, true, 0, Go.len w, w ++ buf.drop w.length, none⟩ _ p rest2 hlt hgl2]
                exact post_copy hbuf hw48 (aErrRel_drain _)
                  (fun h => by cases hd : drainOK 1024 false rest2 <;> rw [hd] at h <;> cases h)
              · rw [if_neg hl2]
                exact ⟨_, peek_bad _ _ p l2 rest2 hlt hgl2 (by simpa using hl2), apost_err hv0 rfl⟩
          · have hlt : decide (Go.len w < 48) = false := (Go.decide_len_lt w 48).trans (decide_eq_false hshort)
            rw [if_neg hshort, peek_full _ _ p hlt]
            exact post_copy hbuf hw48 rfl (fun _ => rfl)

theorem read1_lead (t rest : Bytes) (removed n : Nat) (h : readLeading 1024 false (t.length + 1) t 0 = some rest) :
    (⟨false, [], none, t, removed⟩ : AReader).read1 1024 false n =
      (⟨true, [], none, rest, removed⟩ : AReader).read1 1024 false n := by
  simp only [AReader.read1, List.length_nil, gt_iff_lt, Nat.lt_irrefl, if_false, if_true, h, Bool.false_eq_true]

theorem read1_lead_none (t : Bytes) (removed n : Nat) (h : readLeading 1024 false (t.length + 1) t 0 = none) :
    (⟨false, [], none, t, removed⟩ : AReader).read1 1024 false n = (⟨false, [], some .err, t, removed⟩, [], some .err) := by
  simp only [AReader.read1, List.length_nil, gt_iff_lt, Nat.lt_irrefl, if_false, h, Bool.false_eq_true]

theorem aErrRel_ne (e : AOut) (g : Option Go.Err) (h : aErrRel (some e) g) : (g != none) = true := by
  cases e <;> (rw [show g = _ from h]; rfl)

theorem read_post (E : B64DecEnv) (g : armor_armoredReader) (m : AReader) (h : ARel g m) (p : Bytes) :
    ∃ res, armor_armoredReader_Read E.Dec g p = .ok res ∧ Post p res (m.read1 1024 false p.length) := by
  obtain ⟨r, st, lo, hi, buf, err⟩ := g
  obtain ⟨mst, mu, me, mrest, mrem⟩ := m
  obtain ⟨hst, hbuf, hlo, hlh, hhi, hu, herr, hrest⟩ := h
  simp only at hst hbuf hlo hlh hhi hu herr hrest
  subst hst
  have hv : View buf lo hi mu := ⟨hbuf, hlo, hlh, hhi, hu⟩
  have hul := hv.length
  rw [read_unfold]
  by_cases hpos : mu.length > 0
  · have hgt : decide (hi - lo > 0) = true := by apply decide_eq_true; omega
    obtain ⟨lo', hi', hc, hv'⟩ := copyOut_go ⟨r, st, lo, hi, buf, err⟩ mu p hv
    simp only [hgt, if_true]
    refine ⟨_, hc, ?_⟩
    simp only [AReader.read1, hpos, if_true]
    exact ⟨rfl, rfl, rfl, .of_view rfl hv' herr hrest⟩
  · have hle : decide (hi - lo > 0) = false := by apply decide_eq_false; omega
    have hmu : mu = [] := List.eq_nil_of_length_eq_zero (by omega)
    subst hmu
    simp only [hle, Bool.false_eq_true, if_false]
    cases me with
    | some e =>
      have hne := aErrRel_ne e err herr
      simp only [hne, if_true]
      refine ⟨_, rfl, ?_⟩
      simp only [AReader.read1, List.length_nil, gt_iff_lt, Nat.lt_irrefl, if_false]
      exact ⟨rfl, rfl, herr, .of_view rfl hv herr hrest⟩
    | none =>
      have herr' : err = none := herr
      subst herr'
      have hr' : r = mrest := hrest rfl
      subst hr'
      simp only [Go.none_bne_none, Bool.false_eq_true, if_false]
      cases st with
      | true =>
        obtain ⟨res, hb, hp⟩ := body_tie E r lo hi buf p mrem hv
        refine ⟨res, ?_, hp⟩
        simp only [leadLoop_started p _ ⟨r, true, lo, hi, buf, none⟩ 0 rfl, Go.bind_ok, hb]
      | false =>
        obtain ⟨out, ho, hm⟩ := leadLoop_go p lo hi buf none (r.length + 1) r 0 (by omega)
        have ho' : armor_armoredReader_Read_loop1 p ((Go.len r).toNat + 1) ⟨r, false, lo, hi, buf, none⟩ 0 = .ok out := ho
        cases hrl : readLeading 1024 false (r.length + 1) r 0 with
        | none =>
          rw [hrl] at hm
          obtain ⟨r', hout⟩ := hm
          subst hout
          rw [read1_lead_none r mrem _ hrl]
          refine ⟨_, by simp only [ho', Go.bind_ok]; rfl, ?_⟩
          exact apost_err hv rfl
        | some rest =>
          rw [hrl] at hm
          obtain ⟨rw', hout⟩ := hm
          subst hout
          rw [read1_lead r rest mrem _ hrl]
          obtain ⟨res, hb, hp⟩ := body_tie E rest lo hi buf p mrem hv
          exact ⟨res, by simp only [ho', Go.bind_ok, hb], hp⟩

theorem armor_new_rel (t : Bytes) :
    ARel ⟨t, false, 0, 0, List.replicate 48 0, none⟩ (AReader.new t) :=
  ⟨rfl, List.length_replicate, Int.le_refl _, Int.le_refl _, (by decide : (0 : Int) ≤ 48), rfl, rfl, fun _ => rfl⟩

theorem armor_read_tie (E : B64DecEnv) (g : armor_armoredReader) (m : AReader) (h : ARel g m) (p : Bytes) :
    ∃ res, armor_armoredReader_Read E.Dec g p = .ok res ∧
      res.1 = Int.ofNat (m.read1 1024 false p.length).2.1.length ∧
      res.2.2.2 = (m.read1 1024 false p.length).2.1 ++ p.drop (m.read1 1024 false p.length).2.1.length ∧
      aErrRel (m.read1 1024 false p.length).2.2 res.2.1 ∧
      ARel res.2.2.1 (m.read1 1024 false p.length).1 :=
  read_post E g m h p

/-- the reader returns from every related state, whatever it is given: no index or slice fault,
    no exhausted fuel, no panic -/
theorem armor_read_returns (E : B64DecEnv) (g : armor_armoredReader) (m : AReader) (h : ARel g m) (p : Bytes) :
    ∃ res, armor_armoredReader_Read E.Dec g p = .ok res := by
  obtain ⟨res, hres, _⟩ := armor_read_tie E g m h p
  exact ⟨res, hres⟩

end GoTie
end AgeModel
