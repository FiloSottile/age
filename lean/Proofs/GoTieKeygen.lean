/-
  Proofs.GoTieKeygen — `convert` and `generate` of cmd/age-keygen/keygen.go, as they stand in the
  source.

  Translated on every run with everything outside them as ONE explicit state (`funcSpec.world`) and
  `errorf` as an exit site. `age-keygen -y` (`convert`) returns — and only then can the tool exit 0 —
  exactly when the input parsed to at least one identity, every identity is a native one, and EVERY
  recipient line was written without error, one per identity in input order; the first failure ends
  the process with status 1. `generate` returns only if the key pair was generated and the key
  file text (creation time, public key, secret key: ONE write) was written without error
  (`keygen_generate_returns`); `keygen_generate_tie` gives the whole function, in which the copy of
  the public key to standard error, made only when the output is not a terminal, may fail without
  consequence.
-/
import AgeModel.Extracted.Funcs
import Proofs.GoBind
import Proofs.GoTieLit
namespace AgeModel
namespace GoTie
open Extracted

section convert
variable {ζ ι ρ τ : Type} (PI : Bytes → τ → Go.M (List ι × Option Go.Err × τ)) (isX : ι → Bool)
  (Rc : ι → τ → Go.M (ρ × τ)) (F : ζ → Bytes → ρ → τ → Go.M (Int × Option Go.Err × τ))

/-- the format of a recipient line: "%s\n" -/
def fmtLine : Bytes := [37, 115, 10]

/-- the lines of `age-keygen -y` were written: for each identity, in order, its recipient was obtained and one
    `Fprintf(out, "%s\n", recipient)` succeeded -/
inductive KeygenWrites (out : ζ) : List ι → τ → τ → Prop
  | nil (t : τ) : KeygenWrites out [] t t
  | cons (id : ι) (rest : List ι) (t t1 t2 t' : τ) (rc : ρ) (n : Int) :
      Rc id t = .ok (rc, t1) → F out fmtLine rc t1 = .ok (n, none, t2) → KeygenWrites out rest t2 t' →
      KeygenWrites out (id :: rest) t t'

/-- one turn of the loop: the type test (exit site 2), the recipient, one checked `Fprintf` (exit site 3) -/
theorem keygen_convert_loop_cons (out : ζ) (x : ι) (rest : List ι) (t : τ) :
    keygen_convert_loop1 isX Rc F out (x :: rest) t =
      if isX x = true then do
        let v ← Rc x t
        let w ← F out fmtLine v.1 v.2
        if (w.2.1 != none) = true then .error (.panic 1003) else keygen_convert_loop1 isX Rc F out rest w.2.2
      else .error (.panic 1002) := by
  cases h : isX x <;> simp only [keygen_convert_loop1, h] <;> rfl

theorem keygen_convert_loop_iff (out : ζ) (ids : List ι) : ∀ (t : τ) (r : Go.Loop τ τ),
    keygen_convert_loop1 isX Rc F out ids t = .ok r ↔
      ∃ t', r = .next t' ∧ (∀ id ∈ ids, isX id = true) ∧ KeygenWrites Rc F out ids t t' := by
  induction ids with
  | nil =>
    intro t r
    constructor
    · intro h
      cases h
      exact ⟨t, rfl, nofun, .nil t⟩
    · rintro ⟨t', rfl, _, hw⟩
      cases hw
      rfl
  | cons x rest ih =>
    intro t r
    rw [keygen_convert_loop_cons]
    constructor
    · intro h
      by_cases hx : isX x = true
      · rw [if_pos hx] at h
        obtain ⟨v, hv, h⟩ := Go.step_bind_ok.1 h
        obtain ⟨⟨n, _, t2⟩, hw, rfl, h⟩ := Go.step_checked_ok.1 h
        obtain ⟨t', hr, hall, hws⟩ := (ih _ _).1 h
        exact ⟨t', hr, List.forall_mem_cons.2 ⟨hx, hall⟩, .cons x rest t v.2 t2 t' v.1 n hv hw hws⟩
      · rw [if_neg hx] at h
        cases h
    · rintro ⟨t', hr, hall, hws⟩
      cases hws with
      | cons _ _ _ t1 t2 _ rc n h1 h2 h3 =>
        rw [if_pos (hall x (List.mem_cons_self ..))]
        exact Go.step_bind_ok.2 ⟨_, h1, Go.step_checked_ok.2 ⟨_, h2, rfl,
          (ih _ _).2 ⟨t', hr, fun id hid => hall id (List.mem_cons_of_mem _ hid), h3⟩⟩⟩

/-- `convert`: the checked parse (exit site 0), the emptiness test (exit site 1), the loop -/
theorem keygen_convert_eq (inp : Bytes) (out : ζ) (t0 : τ) :
    keygen_convert PI isX Rc F inp out t0 = (do
      let p ← PI inp t0
      if (p.2.1 != none) = true then .error (.panic 1000)
      else if p.1 = [] then .error (.panic 1001)
      else do
        let r ← keygen_convert_loop1 isX Rc F out p.1 p.2.2
        match r with
        | .ret v => pure v
        | .next t => pure t) := by
  unfold keygen_convert
  refine bind_congr fun p => ?_
  obtain ⟨ids, e, t1⟩ := p
  cases ids <;> rfl

theorem keygen_convert_returns_iff (inp : Bytes) (out : ζ) (t0 t' : τ) :
    keygen_convert PI isX Rc F inp out t0 = .ok t' ↔
      ∃ ids t1, PI inp t0 = .ok (ids, none, t1) ∧ ids ≠ [] ∧ (∀ id ∈ ids, isX id = true) ∧
        KeygenWrites Rc F out ids t1 t' := by
  rw [keygen_convert_eq]
  constructor
  · intro h
    obtain ⟨⟨ids, _, t1⟩, hp, rfl, h⟩ := Go.step_checked_ok.1 h
    obtain ⟨hne, h⟩ := Go.step_exit_ok.1 h
    obtain ⟨r, hl, h⟩ := Go.step_bind_ok.1 h
    obtain ⟨t'', rfl, hall, hws⟩ := (keygen_convert_loop_iff isX Rc F out ids t1 r).1 hl
    cases h
    exact ⟨ids, t1, hp, hne, hall, hws⟩
  · rintro ⟨ids, t1, hp, hne, hall, hws⟩
    exact Go.step_checked_ok.2 ⟨_, hp, rfl, Go.step_exit_ok.2 ⟨hne, Go.step_bind_ok.2
      ⟨_, (keygen_convert_loop_iff isX Rc F out ids t1 _).2 ⟨t', rfl, hall, hws⟩, rfl⟩⟩⟩

theorem keygen_convert_loop_exits (out : ζ)
    (hRc : ∀ i t, ∃ r, Rc i t = .ok r) (hF : ∀ o f r t, ∃ x, F o f r t = .ok x) (ids : List ι) : ∀ t : τ,
    (∃ t', keygen_convert_loop1 isX Rc F out ids t = .ok (.next t')) ∨
      keygen_convert_loop1 isX Rc F out ids t = .error (.panic 1002) ∨
      keygen_convert_loop1 isX Rc F out ids t = .error (.panic 1003) := by
  induction ids with
  | nil => intro t; exact .inl ⟨t, rfl⟩
  | cons x rest ih =>
    intro t
    rw [keygen_convert_loop_cons]
    cases hx : isX x with
    | false => exact .inr (.inl rfl)
    | true =>
      obtain ⟨v, hv⟩ := hRc x t
      obtain ⟨w, hw⟩ := hF out fmtLine v.1 v.2
      rw [if_pos rfl, hv, Go.bind_ok, hw, Go.bind_ok]
      by_cases he : (w.2.1 != none) = true
      · rw [if_pos he]; exact .inr (.inr rfl)
      · rw [if_neg he]; exact ih _

/-- whatever happens, `convert` either returns or ends the process at one of its four exit sites (or an abstract callee
    faults): it never fails in another way -/
theorem keygen_convert_exits (inp : Bytes) (out : ζ) (t0 : τ)
    (hPI : ∀ b t, ∃ r, PI b t = .ok r) (hRc : ∀ i t, ∃ r, Rc i t = .ok r) (hF : ∀ o f r t, ∃ x, F o f r t = .ok x) :
    (∃ t', keygen_convert PI isX Rc F inp out t0 = .ok t') ∨
      ∃ k, k < 4 ∧ keygen_convert PI isX Rc F inp out t0 = .error (.panic (1000 + k)) := by
  rw [keygen_convert_eq]
  obtain ⟨p, hp⟩ := hPI inp t0
  rw [hp, Go.bind_ok]
  by_cases he : (p.2.1 != none) = true
  · rw [if_pos he]; exact .inr ⟨0, by decide, rfl⟩
  rw [if_neg he]
  by_cases hids : p.1 = []
  · rw [if_pos hids]; exact .inr ⟨1, by decide, rfl⟩
  rw [if_neg hids]
  rcases keygen_convert_loop_exits isX Rc F out hRc hF p.1 p.2.2 with ⟨t', h⟩ | h | h
  · rw [h]; exact .inl ⟨t', rfl⟩
  · rw [h]; exact .inr ⟨2, by decide, rfl⟩
  · rw [h]; exact .inr ⟨3, by decide, rfl⟩
end convert

section generate
variable {ζ θ ι ρ τ : Type} (G : τ → Go.M (ι × Option Go.Err × τ)) (Fd : ζ → τ → Go.M (Int × τ))
  (IsT : Int → τ → Go.M (Bool × τ)) (stderr : ζ) (Rc : ι → τ → Go.M (ρ × τ))
  (F1 : ζ → Bytes → ρ → τ → Go.M (Int × Option Go.Err × τ)) (Fmt : θ → Bytes → τ → Go.M (Bytes × τ))
  (Now : τ → Go.M (θ × τ)) (F2 : ζ → Bytes → Bytes → ρ → ι → τ → Go.M (Int × Option Go.Err × τ))

def fmtPublic : Bytes := "Public key: %s\n".toUTF8.toList
def fmtKeyFile : Bytes := "# created: %s\n# public key: %s\n%s\n".toUTF8.toList
def fmtRFC3339 : Bytes := "2006-01-02T15:04:05Z07:00".toUTF8.toList

def generateModel (out : ζ) (t0 : τ) : Go.M τ := do
  let g ← G t0
  if (g.2.1 != none) = true then .error (.panic 1000)
  else do
    let fd ← Fd out g.2.2
    let it ← IsT fd.1 fd.2
    let t3 ← (if it.1 = true then pure it.2 else do
      let rc ← Rc g.1 it.2
      let w ← F1 stderr fmtPublic rc.1 rc.2
      pure w.2.2)
    let nw ← Now t3
    let ts ← Fmt nw.1 fmtRFC3339 nw.2
    let rc ← Rc g.1 ts.2
    let w ← F2 out fmtKeyFile ts.1 rc.1 g.1 rc.2
    if (w.2.1 != none) = true then .error (.panic 1001) else pure w.2.2

theorem fmtPublic_eq : fmtPublic = [80, 117, 98, 108, 105, 99, 32, 107, 101, 121, 58, 32, 37, 115, 10] := by
  rw [fmtPublic, byteArray_toList]
  decide +kernel

theorem fmtRFC3339_eq : fmtRFC3339 = [50, 48, 48, 54, 45, 48, 49, 45, 48, 50, 84, 49, 53, 58, 48, 52, 58, 48, 53, 90, 48, 55, 58, 48, 48] := by
  rw [fmtRFC3339, byteArray_toList]
  decide +kernel

theorem fmtKeyFile_eq : fmtKeyFile = [35, 32, 99, 114, 101, 97, 116, 101, 100, 58, 32, 37, 115, 10, 35, 32, 112, 117, 98, 108, 105, 99, 32, 107, 101, 121, 58, 32, 37, 115, 10, 37, 115, 10] := by
  rw [fmtKeyFile, byteArray_toList]
  decide +kernel

theorem keygen_generate_tie (out : ζ) (t0 : τ) :
    keygen_generate G Fd IsT stderr Rc F1 Fmt Now F2 out t0 = generateModel G Fd IsT stderr Rc F1 Fmt Now F2 out t0 := by
  unfold keygen_generate generateModel
  rw [fmtPublic_eq, fmtRFC3339_eq, fmtKeyFile_eq]
  refine bind_congr fun g => ?_
  by_cases hc : (g.2.1 != none) = true
  · rw [if_pos hc, if_pos hc]; rfl
  · rw [if_neg hc, if_neg hc]
    refine bind_congr fun fd => bind_congr fun it => ?_
    obtain ⟨b, t2⟩ := it
    cases b
    · -- not a terminal: the source continues after the copy to standard error, the model binds its state
      simp only [Bool.false_eq_true, if_false, bind_assoc, pure_bind]; rfl
    · rfl

/-- `generate` returns only if the key pair was generated and the ONE write of the key file text reported success -/
theorem keygen_generate_returns (out : ζ) (t0 t' : τ)
    (h : keygen_generate G Fd IsT stderr Rc F1 Fmt Now F2 out t0 = .ok t') :
    ∃ k t1, G t0 = .ok (k, none, t1) ∧
      ∃ (ts : Bytes) (rc : ρ) (t2 : τ) (n : Int), F2 out fmtKeyFile ts rc k t2 = .ok (n, none, t') := by
  rw [keygen_generate_tie] at h
  unfold generateModel at h
  obtain ⟨⟨k, _, t1⟩, hg, rfl, h⟩ := Go.step_checked_ok.1 h
  obtain ⟨fd, _, h⟩ := Go.step_bind_ok.1 h
  obtain ⟨it, _, h⟩ := Go.step_bind_ok.1 h
  obtain ⟨t3, _, h⟩ := Go.step_bind_ok.1 h
  obtain ⟨nw, _, h⟩ := Go.step_bind_ok.1 h
  obtain ⟨ts, _, h⟩ := Go.step_bind_ok.1 h
  obtain ⟨rc, _, h⟩ := Go.step_bind_ok.1 h
  obtain ⟨⟨n, _, t2⟩, hw, rfl, h⟩ := Go.step_checked_ok.1 h
  cases h
  exact ⟨k, t1, hg, ts.1, rc.1, rc.2, n, hw⟩
end generate
end GoTie
end AgeModel
