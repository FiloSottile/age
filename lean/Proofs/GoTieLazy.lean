/-
  Proofs.GoTieLazy — `lazyOpener` of cmd/age/age.go, as it stands in the source.

  `(*lazyOpener).Write` and `.Close` are TRANSLATED on every run with everything outside them as one
  explicit state (`funcSpec.world`); `os.Create`, `(*os.File).Write` and `.Close` are parameters, a
  nil `*os.File` is an abstract predicate. The theorems give the three-state machine of the model
  (`Cli.Lazy`: unopened / opened / failed) on the source text: the output file is created by the
  FIRST `Write` and by nothing else — `Close` has no access to `os.Create` at all, a `Write` on an
  opened or failed opener returns without calling it (it is handed an `os.Create` that FAULTS when
  called) — a failed creation is remembered and reported by every later `Write`, and `Close` on an
  opener that never wrote closes nothing. And `lazy_write_refines`: read in the model's world, the
  translated `Write` IS `Cli.Proc.write (.lazy name)`.
-/
import AgeModel.Extracted.Funcs
import Proofs.CliWorld
import Proofs.GoBind
namespace AgeModel
namespace GoTie
open Extracted

section
variable {τ φ : Type} (isNil : φ → Bool) (Create : Bytes → τ → Go.M (φ × Option Go.Err × τ))
  (FW : φ → Bytes → τ → Go.M (Int × Option Go.Err × τ)) (FC : φ → τ → Go.M (Option Go.Err × τ))

/-- the first write: create, then (if that worked) write -/
theorem lazy_write_unopened (name : Bytes) (f : φ) (hf : isNil f = true) (p : Bytes) (t0 : τ) :
    main_lazyOpener_Write isNil Create FW ⟨name, f, none⟩ p t0 =
      (do let t ← Create name t0
          if (t.2.1 != none) = true then pure (0, t.2.1, ⟨name, t.1, t.2.1⟩, t.2.2)
          else do
            let r ← FW t.1 p t.2.2
            pure (r.1, r.2.1, ⟨name, t.1, t.2.1⟩, r.2.2)) := by
  simp only [main_lazyOpener_Write, hf, beq_self_eq_true, Bool.and_self, if_true]

/-- a write on an opened file: no creation (the creation function may fault when called) -/
theorem lazy_write_opened (name : Bytes) (f : φ) (hf : isNil f = false) (p : Bytes) (t0 : τ) :
    main_lazyOpener_Write isNil (fun _ _ => .error (.panic 99)) FW ⟨name, f, none⟩ p t0 =
      (do let r ← FW f p t0
          pure (r.1, r.2.1, ⟨name, f, none⟩, r.2.2)) := by
  simp only [main_lazyOpener_Write, hf, Bool.false_and, Bool.false_eq_true, if_false, bne_self_eq_false]

/-- a write after a failed creation: the remembered error, no second attempt, no write, the world untouched -/
theorem lazy_write_failed (name : Bytes) (f : φ) (e : Go.Err) (p : Bytes) (t0 : τ) :
    main_lazyOpener_Write isNil (fun _ _ => .error (.panic 99)) (fun _ _ _ => .error (.panic 98)) ⟨name, f, some e⟩ p t0 =
      .ok (0, some e, ⟨name, f, some e⟩, t0) := by
  simp [main_lazyOpener_Write, pure, Except.pure]

/-- Close: nothing to close unless a file was opened -/
theorem lazy_close (name : Bytes) (f : φ) (err : Option Go.Err) (t0 : τ) :
    main_lazyOpener_Close isNil FC ⟨name, f, err⟩ t0 = if isNil f = true then .ok (none, t0) else FC f t0 := by
  simp only [main_lazyOpener_Close, bind, Except.bind, pure, Except.pure]
  cases isNil f with
  | true => rfl
  | false =>
    simp only [Bool.not_false, if_true, Bool.false_eq_true, if_false]
    cases FC f t0 <;> rfl
end

open Cli

/-- `os.Create` in the model: `Cli.create` (a file handle is the path it was opened at; nil = none) -/
def mCreate (eC : Go.Err) (name : Bytes) (w : World) : Go.M (Option Path × Option Go.Err × World) :=
  match create w name with
  | none => .ok (none, some eC, w)
  | some (w', t) => .ok (some t, none, w')

/-- `(*os.File).Write` in the model: `Proc.writeFile` -/
def mFileWrite (eW : Go.Err) (f : Option Path) (d : Bytes) (w : World) : Go.M (Int × Option Go.Err × World) :=
  match f with
  | none => .error .index        -- a nil file is never written to (`lazy_write_refines`)
  | some t =>
    let r := ({ w := w } : Proc).writeFile t d
    .ok (0, if r.2 then none else some eW, r.1.w)

/-- the model's opener state that a Go opener stands for -/
def lzOf (l : main_lazyOpener (Option Path)) : Lazy :=
  if l.err.isSome then .failed else match l.f with
    | some t => .opened t
    | none => .unopened

theorem writeFile_world (p : Proc) (t : Path) (d : Bytes) :
    (p.writeFile t d).1.w = (({ w := p.w } : Proc).writeFile t d).1.w ∧
      (p.writeFile t d).2 = (({ w := p.w } : Proc).writeFile t d).2 := by
  unfold Proc.writeFile
  cases p.w.get t <;> exact ⟨rfl, rfl⟩

/-- the translated `Write`, run in the model's world, is the model's `Proc.write (.lazy name)`: same world, same opener
    state, same success — whenever the opener is in a state it can reach (a remembered error goes with no file) -/
theorem lazy_write_refines (eC eW : Go.Err) (l : main_lazyOpener (Option Path)) (d : Bytes) (p : Proc)
    (hp : p.lz = lzOf l) :
    ∃ n e l' w', main_lazyOpener_Write Option.isNone (mCreate eC) (mFileWrite eW) l d p.w = .ok (n, e, l', w') ∧
      ((Proc.write (.lazy l.name) p d).1.w = w' ∧ (Proc.write (.lazy l.name) p d).1.lz = lzOf l' ∧
        (Proc.write (.lazy l.name) p d).2 = e.isNone) := by
  -- the written file's state and success, read off the model's `writeFile` on the bare world
  have hfile : ∀ (q : Proc) (t : Path), ∃ e, (if (({ w := q.w } : Proc).writeFile t d).2 = true then none else some eW) = e ∧
      (q.writeFile t d).1.w = (({ w := q.w } : Proc).writeFile t d).1.w ∧ (q.writeFile t d).1.lz = q.lz ∧
      (q.writeFile t d).2 = e.isNone := by
    intro q t
    refine ⟨_, rfl, (writeFile_world q t d).1, writeFile_lz q t d, ?_⟩
    rw [(writeFile_world q t d).2]
    cases (({ w := q.w } : Proc).writeFile t d).2 <;> rfl
  obtain ⟨name, f, err⟩ := l
  rcases err with _ | e0
  · rcases f with _ | t
    · have hl : p.lz = .unopened := hp
      rcases hc : create p.w name with _ | ⟨w1, t⟩
      · refine ⟨0, some eC, ⟨name, none, some eC⟩, p.w, ?_, ?_⟩
        · simp only [main_lazyOpener_Write, mCreate, hc, Option.isNone, beq_self_eq_true, Bool.and_self, if_true, Go.bind_ok]
          rfl
        · simp only [Proc.write, hl, hc]
          exact ⟨trivial, rfl, rfl⟩
      · obtain ⟨e, he, h1, h2, h3⟩ := hfile { p with w := w1, lz := .opened t } t
        refine ⟨0, e, ⟨name, some t, none⟩, (({ w := w1 } : Proc).writeFile t d).1.w, ?_, ?_⟩
        · simp only [main_lazyOpener_Write, mCreate, mFileWrite, hc, Option.isNone, beq_self_eq_true, Bool.and_self, if_true, Go.bind_ok]
          rw [← he]
          rfl
        · simp only [Proc.write, hl, hc]
          exact ⟨h1, h2, h3⟩
    · have hl : p.lz = .opened t := hp
      obtain ⟨e, he, h1, h2, h3⟩ := hfile p t
      refine ⟨0, e, ⟨name, some t, none⟩, (({ w := p.w } : Proc).writeFile t d).1.w, ?_, ?_⟩
      · rw [← he]
        rfl
      · simp only [Proc.write, hl]
        exact ⟨h1, h2.trans hl, h3⟩
  · have hl : p.lz = .failed := hp
    refine ⟨0, some e0, ⟨name, f, some e0⟩, p.w, ?_, ?_⟩
    · cases f <;> rfl
    · simp only [Proc.write, hl]
      exact ⟨trivial, rfl, rfl⟩

end GoTie
end AgeModel
