/-
  Proofs.ArmorWrite — the armored writer machine emits exactly `armor (concatenation)`.
-/
import Proofs.ArmorRead
import Proofs.StreamWriter
namespace AgeModel
namespace Armor
open Format (nl cr sp wrap wrap_short wrap_app64)
open B64 Stream

theorem wrapCols_snd : ∀ (c : Bytes) (w : Nat), (wrapCols w c).2 = w + c.length
  | [], w => by simp [wrapCols]
  | x :: xs, w => by
    simp only [wrapCols]
    have := wrapCols_snd xs (w + 1)
    split <;> simp only [this, List.length_cons] <;> omega

theorem wrapCols_append : ∀ (a b : Bytes) (w : Nat),
    (wrapCols w (a ++ b)).1 = (wrapCols w a).1 ++ (wrapCols (w + a.length) b).1
  | [], b, w => by simp [wrapCols]
  | x :: xs, b, w => by
    simp only [List.cons_append, wrapCols]
    have := wrapCols_append xs b (w + 1)
    have e : w + 1 + xs.length = w + (x :: xs).length := by simp only [List.length_cons]; omega
    rw [e] at this
    split <;> simp [this]

theorem wrapCols_short : ∀ (c : Bytes) (w : Nat), w % 64 + c.length < 64 → (wrapCols w c).1 = c
  | [], w, _ => by simp [wrapCols]
  | x :: xs, w, h => by
    simp only [wrapCols]
    simp only [List.length_cons] at h
    have hne : ¬ (w + 1) % 64 = 0 := by omega
    simp only [hne, if_false]
    rw [wrapCols_short xs (w + 1) (by omega)]

theorem wrapCols_fill (c : Bytes) (w : Nat) (h0 : c ≠ []) (h : w % 64 + c.length = 64) :
    (wrapCols w c).1 = c ++ [nl] := by
  obtain ⟨init, x, rfl⟩ : ∃ init x, c = init ++ [x] := ⟨_, _, (List.dropLast_concat_getLast h0).symm⟩
  rw [List.length_append, List.length_singleton] at h
  have hz : (w + init.length + 1) % 64 = 0 := by omega
  rw [wrapCols_append, wrapCols_short init w (by omega)]
  simp only [wrapCols, hz, if_true, List.append_assoc, List.cons_append, List.nil_append]

theorem wrapCols_wrap (c : Bytes) : ∀ (w : Nat), w % 64 = 0 → (wrapCols w c).1 = wrap c := by
  induction h : c.length using Nat.strongRecOn generalizing c with
  | _ n ih =>
    intro w hw
    by_cases hlt : c.length < 64
    · rw [wrap_short hlt, wrapCols_short c w (by omega)]
    · have ht : (c.take 64).length = 64 := List.length_take_of_le (by omega)
      rw [← List.take_append_drop 64 c, wrapCols_append, wrap_app64 ht,
        wrapCols_fill _ w (List.ne_nil_of_length_pos (by omega)) (by omega),
        ih _ (by rw [← h, List.length_drop]; omega) _ rfl _ (by omega), List.append_assoc]
      rfl

variable {S : DstSpec}

/-- `D` = everything successfully written so far; `done` = the whole 3-byte groups of it that have been encoded
    and passed on, the rest being held by the streaming encoder -/
def AInv (acc0 : Bytes) (a : AWriter S) (D : Bytes) : Prop :=
  a.closed = false ∧ a.encErr = false ∧
  ∃ done, D = done ++ a.pending ∧ done.length % 3 = 0 ∧ a.pending.length < 3 ∧ a.written = (encStd done).length ∧
    (a.started = true → a.dst.acc = acc0 ++ header ++ [nl] ++ wrap (encStd done)) ∧
    (a.started = false → D = [] ∧ a.dst.acc = acc0)

theorem AInv_new (d : Dst S) : AInv d.acc (AWriter.new d) [] :=
  ⟨rfl, rfl, [], rfl, rfl, Nat.zero_lt_succ 2, rfl, fun h => Bool.noConfusion h, fun _ => ⟨rfl, rfl⟩⟩

theorem ensureHeader_ok (a a1 : AWriter S) (h : a.ensureHeader = (a1, true)) :
    ∃ d', a1 = { a with started := true, dst := d' } ∧ (a.started = true → d' = a.dst) ∧
      (a.started = false → d'.acc = a.dst.acc ++ header ++ [nl]) := by
  unfold AWriter.ensureHeader at h
  by_cases hst : a.started = true
  · simp only [hst, if_true, Prod.mk.injEq, and_true] at h
    subst h
    exact ⟨a.dst, by rw [← hst], fun _ => rfl, fun hf => absurd (hst.symm.trans hf) (by decide)⟩
  · have hst' : a.started = false := (Bool.not_eq_true _).mp hst
    simp only [hst', Bool.false_eq_true, if_false] at h
    generalize hw : a.dst.write (header ++ [nl]) = r at h
    obtain ⟨d', ok⟩ := r
    cases ok with
    | false => simp at h
    | true =>
      simp only [Prod.mk.injEq, and_true] at h
      exact ⟨d', h.symm, fun hf => absurd hf hst, fun _ => by rw [Dst.write_ok hw, List.append_assoc]⟩

theorem ensureHeader_encErr {a a1 : AWriter S} (h : a.ensureHeader = (a1, true)) : a1.encErr = a.encErr := by
  obtain ⟨_, rfl, -⟩ := ensureHeader_ok a a1 h
  rfl

theorem ensureHeader_acc {acc0 D done : Bytes} {a a1 : AWriter S} (hD : D = done ++ a.pending)
    (hs : a.started = true → a.dst.acc = acc0 ++ header ++ [nl] ++ wrap (encStd done))
    (hns : a.started = false → D = [] ∧ a.dst.acc = acc0) (h : a.ensureHeader = (a1, true)) :
    a1.dst.acc = acc0 ++ header ++ [nl] ++ wrap (encStd done) := by
  obtain ⟨d', rfl, h1a, h1b⟩ := ensureHeader_ok a a1 h
  by_cases hst : a.started = true
  · rw [h1a hst, hs hst]
  · have hst' : a.started = false := (Bool.not_eq_true _).mp hst
    obtain ⟨hD0, hacc⟩ := hns hst'
    have hdone : done = [] := (List.append_eq_nil_iff.mp (hD0 ▸ hD).symm).1
    show d'.acc = _
    rw [h1b hst', hacc, hdone]
    simp [encStd, wrap_short]

theorem emit_ok (a a2 : AWriter S) (cs : Bytes) (segs : List Nat) (h : a.emit cs segs = (a2, true)) :
    ∃ d', a2 = { a with dst := d', written := a.written + cs.length } ∧
      d'.acc = a.dst.acc ++ (wrapCols a.written cs).1 := by
  unfold AWriter.emit at h
  generalize hw : writeAll a.dst _ = r at h
  obtain ⟨d', ok⟩ := r
  cases ok with
  | false => simp at h
  | true =>
    simp only [Prod.mk.injEq, and_true] at h
    exact ⟨d', by rw [← h, wrapCols_snd], by rw [writeAll_ok _ _ _ hw, segmentBy_flatten]⟩

/-- the body text so far is `wrap` of the characters emitted so far -/
theorem wrap_extend (e1 e2 : Bytes) : wrap e1 ++ (wrapCols e1.length e2).1 = wrap (e1 ++ e2) := by
  have hw0 : (0 : Nat) % 64 = 0 := rfl
  rw [← wrapCols_wrap e1 0 hw0, ← wrapCols_wrap (e1 ++ e2) 0 hw0, wrapCols_append, Nat.zero_add]

theorem awrite_ok (acc0 : Bytes) (a a' : AWriter S) (D p : Bytes) (segs : List Nat)
    (hinv : AInv acc0 a D) (h : a.write p segs = (a', none)) : AInv acc0 a' (D ++ p) := by
  obtain ⟨hc, he, done, hD, hmod, -, hw, hs, hns⟩ := hinv
  unfold AWriter.write at h
  split at h
  · simp at h
  · rename_i a1 hh
    have hacc1 := ensureHeader_acc hD hs hns hh
    obtain ⟨d1, rfl, -, -⟩ := ensureHeader_ok a a1 hh
    simp only [he, Bool.false_eq_true, if_false] at h
    split at h
    · rename_i a2 hem
      obtain ⟨d2, rfl, hacc2⟩ := emit_ok _ a2 _ segs hem
      simp only [Prod.mk.injEq, and_true] at h
      subst h
      -- the groups completed by this call join `done`
      refine ⟨hc, rfl, done ++ (a.pending ++ p).take ((a.pending ++ p).length / 3 * 3), ?_, ?_, ?_, ?_, ?_, ?_⟩
      · simp only
        rw [hD, List.append_assoc, List.append_assoc, List.take_append_drop]
      · rw [List.length_append, List.length_take]
        omega
      · simp only
        rw [List.length_drop]
        omega
      · simp only
        rw [hw, encStd_append _ _ hmod]
        exact List.length_append.symm
      · intro _
        simp only at hacc1 hacc2 ⊢
        rw [hacc2, hacc1, hw, encStd_append _ _ hmod, List.append_assoc, wrap_extend]
      · exact fun hf => nomatch hf
    · simp at h

theorem aclose_ok (acc0 : Bytes) (a a' : AWriter S) (D : Bytes)
    (hinv : AInv acc0 a D) (h : a.close = (a', none)) : a'.dst.acc = acc0 ++ armor D := by
  obtain ⟨hc, he, done, hD, hmod, -, hw, hs, hns⟩ := hinv
  unfold AWriter.close at h
  simp only [hc, Bool.false_eq_true, if_false] at h
  split at h
  · simp at h
  · rename_i a1 hh
    have hacc1 := ensureHeader_acc (a := { a with closed := true }) hD hs hns hh
    obtain ⟨d1, rfl, -, -⟩ := ensureHeader_ok _ a1 hh
    simp only [he, Bool.false_eq_true, if_false] at h hacc1
    have henc : encStd D = encStd done ++ encStd a.pending := by rw [hD, encStd_append _ _ hmod]
    split at h
    · simp at h
    · rename_i a2 hflush
      split at h
      · rename_i a3 hfoot
        simp only [Prod.mk.injEq, and_true] at h
        subst h
        unfold AWriter.writeFooter at hfoot
        generalize hwf : Dst.write _ _ = r at hfoot
        obtain ⟨d3, ok3⟩ := r
        simp only [Prod.mk.injEq] at hfoot
        obtain ⟨rfl, rfl⟩ := hfoot
        simp only at hwf ⊢
        rw [Dst.write_ok hwf]
        have hfl : a2.dst.acc = acc0 ++ header ++ [nl] ++ wrap (encStd D) ∧ a2.written = (encStd D).length := by
          by_cases hpe : a.pending.isEmpty = true
          · simp only [hpe, if_true, Prod.mk.injEq, and_true] at hflush
            subst hflush
            rw [List.isEmpty_iff.mp hpe, encStd, List.append_nil] at henc
            exact ⟨by rw [hacc1, henc], by rw [hw, henc]⟩
          · have hpe' : a.pending.isEmpty = false := (Bool.not_eq_true _).mp hpe
            simp only [hpe', Bool.false_eq_true, if_false] at hflush
            obtain ⟨d2, rfl, hacc2⟩ := emit_ok _ a2 _ [] hflush
            simp only at hacc2 ⊢
            exact ⟨by rw [hacc2, hacc1, hw, List.append_assoc, wrap_extend, ← henc],
              by rw [hw, henc, List.length_append]⟩
        rw [hfl.1, hfl.2, armor]
        simp only [List.append_assoc]
      · simp at h

end Armor
end AgeModel
