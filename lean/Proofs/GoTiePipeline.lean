/-
  Proofs.GoTiePipeline — C01's whole pipeline about the translated code, in one statement.

  `age.Encrypt` (translated) on an empty destination that takes every write; the writer it returns is
  the translated stream writer over that destination; any input in any split into writes goes
  through the translated `Write`, then `Close`; the translated `age.Decrypt` over what the
  destination then holds — with any identity list whose first identity not answering "incorrect
  identity" opens the file key — returns a reader under the SAME stream key over the payload; and the
  translated stream reader over that payload under that key, called with any sequence of positive
  buffer sizes long enough to reach the end, returns exactly the input followed by io.EOF.
  Composition of `code_file_roundtrip`, `streamWrites_tie` / `streamClose_tie` and
  `code_stream_read_back`; what joins the two halves is stated as hypotheses: the writer handle
  `Encrypt` returns IS the stream writer's initial state over the destination (`hmk`: what
  `stream.NewWriter` builds, `Tie/C12.newWriter_tie`), and the two destination views coincide (`hD`).
-/
import Proofs.GoTieFileRT
import Proofs.GoTieStreamRT
import Proofs.GoTieStreamNew
namespace AgeModel
namespace GoTie
open Extracted Format Stream

theorem code_pipeline (P : Prims) (hP : P.Correct) (hN : P.aead.NonceSep) {ρ δ α ι : Type}
    (EE : EncryptEnv P DstSpec.perfect ρ δ (stream_Writer α δ)) (DE : DecryptEnv P ι)
    (d : δ) (hd : (EE.absD d).acc = []) (rs : List ρ) (tape : Bytes)
    (hrs : ∀ r ∈ rs.map EE.recOf, r.ProducesWF P)
    (fk : Bytes) (stanzas : List Stanza) (t nonce t' : Bytes)
    (hh : encryptHeader P tape (rs.map EE.recOf) = .ok (fk, stanzas, t))
    (hn : draw streamNonceSize t = some (nonce, t'))
    (pre post : List ι) (id : ι)
    (hpre : ∀ i ∈ pre, (DE.idOf i).unwrap P stanzas = .incorrect) (hid : (DE.idOf id).unwrap P stanzas = .key fk)
    (a : α)
    (hmk : ∀ d', EE.mkW (streamKey P fk nonce) d' = ⟨a, d', 0, 0, List.replicate 65552 0, List.replicate 12 0, none⟩)
    (SE : AeadEnv α P.aead (streamKey P fk nonce)) (D : DstEnv δ DstSpec.perfect) (hD : D.absD = EE.absD)
    (ps : List Bytes) (hlen : ps.flatten.length < 2 ^ 64) (sizes : List Nat) (hpos : ∀ s ∈ sizes, 0 < s)
    (hlong : ps.flatten.length + (encrypt P.aead 65536 (streamKey P fk nonce) ps.flatten).length + 1 < sizes.length) :
    ∃ res w1 w2 r',
      age_Encrypt EE.nilW (tapeRead EE.eRand) EE.W EE.mac EE.marshalF EE.write EE.newWriter EE.key d rs tape = .ok res ∧
      res.2.1 = none ∧
      streamWrites SE D res.1 ps = .ok (none, w1) ∧
      stream_Writer_Close SE.seal_ D.write w1 = .ok (none, w2) ∧
      (EE.absD w2.dst).acc = headerBytes P fk stanzas ++ nonce ++ encrypt P.aead 65536 (streamKey P fk nonce) ps.flatten ∧
      age_Decrypt DE.D DE.U errorsIsEq DE.mac DE.newReader DE.key (EE.absD w2.dst).acc (pre ++ id :: post) =
        .ok (streamKey P fk nonce ++ encrypt P.aead 65536 (streamKey P fk nonce) ps.flatten, none) ∧
      streamReads SE ⟨a, ⟨encrypt P.aead 65536 (streamKey P fk nonce) ps.flatten, false⟩, 0, 0, List.replicate 65552 0, none,
          List.replicate 12 0⟩ sizes = .ok (r', ps.flatten, Go.io_EOF) := by
  obtain ⟨res, hrun, hnone, hw, _, hacc, hdecr⟩ := code_file_roundtrip P hP EE DE d hd rs tape hrs fk stanzas t nonce t' hh hn
    pre post id hpre hid
  rw [hmk] at hw
  have hrel : WRel D res.1 (Writer.new (D.absD res.2.2.1)) := by rw [hw]; exact newWriter_rel D a res.2.2.1
  have hinv := WInv_new P.aead 65536 (streamKey P fk nonce) (D.absD res.2.2.1)
  obtain ⟨w1, m1, hws, hr1, hi1⟩ := streamWrites_tie DstSpec.perfect_neverFails P.aead (streamKey P fk nonce) SE D
    (D.absD res.2.2.1).acc ps res.1 _ [] hrel hinv (by simpa using hlen)
  rw [List.nil_append] at hi1
  obtain ⟨w2, hcl, hacc2⟩ := streamClose_tie DstSpec.perfect_neverFails P.aead (streamKey P fk nonce) SE D
    (D.absD res.2.2.1).acc w1 m1 ps.flatten hr1 hi1 hlen
  rw [hD] at hacc2
  rw [hacc] at hacc2
  obtain ⟨r', hrd⟩ := code_stream_read_back P.aead hP.aead hN (streamKey P fk nonce) SE a ps.flatten hlen sizes hpos hlong
  refine ⟨res, w1, w2, r', hrun, hnone, hws, hcl, hacc2, ?_, hrd⟩
  rw [hacc2, ← hacc]
  exact hdecr _

end GoTie
end AgeModel
