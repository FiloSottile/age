/-
  Proofs.GoTieWitnessArmor — instances of the assumption structures of the armor ties: the strict standard
  base64 line decoder, and the premises of the armor round trip for it.
-/
import Proofs.GoTieArmorR
import Proofs.GoTieArmorW
import Proofs.GoTieArmorRT
import Proofs.B64Std
namespace AgeModel
namespace GoTie
open Extracted

/-- a strictly decoded line is no longer than Go's `DecodedLen` of it -/
theorem decStd_len (line b : Bytes) (h : B64.decStd line = some b) : b.length ≤ line.length / 4 * 3 := by
  have := B64.encStd_decStd line b h
  subst this
  rw [B64.encStd_length]; omega

/-- strict standard base64 as the model has it -/
def B64DecEnv.witness : B64DecEnv where
  Dec line := .ok ((B64.decStd line).getD [],
    match B64.decStd line with | some _ => none | none => some ⟨"base64.CorruptInputError", 0, []⟩)
  eDec := ⟨"base64.CorruptInputError", 0, []⟩
  hDec line := by
    refine ⟨(B64.decStd line).getD [], rfl, ?_, ?_⟩
    · cases h : B64.decStd line with
      | none => simp
      | some b => simpa using decStd_len line b h
    · intro b h; rw [h]; rfl
  hne := by simp [Go.io_EOF]

/-- the premises of `code_armor_roundtrip` hold of the canonical writer environment, this decoder, the fresh
    encoder state and the empty destination, for every input and every long enough list of read sizes — e.g.
    reads of one byte each -/
theorem code_armor_roundtrip_premises (ps : List Bytes) :
    (ArmorWEnv.canonical.absI ([], false) = [] ∧ ArmorWEnv.canonical.absO ([], false) = [] ∧
      ArmorWEnv.canonical.isOpen ([], false)) ∧ ArmorWEnv.canonical.absD [] = [] ∧
    ∃ sizes : List Nat, (∀ s ∈ sizes, 0 < s) ∧
      ps.flatten.length + (Armor.armor ps.flatten).length + 2 < sizes.length := by
  refine ⟨ArmorWEnv.canonical_fresh, rfl,
    List.replicate (ps.flatten.length + (Armor.armor ps.flatten).length + 3) 1, ?_, ?_⟩
  · intro s hs
    rw [List.eq_of_mem_replicate hs]; decide
  · rw [List.length_replicate]; omega

end GoTie
end AgeModel
