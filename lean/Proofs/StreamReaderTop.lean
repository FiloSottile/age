/-
  Proofs.StreamReaderTop — per-call and whole-run statements about the Reader.
-/
import Proofs.StreamReader
namespace AgeModel
namespace Stream

/-- termination measure for "reading to the end" -/
def Reader.nu (A : AEAD) (C : Nat) (k : Bytes) (r : Reader) : Nat :=
  (r.denote A C k).1.length + (if r.err = none then r.src.data.length + 1 else 0)

theorem read_spec (A : AEAD) (C L : Nat) (hE : 0 < C + A.T) (k : Bytes) (r : Reader) (n : Nat)
    (hn : 0 < n) (hb : r.Bounded L) :
    match r.read A C L k n with
    | (r', out, none) =>
        r.denote A C k = (out ++ (r'.denote A C k).1, (r'.denote A C k).2) ∧ r'.Bounded L ∧
        r'.nu A C k < r.nu A C k
    | (r', out, some e) => out = [] ∧ r.denote A C k = ([], e) ∧ r'.err = some e ∧ r'.unread = [] := by
  unfold Reader.read
  by_cases hu : r.unread.length > 0
  · -- served from the buffer: the bytes handed out are the front of what the state owes
    simp only [hu, if_true]
    have hdl : (r.unread.drop n).length < r.unread.length := by rw [List.length_drop]; omega
    refine ⟨?_, hb, ?_⟩
    · unfold Reader.denote
      simp only
      cases r.err with
      | some e => simp
      | none => simp only; rw [← List.append_assoc, List.take_append_drop]
    · unfold Reader.nu Reader.denote
      simp only
      cases r.err with
      | some e => simp only; simpa using hdl
      | none => simp only [List.length_append]; simp only [if_true]; omega
  · have hu0 : r.unread = [] := List.eq_nil_of_length_eq_zero (by omega)
    simp only [hu, if_false]
    cases he : r.err with
    | some e =>
      -- empty buffer and a recorded error: the error is all that is owed
      simp only
      exact ⟨trivial, by unfold Reader.denote; simp [he, hu0], he, hu0⟩
    | none =>
      -- empty buffer, no error: one chunk is read; `readChunk_spec` says how it sits in what `dec` owes
      simp only
      have hn0 : ¬ n = 0 := by omega
      simp only [hn0, if_false]
      have hspec := readChunk_spec A C L hE k r hu0 hb
      generalize hrc : r.readChunk A C L k = res at hspec
      obtain ⟨r1, x⟩ := res
      cases x with
      | error e =>
        simp only at hspec ⊢
        obtain ⟨h1, h2, h3⟩ := hspec
        refine ⟨trivial, ?_, trivial, h3⟩
        unfold Reader.denote; simp [he, hu0, h1]
      | ok last =>
        simp only at hspec ⊢
        obtain ⟨hf, hee, hbd, hlt, hnl, hl⟩ := hspec
        cases last with
        | false =>
          simp only [Bool.false_eq_true, if_false]
          have hd := hnl rfl
          have he1 : r1.err = none := by rw [hee, he]
          refine ⟨?_, hbd, ?_⟩
          · unfold Reader.denote
            simp only [he, he1, hu0, List.nil_append, hd]
            rw [← List.append_assoc, List.take_append_drop]
          · unfold Reader.nu Reader.denote
            simp only [he, he1, hu0, List.nil_append, hd, if_true, List.length_append, List.length_drop]
            omega
        | true =>
          simp only [if_true]
          have hd := hl rfl
          obtain ⟨p1, p2, p3, p4, -⟩ := probe_spec { r1 with unread := r1.unread.drop n }
          refine ⟨?_, ?_, ?_⟩
          · unfold Reader.denote
            simp only [he, hu0, p1, p2, hd, hf, List.nil_append, List.take_append_drop]
          · show (Reader.probe _).ctr + (Reader.probe _).src.data.length < L
            have : r1.ctr + r1.src.data.length < L := hbd
            rw [p3]
            exact Nat.lt_of_le_of_lt (Nat.add_le_add_left p4 _) this
          · unfold Reader.nu Reader.denote
            simp only [he, hu0, p1, p2, hd, List.nil_append, if_true, List.length_drop, reduceCtorEq, if_false]
            omega

theorem read_sticky (A : AEAD) (C L : Nat) (k : Bytes) (r : Reader) (e : Outcome)
    (he : r.err = some e) (hu : r.unread = []) (n : Nat) :
    r.read A C L k n = (r, [], some e) := by
  unfold Reader.read; simp [he, hu]

theorem drain_spec (A : AEAD) (C L : Nat) (hE : 0 < C + A.T) (k : Bytes) :
    ∀ (sizes : List Nat) (r : Reader), (∀ s ∈ sizes, 0 < s) → r.Bounded L →
    match r.drain A C L k sizes with
    | (r', out, none) =>
        r.denote A C k = (out ++ (r'.denote A C k).1, (r'.denote A C k).2) ∧
        r'.nu A C k + sizes.length ≤ r.nu A C k
    | (r', out, some e) => r.denote A C k = (out, e) ∧ r'.err = some e ∧ r'.unread = [] := by
  intro sizes
  induction sizes with
  | nil => intro r _ _; simp [Reader.drain]
  | cons n ns ih =>
    intro r hpos hb
    unfold Reader.drain
    have hrs := read_spec A C L hE k r n (hpos n (by simp)) hb
    generalize hrd : r.read A C L k n = res at hrs
    obtain ⟨r1, out, e⟩ := res
    cases e with
    | some e =>
      simp only at hrs ⊢
      obtain ⟨h1, h2, h3, h4⟩ := hrs
      subst h1
      exact ⟨h2, h3, h4⟩
    | none =>
      simp only at hrs ⊢
      obtain ⟨h1, h2, h3⟩ := hrs
      have ih' := ih r1 (fun s hs => hpos s (by simp [hs])) h2
      generalize hdr : r1.drain A C L k ns = res2 at ih'
      obtain ⟨r2, out2, e2⟩ := res2
      cases e2 with
      | some e2 =>
        simp only at ih' ⊢
        obtain ⟨g1, g2, g3⟩ := ih'
        refine ⟨?_, g2, g3⟩
        rw [h1, g1]
      | none =>
        simp only at ih' ⊢
        obtain ⟨g1, g2⟩ := ih'
        refine ⟨?_, ?_⟩
        · rw [h1, g1]; simp
        · simp only [List.length_cons]; omega

end Stream
end AgeModel
